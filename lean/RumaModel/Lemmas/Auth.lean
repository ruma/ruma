/-
  Helper lemmas about the authorization model: inversion of `Except` binds, distinctness of the
  string constants, and "what an accepted event went through" for each path of `authCheckR`.
-/
import RumaModel.Model.Auth
import RumaModel.Lemmas.Json
namespace Ruma.Auth
open Ruma Ruma.Ident

@[simp] theorem bind_eq_ok {α β} {x : Res α} {f : α → Res β} {b : β} :
    (x >>= f) = .ok b ↔ ∃ a, x = .ok a ∧ f a = .ok b := by
  cases x <;> simp [bind, Except.bind]

@[simp] theorem require_eq_ok {c : Bool} {u : Unit} : require c = .ok u ↔ c = true := by
  cases c <;> simp [require]

@[simp] theorem map_eq_ok {α β} {x : Res α} {g : α → β} {b : β} :
    (g <$> x) = .ok b ↔ ∃ a, x = .ok a ∧ g a = b := by
  cases x <;> simp [Functor.map, Except.map]

@[simp] theorem exceptMap_eq_ok {α β} {x : Res α} {g : α → β} {b : β} :
    (Except.map g x) = .ok b ↔ ∃ a, x = .ok a ∧ g a = b := by
  cases x <;> simp [Except.map]

theorem Res.ok_bind {α β} (a : α) (f : α → Res β) : (Except.ok a >>= f) = f a := rfl

theorem Res.error_bind {α β} (e : Unit) (f : α → Res β) : (Except.error e >>= f) = .error e := rfl

theorem authCheck_true {rules ev f} : authCheck rules ev f = true ↔ authCheckR rules ev f = .ok () := by
  unfold authCheck
  cases authCheckR rules ev f <;> simp

theorem mJoin_ne_mInvite : mJoin ≠ mInvite := mt bs_inj.mp (by simp)
theorem mJoin_ne_mLeave : mJoin ≠ mLeave := mt bs_inj.mp (by simp)
theorem mJoin_ne_mBan : mJoin ≠ mBan := mt bs_inj.mp (by simp)
theorem mJoin_ne_mKnock : mJoin ≠ mKnock := mt bs_inj.mp (by simp)
theorem mInvite_ne_mLeave : mInvite ≠ mLeave := mt bs_inj.mp (by simp)
theorem mInvite_ne_mBan : mInvite ≠ mBan := mt bs_inj.mp (by simp)
theorem mInvite_ne_mKnock : mInvite ≠ mKnock := mt bs_inj.mp (by simp)
theorem mLeave_ne_mBan : mLeave ≠ mBan := mt bs_inj.mp (by simp)
theorem mLeave_ne_mKnock : mLeave ≠ mKnock := mt bs_inj.mp (by simp)
theorem mBan_ne_mKnock : mBan ≠ mKnock := mt bs_inj.mp (by simp)
theorem mInvite_ne_mJoin : mInvite ≠ mJoin := mJoin_ne_mInvite.symm
theorem mLeave_ne_mJoin : mLeave ≠ mJoin := mJoin_ne_mLeave.symm
theorem mLeave_ne_mInvite : mLeave ≠ mInvite := mInvite_ne_mLeave.symm
theorem mBan_ne_mJoin : mBan ≠ mJoin := mJoin_ne_mBan.symm
theorem mBan_ne_mInvite : mBan ≠ mInvite := mInvite_ne_mBan.symm
theorem mBan_ne_mLeave : mBan ≠ mLeave := mLeave_ne_mBan.symm
theorem mKnock_ne_mJoin : mKnock ≠ mJoin := mJoin_ne_mKnock.symm
theorem mKnock_ne_mInvite : mKnock ≠ mInvite := mInvite_ne_mKnock.symm
theorem mKnock_ne_mLeave : mKnock ≠ mLeave := mLeave_ne_mKnock.symm
theorem mKnock_ne_mBan : mKnock ≠ mBan := mBan_ne_mKnock.symm

theorem tMember_ne_tCreate : tMember ≠ tCreate := mt bs_inj.mp (by simp)
theorem tMember_ne_tAliases : tMember ≠ tAliases := mt bs_inj.mp (by simp)
theorem tPowerLevels_ne_tCreate : tPowerLevels ≠ tCreate := mt bs_inj.mp (by simp)
theorem tPowerLevels_ne_tMember : tPowerLevels ≠ tMember := mt bs_inj.mp (by simp)
theorem tPowerLevels_ne_tAliases : tPowerLevels ≠ tAliases := mt bs_inj.mp (by simp)
theorem tPowerLevels_ne_tThirdPartyInvite : tPowerLevels ≠ tThirdPartyInvite := mt bs_inj.mp (by simp)

theorem fetchCreate_eq_ok {f : Fetch} {c : Event} : fetchCreate f = .ok c ↔ f tCreate [] = some c := by
  unfold fetchCreate
  cases f tCreate [] <;> simp

theorem authCheckR_member {rules ev f} (hty : ev.type = tMember) (h : authCheckR rules ev f = .ok ()) :
    ∃ create, f tCreate [] = some create ∧ checkRoomMember rules ev create f = .ok () := by
  simp only [authCheckR, hty, beq_false_of_ne tMember_ne_tCreate, beq_false_of_ne tMember_ne_tAliases,
    Bool.and_false, Bool.false_eq_true, if_false, beq_self_eq_true, if_true, bind_eq_ok, fetchCreate_eq_ok] at h
  obtain ⟨create, hc, -, -, -, -, -, -, h⟩ := h
  exact ⟨create, hc, h⟩

theorem checkRoomMember_eq {rules ev create f target m} (hsk : ev.stateKey = some target)
    (hm : contentMembership ev.content = .ok m) :
    checkRoomMember rules ev create f =
      (require (validUserId target) >>= fun _ =>
        if m == mJoin then checkMemberJoin rules ev target create f
        else if m == mInvite then checkMemberInvite rules ev target create f
        else if m == mLeave then checkMemberLeave rules ev target create f
        else if m == mBan then checkMemberBan rules ev target create f
        else if m == mKnock && rules.knocking then checkMemberKnock rules ev target f
        else .error ()) := by
  simp [checkRoomMember, hsk, hm, bind, Except.bind]

theorem member_inv {rules ev f target m} (hty : ev.type = tMember) (hsk : ev.stateKey = some target)
    (hm : contentMembership ev.content = .ok m) (h : authCheckR rules ev f = .ok ()) :
    ∃ create, f tCreate [] = some create ∧ validUserId target = true ∧
      (if m == mJoin then checkMemberJoin rules ev target create f
        else if m == mInvite then checkMemberInvite rules ev target create f
        else if m == mLeave then checkMemberLeave rules ev target create f
        else if m == mBan then checkMemberBan rules ev target create f
        else if m == mKnock && rules.knocking then checkMemberKnock rules ev target f
        else .error ()) = .ok () := by
  obtain ⟨create, hc, h⟩ := authCheckR_member hty h
  rw [checkRoomMember_eq hsk hm, bind_eq_ok] at h
  obtain ⟨_, hv, h⟩ := h
  exact ⟨create, hc, require_eq_ok.mp hv, h⟩

theorem member_invite_inv {rules ev f target} (hty : ev.type = tMember) (hsk : ev.stateKey = some target)
    (hm : contentMembership ev.content = .ok mInvite) (h : authCheckR rules ev f = .ok ()) :
    ∃ create, f tCreate [] = some create ∧ validUserId target = true ∧
      checkMemberInvite rules ev target create f = .ok () := by
  simpa [mInvite_ne_mJoin] using member_inv hty hsk hm h

theorem authCheckR_general {rules ev f} (h1 : ev.type ≠ tCreate) (h2 : ev.type ≠ tMember)
    (h3 : ¬ (rules.specialCaseRoomAliases = true ∧ ev.type = tAliases))
    (h : authCheckR rules ev f = .ok ()) :
    ∃ create creator sl, f tCreate [] = some create ∧
      userMembership f ev.sender = .ok mJoin ∧
      createCreator rules create = .ok creator ∧
      plUserLevel rules (fetchPowerLevels f) ev.sender creator = .ok sl ∧
      (if ev.type == tThirdPartyInvite then
          plIntOrDefault rules (fetchPowerLevels f) .invite >>= fun il => require (decide (sl ≥ il))
        else
          plEventLevel rules (fetchPowerLevels f) ev.type ev.stateKey.isSome >>= fun req =>
          require (decide (sl ≥ req)) >>= fun _ =>
          require (!foreignUserStateKey ev) >>= fun _ =>
          if ev.type == tPowerLevels then checkRoomPowerLevels rules ev (fetchPowerLevels f) sl
          else if rules.specialCaseRoomRedaction && ev.type == tRedaction then
            checkRoomRedaction rules ev (fetchPowerLevels f) sl
          else .ok ()) = .ok () := by
  have e3 : (rules.specialCaseRoomAliases && ev.type == tAliases) = false :=
    Bool.eq_false_iff.mpr (by simpa using h3)
  simp only [authCheckR, beq_false_of_ne h1, beq_false_of_ne h2, e3, Bool.false_eq_true, if_false, bind_eq_ok,
    require_eq_ok, fetchCreate_eq_ok] at h
  obtain ⟨create, hc, -, -, -, -, -, -, sm, hsm, -, hj, creator, hcr, sl, hsl, h⟩ := h
  exact ⟨create, creator, sl, hc, eq_of_beq hj ▸ hsm, hcr, hsl, h⟩

/-- An accepted `m.room.power_levels` event over a current one passed `check_room_power_levels` at
the sender's level, which with a power-levels event in the state does not depend on the creator. -/
theorem authCheckR_powerLevels {rules ev f cur} (hty : ev.type = tPowerLevels)
    (hcur : fetchPowerLevels f = some cur) (h : authCheckR rules ev f = .ok ()) :
    ∃ sl, (∀ creator, plUserLevel rules (some cur) ev.sender creator = .ok sl) ∧
      checkRoomPowerLevels rules ev (some cur) sl = .ok () := by
  obtain ⟨_, _, sl, -, -, -, hsl, h⟩ := authCheckR_general (hty ▸ tPowerLevels_ne_tCreate)
    (hty ▸ tPowerLevels_ne_tMember) (fun hh => tPowerLevels_ne_tAliases (hty ▸ hh.2)) h
  simp only [hty, beq_false_of_ne tPowerLevels_ne_tThirdPartyInvite, beq_self_eq_true, Bool.false_eq_true,
    if_false, if_true, bind_eq_ok, hcur] at h hsl
  obtain ⟨_, -, -, -, -, -, h⟩ := h
  exact ⟨sl, fun _ => hsl, h⟩

theorem lastGet_mem {m : PLMap} {k : Str} {n : Int} (h : lastGet m k = some n) : (k, n) ∈ m := by
  induction m with
  | nil => cases h
  | cons p t ih =>
    simp only [lastGet] at h
    split at h
    · cases h
      exact List.mem_cons_of_mem _ (ih ‹_›)
    · split at h
      · cases h
        exact ‹p.1 = k› ▸ List.mem_cons_self
      · cases h

theorem bindLastGet_mem_plKeys {m : Option PLMap} {k : Str} {n : Int}
    (h : m.bind (lastGet · k) = some n) : k ∈ plKeys m := by
  cases m with
  | none => cases h
  | some l => exact List.mem_map_of_mem (f := (·.1)) (lastGet_mem h)

theorem checkPowerLevelMaps_inv {cur new : Option PLMap} {sl : Int} {rej : Str → Int → Bool}
    (h : checkPowerLevelMaps cur new sl rej = true) :
    (∀ k n, new.bind (lastGet · k) = some n → cur.bind (lastGet · k) = some n ∨ n ≤ sl) ∧
    (∀ k c, cur.bind (lastGet · k) = some c → new.bind (lastGet · k) = some c ∨ rej k c = false) := by
  simp only [checkPowerLevelMaps, List.all_eq_true, List.mem_append, Bool.or_eq_true, beq_iff_eq,
    Bool.not_eq_true', Bool.or_eq_false_iff] at h
  constructor
  · intro k n hn
    have hk := h k (Or.inr (bindLastGet_mem_plKeys hn))
    rw [hn] at hk
    exact hk.imp id fun hk => Int.not_lt.mp (of_decide_eq_false hk.2)
  · intro k c hc
    have hk := h k (Or.inl (bindLastGet_mem_plKeys hc))
    rw [hc] at hk
    exact hk.imp Eq.symm And.left

theorem intFieldsMap_mem {rules : AuthRules} {c : Obj} :
    ∀ {l : List PLField} {m : List (PLField × Int)}, intFieldsMap rules c l = .ok m →
      ∀ p ∈ m, p.1 ∈ l := by
  intro l
  induction l with
  | nil => intro m h p hp; cases h; cases hp
  | cons fld t ih =>
    intro m h p hp
    simp only [intFieldsMap, bind_eq_ok, Except.ok.injEq] at h
    obtain ⟨v, -, rest, hrest, rfl⟩ := h
    cases v with
    | none => exact List.mem_cons_of_mem _ (ih hrest p hp)
    | some i =>
      rcases List.mem_cons.mp hp with rfl | hp'
      · exact List.mem_cons_self
      · exact List.mem_cons_of_mem _ (ih hrest p hp')

theorem intFieldsMap_get {rules : AuthRules} {c : Obj} :
    ∀ {l : List PLField} {m : List (PLField × Int)}, intFieldsMap rules c l = .ok m → l.Nodup →
      ∀ fld ∈ l, ∃ v, getAsInt rules c fld = .ok v ∧ fieldsGet m fld = v := by
  intro l
  induction l with
  | nil => intro m _ _ fld hf; cases hf
  | cons a t ih =>
    intro m h hnd fld hf
    simp only [intFieldsMap, bind_eq_ok, Except.ok.injEq] at h
    obtain ⟨v, hv, rest, hrest, rfl⟩ := h
    obtain ⟨ha, hnd⟩ := List.nodup_cons.mp hnd
    rcases List.mem_cons.mp hf with rfl | hft
    · refine ⟨v, hv, ?_⟩
      cases v with
      | some i => simp [fieldsGet]
      | none =>
        -- `fld ∉ t`, so `rest` has no entry for it
        simp only [fieldsGet, Option.map_eq_none_iff, List.find?_eq_none, decide_eq_true_eq]
        exact fun p hp e => ha (e ▸ intFieldsMap_mem hrest p hp)
    · obtain ⟨w, hw, hg⟩ := ih hrest hnd fld hft
      refine ⟨w, hw, ?_⟩
      have : a ≠ fld := fun e => ha (e ▸ hft)
      cases v <;> simpa [fieldsGet, List.find?, this] using hg

theorem checkIntFields_inv {rules : AuthRules} {cc : Obj} {newInts : List (PLField × Int)} {sl : Int} :
    ∀ {l : List PLField}, checkIntFields rules cc newInts sl l = .ok () →
      ∀ fld ∈ l, ∃ c, getAsInt rules cc fld = .ok c ∧
        (c = fieldsGet newInts fld ∨
          (c.getD fld.default ≤ sl ∧ (fieldsGet newInts fld).getD fld.default ≤ sl)) := by
  intro l
  induction l with
  | nil => intro _ fld hf; cases hf
  | cons a t ih =>
    intro h fld hf
    simp only [checkIntFields, bind_eq_ok] at h
    obtain ⟨c, hc, h⟩ := h
    have key : checkIntFields rules cc newInts sl t = .ok () ∧ (c = fieldsGet newInts a ∨
        (c.getD a.default ≤ sl ∧ (fieldsGet newInts a).getD a.default ≤ sl)) := by
      split at h
      · exact ⟨h, Or.inl (eq_of_beq ‹_›)⟩
      · split at h
        · cases h
        · rename_i hbig
          simp only [Bool.or_eq_true, decide_eq_true_eq, not_or, Int.not_lt] at hbig
          exact ⟨h, Or.inr hbig⟩
    rcases List.mem_cons.mp hf with rfl | hft
    · exact ⟨c, hc, key.2⟩
    · exact ih key.1 fld hft

theorem PLField.mem_all (fld : PLField) : fld ∈ PLField.all := by
  cases fld <;> decide

theorem PLField.all_nodup : PLField.all.Nodup := by decide

theorem checkRoomPowerLevels_inv {rules : AuthRules} {ev cur : Event} {sl : Int}
    (h : checkRoomPowerLevels rules ev (some cur) sl = .ok ()) :
    ∃ newInts newEvents newNotifications newUsers curEvents curUsers,
      intFieldsMap rules ev.content PLField.all = .ok newInts ∧
      plEvents rules ev.content = .ok newEvents ∧
      plNotifications rules ev.content = .ok newNotifications ∧
      plUsers rules ev.content = .ok newUsers ∧
      checkIntFields rules cur.content newInts sl PLField.all = .ok () ∧
      plEvents rules cur.content = .ok curEvents ∧
      checkPowerLevelMaps curEvents newEvents sl (fun _ l => decide (l > sl)) = true ∧
      (rules.limitNotificationsPowerLevels = true →
        ∃ curNotifications, plNotifications rules cur.content = .ok curNotifications ∧
          checkPowerLevelMaps curNotifications newNotifications sl (fun _ l => decide (l > sl)) = true) ∧
      plUsers rules cur.content = .ok curUsers ∧
      checkPowerLevelMaps curUsers newUsers sl (fun u l => u ≠ ev.sender && decide (l ≥ sl)) = true := by
  simp only [checkRoomPowerLevels, bind_eq_ok, require_eq_ok] at h
  obtain ⟨newInts, h1, newEvents, h2, newNotifications, h3, newUsers, h4, _, h5, curEvents, h6, -, h7, h⟩ := h
  refine ⟨newInts, newEvents, newNotifications, newUsers, curEvents, ?_⟩
  split at h <;> simp only [bind_eq_ok, require_eq_ok] at h
  · obtain ⟨curN, h8, -, h9, curUsers, h10, h11⟩ := h
    exact ⟨curUsers, h1, h2, h3, h4, h5, h6, h7, fun _ => ⟨curN, h8, h9⟩, h10, h11⟩
  · obtain ⟨curUsers, h10, h11⟩ := h
    exact ⟨curUsers, h1, h2, h3, h4, h5, h6, h7, fun hc => absurd hc ‹_›, h10, h11⟩

end Ruma.Auth
