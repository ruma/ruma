/-
  Non-interference of `authCheck`: restricting the state to the pairs selected by
  `authTypesForEvent` does not change the decision; and the reads of the model (`authReads`) lie
  inside that selection.
-/
import RumaModel.Lemmas.Auth
import RumaModel.Model.AuthReads
set_option linter.unusedSimpArgs false
namespace Ruma.Auth
open Ruma Ruma.Ident

/-- The state with every entry outside `S` removed. -/
def restrict (f : Fetch) (S : List (Str × Str)) : Fetch :=
  fun t k => if (t, k) ∈ S then f t k else none

variable {rules : AuthRules} {ev create : Event} {target : Str} {f : Fetch} {S : List (Str × Str)}

theorem restrict_of_mem {t k : Str} (h : (t, k) ∈ S) : restrict f S t k = f t k :=
  if_pos h

theorem mem_pushNew {l : List (Str × Str)} {x k : Str × Str} : k ∈ pushNew l x ↔ k ∈ l ∨ k = x := by
  unfold pushNew
  split <;> simp_all

theorem fetchCreate_restrict (h : (tCreate, []) ∈ S) : fetchCreate (restrict f S) = fetchCreate f := by
  rw [fetchCreate, restrict_of_mem h, fetchCreate]

theorem userMembership_restrict {u : Str} (h : (tMember, u) ∈ S) :
    userMembership (restrict f S) u = userMembership f u := by
  rw [userMembership, restrict_of_mem h, userMembership]

theorem fetchPowerLevels_restrict (h : (tPowerLevels, []) ∈ S) :
    fetchPowerLevels (restrict f S) = fetchPowerLevels f :=
  restrict_of_mem h

theorem joinRule_restrict (h : (tJoinRules, []) ∈ S) : joinRule (restrict f S) = joinRule f := by
  rw [joinRule, restrict_of_mem h, joinRule]

theorem fetchThirdPartyInvite_restrict {tok : Str} (h : (tThirdPartyInvite, tok) ∈ S) :
    fetchThirdPartyInvite (restrict f S) tok = fetchThirdPartyInvite f tok :=
  restrict_of_mem h

theorem checkMemberKnock_restrict (h1 : (tJoinRules, []) ∈ S) (h2 : (tMember, ev.sender) ∈ S) :
    checkMemberKnock rules ev target (restrict f S) = checkMemberKnock rules ev target f := by
  simp only [checkMemberKnock, joinRule_restrict h1, userMembership_restrict h2]

theorem checkMemberBan_restrict (h1 : (tMember, ev.sender) ∈ S) (h2 : (tPowerLevels, []) ∈ S) :
    checkMemberBan rules ev target create (restrict f S) = checkMemberBan rules ev target create f := by
  simp only [checkMemberBan, userMembership_restrict h1, fetchPowerLevels_restrict h2]

theorem checkMemberLeave_restrict (h1 : (tMember, ev.sender) ∈ S) (h2 : (tPowerLevels, []) ∈ S)
    (h3 : (tMember, target) ∈ S) :
    checkMemberLeave rules ev target create (restrict f S) = checkMemberLeave rules ev target create f := by
  simp only [checkMemberLeave, userMembership_restrict h1, fetchPowerLevels_restrict h2,
    userMembership_restrict h3]

theorem checkThirdPartyInvite_restrict {signed : Obj} (h1 : (tMember, target) ∈ S)
    (h2 : ∀ tok, tpiToken signed = .ok tok → (tThirdPartyInvite, tok) ∈ S) :
    checkThirdPartyInvite ev signed target (restrict f S) = checkThirdPartyInvite ev signed target f := by
  unfold checkThirdPartyInvite
  cases htok : tpiToken signed with
  | error e => simp only [userMembership_restrict h1, Res.error_bind]
  | ok tok => simp only [userMembership_restrict h1, Res.ok_bind, fetchThirdPartyInvite_restrict (h2 tok htok)]

theorem checkMemberInvite_restrict (h1 : (tMember, ev.sender) ∈ S) (h2 : (tPowerLevels, []) ∈ S)
    (h3 : (tMember, target) ∈ S)
    (h4 : ∀ signed tok, contentThirdPartyInvite ev.content = .ok (some signed) → tpiToken signed = .ok tok →
      (tThirdPartyInvite, tok) ∈ S) :
    checkMemberInvite rules ev target create (restrict f S) = checkMemberInvite rules ev target create f := by
  unfold checkMemberInvite
  rcases htpi : contentThirdPartyInvite ev.content with e | _ | signed
  · rfl
  · simp only [Res.ok_bind, userMembership_restrict h1, fetchPowerLevels_restrict h2, userMembership_restrict h3]
  · exact checkThirdPartyInvite_restrict h3 (h4 signed · htpi)

theorem knockRestricted_eq_false (hc : rules.Consistent) (hr : rules.restrictedJoinRule = false) :
    rules.knockRestrictedJoinRule = false :=
  Bool.eq_false_iff.mpr fun h => by simp [hc h] at hr

/-- Besides the joining user, the join rule and the power levels, a join reads the membership of the
authorising user: under a restricted join rule only, which (`hc`) needs `restrictedJoinRule`. -/
theorem checkMemberJoin_restrict (hc : rules.Consistent)
    (h1 : (tMember, target) ∈ S) (h2 : (tJoinRules, []) ∈ S) (h3 : (tPowerLevels, []) ∈ S)
    (h4 : rules.restrictedJoinRule = true → ∀ u, contentJoinAuthorised ev.content = .ok (some u) → (tMember, u) ∈ S) :
    checkMemberJoin rules ev target create (restrict f S) = checkMemberJoin rules ev target create f := by
  unfold checkMemberJoin
  rw [userMembership_restrict h1, joinRule_restrict h2, fetchPowerLevels_restrict h3]
  cases hr : rules.restrictedJoinRule
  · rw [knockRestricted_eq_false hc hr]
    rfl
  · rcases hvia : contentJoinAuthorised ev.content with e | _ | u
    · rfl
    · rfl
    · simp only [Res.ok_bind, userMembership_restrict (h4 hr u hvia)]

theorem tpiAuthType_inv {b : Bool} {c : Obj} {l l' : List (Str × Str)}
    (h : (if b then tpiAuthType c l else .ok l) = .ok l') :
    (∀ k ∈ l, k ∈ l') ∧
    (b = true → ∀ signed tok, contentThirdPartyInvite c = .ok (some signed) → tpiToken signed = .ok tok →
      (tThirdPartyInvite, tok) ∈ l') := by
  split at h
  · simp only [tpiAuthType, bind_eq_ok] at h
    obtain ⟨_ | signed, htpi, h⟩ := h
    · cases h
      exact ⟨fun _ hk => hk, fun _ _ _ hs => nomatch htpi.symm.trans hs⟩
    · obtain ⟨token, htok, h⟩ := bind_eq_ok.mp h
      cases h
      refine ⟨fun k hk => mem_pushNew.mpr (.inl hk), fun _ signed' tok hs ht => ?_⟩
      cases htpi.symm.trans hs
      cases htok.symm.trans ht
      exact mem_pushNew.mpr (.inr rfl)
  · cases h
    exact ⟨fun _ hk => hk, fun hb => absurd hb ‹_›⟩

theorem authorisedAuthType_inv {b : Bool} {c : Obj} {l l' : List (Str × Str)}
    (h : (if b then authorisedAuthType c l else .ok l) = .ok l') :
    (∀ k ∈ l, k ∈ l') ∧ (b = true → ∀ u, contentJoinAuthorised c = .ok (some u) → (tMember, u) ∈ l') := by
  split at h
  · simp only [authorisedAuthType, bind_eq_ok] at h
    obtain ⟨_ | u, hvia, h⟩ := h <;> cases h
    · exact ⟨fun _ hk => hk, fun _ _ hu => nomatch hvia.symm.trans hu⟩
    · refine ⟨fun k hk => mem_pushNew.mpr (.inl hk), fun _ u' hu => ?_⟩
      cases hvia.symm.trans hu
      exact mem_pushNew.mpr (.inr rfl)
  · cases h
    exact ⟨fun _ hk => hk, fun hb => absurd hb ‹_›⟩

theorem authTypes_member_inv (hty : ev.type = tMember) (hS : authTypesForEvent rules ev = .ok S) :
    ∃ sk m, ev.stateKey = some sk ∧ contentMembership ev.content = .ok m ∧
      (tPowerLevels, []) ∈ S ∧ (tMember, ev.sender) ∈ S ∧ (tCreate, []) ∈ S ∧ (tMember, sk) ∈ S ∧
      ((m = mJoin ∨ m = mInvite ∨ m = mKnock) → (tJoinRules, []) ∈ S) ∧
      (m = mInvite → ∀ signed tok, contentThirdPartyInvite ev.content = .ok (some signed) →
        tpiToken signed = .ok tok → (tThirdPartyInvite, tok) ∈ S) ∧
      (m = mJoin → rules.restrictedJoinRule = true → ∀ u, contentJoinAuthorised ev.content = .ok (some u) →
        (tMember, u) ∈ S) := by
  simp only [authTypesForEvent, hty, beq_false_of_ne tMember_ne_tCreate, Bool.false_eq_true, if_false,
    beq_self_eq_true, if_true] at hS
  split at hS
  · cases hS
  rename_i sk hsk
  simp only [bind_eq_ok] at hS
  obtain ⟨m, hm, l3, h3, h4⟩ := hS
  obtain ⟨s2, tp⟩ := tpiAuthType_inv h3
  obtain ⟨s3, au⟩ := authorisedAuthType_inv h4
  -- the first four keys are there before the conditional steps, which only add
  have s1 : ∀ k ∈ pushNew [(tPowerLevels, []), (tMember, ev.sender), (tCreate, [])] (tMember, sk), k ∈ S := by
    refine fun k hk => s3 k (s2 k ?_)
    split
    · exact mem_pushNew.mpr (.inl hk)
    · exact hk
  refine ⟨sk, m, hsk, hm, s1 _ ?_, s1 _ ?_, s1 _ ?_, s1 _ ?_, fun hmm => s3 _ (s2 _ ?_),
    fun hi signed tok hs ht => s3 _ (tp (beq_iff_eq.mpr hi) signed tok hs ht),
    fun hj hr => au (by simp [hj, hr])⟩
  · simp [mem_pushNew]
  · simp [mem_pushNew]
  · simp [mem_pushNew]
  · simp [mem_pushNew]
  · rw [if_pos (by rcases hmm with h | h | h <;> simp [h])]
    exact mem_pushNew.mpr (.inr rfl)

theorem authTypes_other_inv (h1 : ev.type ≠ tCreate) (h2 : ev.type ≠ tMember)
    (hS : authTypesForEvent rules ev = .ok S) :
    (tPowerLevels, []) ∈ S ∧ (tMember, ev.sender) ∈ S ∧ (tCreate, []) ∈ S := by
  simp only [authTypesForEvent, beq_false_of_ne h1, beq_false_of_ne h2, Bool.false_eq_true, if_false,
    Except.ok.injEq] at hS
  simp [← hS]

theorem checkRoomMember_restrict (hc : rules.Consistent) (hty : ev.type = tMember)
    (hS : authTypesForEvent rules ev = .ok S) :
    checkRoomMember rules ev create (restrict f S) = checkRoomMember rules ev create f := by
  obtain ⟨sk, m, hsk, hmem, b1, b2, -, b4, hjr, htp, hau⟩ := authTypes_member_inv hty hS
  rw [checkRoomMember_eq hsk hmem, checkRoomMember_eq hsk hmem]
  refine bind_congr fun _ => ?_
  refine ite_congr rfl (fun c => ?_) fun _ => ite_congr rfl (fun c => ?_) fun _ => ite_congr rfl (fun _ => ?_)
    fun _ => ite_congr rfl (fun _ => ?_) fun _ => ite_congr rfl (fun c => ?_) fun _ => rfl
  · exact checkMemberJoin_restrict hc b4 (hjr (.inl (eq_of_beq c))) b1 (hau (eq_of_beq c))
  · exact checkMemberInvite_restrict b2 b1 b4 (htp (eq_of_beq c))
  · exact checkMemberLeave_restrict b2 b1 b4
  · exact checkMemberBan_restrict b2 b1
  · exact checkMemberKnock_restrict (hjr (.inr (.inr (eq_of_beq (Bool.and_eq_true_iff.mp c).1)))) b2

theorem authCheckR_restrict (rules : AuthRules) (hc : rules.Consistent) (ev : Event) (f : Fetch)
    (S : List (Str × Str)) (hS : authTypesForEvent rules ev = .ok S) :
    authCheckR rules ev (restrict f S) = authCheckR rules ev f := by
  unfold authCheckR
  by_cases hcr : ev.type = tCreate
  · rw [if_pos (beq_iff_eq.mpr hcr), if_pos (beq_iff_eq.mpr hcr)]
  rw [if_neg (hcr ∘ eq_of_beq), if_neg (hcr ∘ eq_of_beq)]
  by_cases hm : ev.type = tMember
  · have b3 : (tCreate, []) ∈ S := by
      obtain ⟨_, _, -, -, -, -, b3, -⟩ := authTypes_member_inv hm hS
      exact b3
    simp only [beq_iff_eq.mpr hm, if_true, fetchCreate_restrict b3, checkRoomMember_restrict hc hm hS]
  · obtain ⟨b1, b2, b3⟩ := authTypes_other_inv hcr hm hS
    simp only [beq_false_of_ne hm, Bool.false_eq_true, if_false, fetchCreate_restrict b3,
      userMembership_restrict b2, fetchPowerLevels_restrict b1]

/-- **Authorization reads nothing but the selected auth events.** -/
theorem authCheck_restrict (rules : AuthRules) (hc : rules.Consistent) (ev : Event) (f : Fetch)
    (S : List (Str × Str)) (hS : authTypesForEvent rules ev = .ok S) :
    authCheck rules ev f = authCheck rules ev (restrict f S) := by
  unfold authCheck
  rw [authCheckR_restrict rules hc ev f S hS]

theorem restrict_congr {f g : Fetch} {S : List (Str × Str)} (h : ∀ k ∈ S, f k.1 k.2 = g k.1 k.2) :
    restrict f S = restrict g S := by
  funext t k
  exact ite_congr rfl (h (t, k)) fun _ => rfl

theorem thenReads_subset {α} {r : Res α} {k : α → List Key} :
    thenReads r k ⊆ S ↔ ∀ a, r = .ok a → k a ⊆ S := by
  cases r <;> simp [thenReads]

theorem ite_subset {c : Prop} [Decidable c] {a b : List Key} :
    (if c then a else b) ⊆ S ↔ (c → a ⊆ S) ∧ (¬ c → b ⊆ S) := by
  split <;> simp [*]

theorem readsKnock_subset (h1 : (tJoinRules, []) ∈ S) (h2 : (tMember, ev.sender) ∈ S) :
    readsKnock rules ev target f ⊆ S := by
  simp [readsKnock, thenReads_subset, ite_subset, h1, h2]

theorem readsBan_subset (h1 : (tMember, ev.sender) ∈ S) (h2 : (tPowerLevels, []) ∈ S) :
    readsBan rules ev create f ⊆ S := by
  simp [readsBan, thenReads_subset, ite_subset, h1, h2]

theorem readsLeave_subset (h1 : (tMember, ev.sender) ∈ S) (h2 : (tPowerLevels, []) ∈ S)
    (h3 : (tMember, target) ∈ S) :
    readsLeave rules ev target create f ⊆ S := by
  simp [readsLeave, thenReads_subset, ite_subset, h1, h2, h3]

theorem readsInvite_subset (h1 : (tMember, ev.sender) ∈ S) (h2 : (tPowerLevels, []) ∈ S)
    (h3 : (tMember, target) ∈ S)
    (h4 : ∀ signed tok, contentThirdPartyInvite ev.content = .ok (some signed) → tpiToken signed = .ok tok →
      (tThirdPartyInvite, tok) ∈ S) :
    readsInvite rules ev target create f ⊆ S := by
  simp only [readsInvite, thenReads_subset]
  rintro (_ | signed) htpi
  · simp [thenReads_subset, ite_subset, h1, h2, h3]
  · simp only [readsThirdPartyInvite, thenReads_subset, ite_subset, List.cons_subset, List.nil_subset, h3,
      implies_true, and_true, true_and]
    exact fun _ _ _ tok htok _ _ _ => h4 signed tok htpi htok

theorem readsJoin_subset (hc : rules.Consistent)
    (h1 : (tMember, target) ∈ S) (h2 : (tJoinRules, []) ∈ S) (h3 : (tPowerLevels, []) ∈ S)
    (h4 : rules.restrictedJoinRule = true → ∀ u, contentJoinAuthorised ev.content = .ok (some u) → (tMember, u) ∈ S) :
    readsJoin rules ev target create f ⊆ S := by
  simp only [readsJoin, thenReads_subset, ite_subset, List.cons_subset, List.nil_subset, h1, h2, h3,
    implies_true, and_true, true_and]
  rintro creator - - - cur - - jr - - hr - (_ | u) hvia
  · exact List.nil_subset _
  · -- the join rule is a restricted one, which (`hc`) needs `restrictedJoinRule`
    have hres : rules.restrictedJoinRule = true := by
      cases h : rules.restrictedJoinRule
      · simp [h, knockRestricted_eq_false hc h] at hr
      · rfl
    simp [thenReads_subset, ite_subset, h3, h4 hres u hvia]

theorem readsMember_subset (hc : rules.Consistent) (hty : ev.type = tMember)
    (hS : authTypesForEvent rules ev = .ok S) : readsMember rules ev create f ⊆ S := by
  obtain ⟨sk, m, hsk, hmem, b1, b2, -, b4, hjr, htp, hau⟩ := authTypes_member_inv hty hS
  simp only [readsMember, hsk, hmem, thenReads]
  refine ite_subset.mpr ⟨fun _ => List.nil_subset _, fun _ => ?_⟩
  refine ite_subset.mpr ⟨fun c => ?_, fun _ => ?_⟩
  · exact readsJoin_subset hc b4 (hjr (.inl (eq_of_beq c))) b1 (hau (eq_of_beq c))
  refine ite_subset.mpr ⟨fun c => ?_, fun _ => ?_⟩
  · exact readsInvite_subset b2 b1 b4 (htp (eq_of_beq c))
  refine ite_subset.mpr ⟨fun _ => readsLeave_subset b2 b1 b4, fun _ => ?_⟩
  refine ite_subset.mpr ⟨fun _ => readsBan_subset b2 b1, fun _ => ?_⟩
  refine ite_subset.mpr ⟨fun c => ?_, fun _ => List.nil_subset _⟩
  exact readsKnock_subset (hjr (.inr (.inr (eq_of_beq (Bool.and_eq_true_iff.mp c).1)))) b2

theorem authReads_subset (rules : AuthRules) (hc : rules.Consistent) (ev : Event) (f : Fetch)
    (S : List (Str × Str)) (hS : authTypesForEvent rules ev = .ok S) : authReads rules ev f ⊆ S := by
  unfold authReads
  by_cases hcr : ev.type = tCreate
  · simp [hcr]
  by_cases hm : ev.type = tMember
  · obtain ⟨_, _, -, -, -, -, b3, -⟩ := authTypes_member_inv hm hS
    simp [beq_false_of_ne hcr, beq_iff_eq.mpr hm, thenReads_subset, ite_subset, b3, readsMember_subset hc hm hS]
  · obtain ⟨b1, b2, b3⟩ := authTypes_other_inv hcr hm hS
    simp [beq_false_of_ne hcr, beq_false_of_ne hm, thenReads_subset, ite_subset, b1, b2, b3]

end Ruma.Auth
