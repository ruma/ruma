/-
  Model = spec, part 1: every value the specification reads out of the state or an event's content
  (`Spec/AuthRules.lean`) is what the model of ruma's lazy accessors (`Model/Auth.lean`) reads,
  for the rule flags `Spec.Auth.rulesOf v` of room version `v`.
-/
import RumaModel.Lemmas.Auth
import RumaModel.Spec.AuthRules
namespace Ruma.AuthSpec
open Ruma Ruma.Auth Ruma.Ident
open Ruma.Spec.Auth (rulesOf)

/-- `Result` → `Option`. -/
def opt {α} : Res α → Option α
  | .ok a => some a
  | .error _ => none

@[simp] theorem opt_ok {α} (a : α) : opt (.ok a : Res α) = some a := rfl
@[simp] theorem opt_error {α} (e : Unit) : opt (.error e : Res α) = none := rfl

theorem opt_eq_some {α} {r : Res α} {a : α} : opt r = some a ↔ r = .ok a := by
  cases r <;> simp

theorem opt_map {α β} (r : Res α) (g : α → β) : opt (r.map g) = (opt r).map g := by
  cases r <;> rfl

theorem opt_fmap {α β} (r : Res α) (g : α → β) : opt (g <$> r) = (opt r).map g := by
  cases r <;> rfl

theorem strProp_eq (c : Obj) (k : Str) : Spec.Auth.strProp c k = opt (strField c k) := by
  unfold Spec.Auth.strProp strField
  cases Obj.get c k with
  | none => rfl
  | some j => cases j <;> rfl

theorem membershipOf_eq (f : Fetch) (u : Str) : Spec.Auth.membershipOf f u = opt (userMembership f u) := by
  unfold Spec.Auth.membershipOf userMembership contentMembership
  show (match f tMember u with | some e => _ | none => _) = _
  cases f tMember u with
  | none => rfl
  | some e => simp [strProp_eq]

theorem joinRuleOf_eq (f : Fetch) : Spec.Auth.joinRuleOf f = opt (joinRule f) := by
  unfold Spec.Auth.joinRuleOf joinRule contentJoinRule
  show (match f tJoinRules [] with | some e => _ | none => _) = _
  cases f tJoinRules [] with
  | none => rfl
  | some e => simp [strProp_eq]

theorem federates_eq (create : Event) : Spec.Auth.federates create = opt (createFederate create.content) := by
  unfold Spec.Auth.federates createFederate
  cases Obj.get create.content (bs "m.federate") with
  | none => rfl
  | some j => cases j <;> rfl

theorem creatorOf_eq (v : Nat) (create : Event) :
    Spec.Auth.creatorOf v create = opt (createCreator (rulesOf v) create) := by
  unfold Spec.Auth.creatorOf createCreator
  simp only [rulesOf]
  by_cases h : Spec.Auth.creatorIsCreateSender v = true
  · simp [h]
  · simp only [h]
    cases Obj.get create.content (bs "creator") with
    | none => rfl
    | some j =>
      cases j <;> try rfl
      rename_i s
      by_cases h : validUserId s = true <;> simp [h]

theorem hasCreatorProp_eq (c : Obj) : Spec.Auth.hasCreatorProp c = createHasCreator c := by
  unfold Spec.Auth.hasCreatorProp createHasCreator
  cases Obj.get c (bs "creator") with
  | none => rfl
  | some j => cases j <;> rfl

theorem optUserIdProp_eq (c : Obj) (k : Str) : Spec.Auth.optUserIdProp c k = opt (optUserIdField c k) := by
  unfold Spec.Auth.optUserIdProp optUserIdField
  cases Obj.get c k with
  | none => rfl
  | some j =>
    cases j <;> try rfl
    rename_i s
    by_cases h : validUserId s = true <;> simp [h]

theorem levelInRange_eq (i : Int) : Spec.Auth.levelInRange i = inRange i := rfl

theorem natOfDigits_plus (r : List Nat) : natOfDigits (43 :: r) = none := by
  simp [natOfDigits, isDigit]

theorem natOfDigits_minus (r : List Nat) : natOfDigits (45 :: r) = none := by
  simp [natOfDigits, isDigit]

theorem unsignedDecimal_eq (d : Nat) (r : List Nat) (h : d ≠ 43) :
    unsignedDecimal (d :: r) = (natOfDigits (d :: r)).map Int.ofNat := by
  unfold unsignedDecimal
  split
  · rename_i heq; simp at heq; exact absurd heq.1 h
  · rfl

theorem opt_checkedLevel (o : Option Int) :
    opt (checkedLevel o) = o.bind fun i => if inRange i then some i else none := by
  cases o with
  | none => rfl
  | some v => simp [checkedLevel]; split <;> simp_all

theorem integerString_eq (s : Str) :
    ((Spec.Auth.integerString s).bind fun i => if Spec.Auth.levelInRange i then some i else none)
      = opt (parseV1String s) := by
  unfold Spec.Auth.integerString parseV1String
  simp only [levelInRange_eq]
  generalize trim s = t
  cases t with
  | nil => simp only [opt_checkedLevel]; rfl
  | cons c r =>
    by_cases h43 : c = 43
    · subst h43
      cases r with
      | nil => simp [signedDecimal, unsignedDecimal, natOfDigits, opt_checkedLevel]
      | cons d r' =>
        by_cases hd43 : d = 43
        · subst hd43; simp [signedDecimal, natOfDigits_plus]
        · have : (some d = some 43) = False := by simp [hd43]
          simp only [signedDecimal, List.head?, unsignedDecimal_eq d r' hd43, this, if_false, opt_checkedLevel]
          rfl
    · split
      · rename_i heq; simp at heq; exact absurd heq.1 h43
      · simp only [opt_checkedLevel]; rfl

theorem levelValue_eq (v : Nat) (j : JVal) : Spec.Auth.levelValue v j = opt (plInt (rulesOf v) j) := by
  unfold Spec.Auth.levelValue plInt
  cases j <;> try rfl
  · rename_i i; simp only [levelInRange_eq]; split <;> simp_all
  · rename_i s
    simp only [rulesOf]
    by_cases h : Spec.Auth.integersOnly v = true
    · simp [h]
    · simp only [h]; exact integerString_eq s

theorem levelProp_eq (v : Nat) (c : Obj) (fld : PLField) :
    Spec.Auth.levelProp v c fld.key = opt (getAsInt (rulesOf v) c fld) := by
  unfold Spec.Auth.levelProp getAsInt
  cases Obj.get c fld.key with
  | none => rfl
  | some j => simp [levelValue_eq, opt_map]

theorem levelPropOr_eq (v : Nat) (c : Obj) (fld : PLField) :
    Spec.Auth.levelPropOr v c fld.key fld.default = opt (getAsIntOrDefault (rulesOf v) c fld) := by
  unfold Spec.Auth.levelPropOr getAsIntOrDefault
  rw [levelProp_eq, opt_map]

theorem levelEntries_eq (v : Nat) (keyOk : Str → Bool) (keyOf : Str → Option Str) :
    ∀ (kvs : List (Str × JVal)), (∀ p ∈ kvs, keyOf p.1 = if keyOk p.1 then some p.1 else none) →
      Spec.Auth.levelEntries v keyOk kvs = opt (intMapEntries (rulesOf v) keyOf kvs) := by
  intro kvs
  induction kvs with
  | nil => intro _; rfl
  | cons p t ih =>
    intro h
    obtain ⟨k, j⟩ := p
    have hk := h (k, j) (by simp)
    have ht := ih (fun q hq => h q (List.mem_cons_of_mem _ hq))
    simp only [Spec.Auth.levelEntries, intMapEntries]
    simp only at hk
    rw [hk]
    by_cases hok : keyOk k = true
    · simp only [hok, if_true, levelValue_eq, ht]
      cases plInt (rulesOf v) j with
      | error e => rfl
      | ok i => cases intMapEntries (rulesOf v) keyOf t <;> rfl
    · simp [hok]

theorem levelEntries_keys (v : Nat) (keyOk : Str → Bool) :
    ∀ (kvs : List (Str × JVal)) (l : List (Str × Int)), Spec.Auth.levelEntries v keyOk kvs = some l →
      l.map (·.1) = kvs.map (·.1) := by
  intro kvs
  induction kvs with
  | nil => intro l h; simp [Spec.Auth.levelEntries] at h; subst h; rfl
  | cons p t ih =>
    intro l h
    obtain ⟨k, j⟩ := p
    simp only [Spec.Auth.levelEntries] at h
    by_cases hok : keyOk k = true
    · simp only [hok, if_true] at h
      cases hv : Spec.Auth.levelValue v j with
      | none => simp [hv] at h
      | some i =>
        cases ht : Spec.Auth.levelEntries v keyOk t with
        | none => simp [hv, ht] at h
        | some r =>
          simp [hv, ht] at h
          subst h
          simp [ih r ht]
    · simp [hok] at h

theorem get_some_mem {α} {l : List (Str × α)} {k : Str} {a : α} (h : Obj.get l k = some a) :
    k ∈ l.map (·.1) := by
  induction l with
  | nil => simp [Obj.get] at h
  | cons p t ih =>
    obtain ⟨k', x⟩ := p
    simp only [Obj.get] at h
    by_cases hk : k' = k
    · simp [hk]
    · simp only [hk, if_false] at h
      simp [ih h]

theorem lastGet_eq_get {l : PLMap} (hnd : (l.map (·.1)).Nodup) (k : Str) : lastGet l k = Obj.get l k := by
  induction l with
  | nil => rfl
  | cons p t ih =>
    obtain ⟨k', x⟩ := p
    simp only [List.map_cons, List.nodup_cons] at hnd
    simp only [lastGet, Obj.get, ih hnd.2]
    cases hg : Obj.get t k with
    | none => rfl
    | some y =>
      have hm := get_some_mem hg
      have : k' ≠ k := fun e => hnd.1 (e ▸ hm)
      simp [this]

/-- Every object-valued property of a power-levels content (so each of the three level maps) has
pairwise different keys, and `events` has no key that `TimelineEventType` identifies with another
spelling. (JSON objects have unique keys; the alias is the one unstable spelling ruma identifies with
`m.call.sdp_stream_metadata_changed`.) -/
def PLContentOk (c : Obj) : Prop :=
  (∀ name kvs, Obj.get c name = some (.obj kvs) → (kvs.map (·.1)).Nodup) ∧
  (∀ kvs, Obj.get c (bs "events") = some (.obj kvs) → ∀ p ∈ kvs, canonType p.1 = p.1)

theorem levelMap_eq (v : Nat) (c : Obj) (name : Str) (keyOk : Str → Bool) (keyOf : Str → Option Str)
    (h : ∀ kvs, Obj.get c name = some (.obj kvs) → ∀ p ∈ kvs, keyOf p.1 = if keyOk p.1 then some p.1 else none) :
    Spec.Auth.levelMap v c name keyOk = opt (getAsIntMap (rulesOf v) c name keyOf) := by
  unfold Spec.Auth.levelMap getAsIntMap
  cases hg : Obj.get c name with
  | none => rfl
  | some j =>
    cases j <;> try rfl
    rename_i kvs
    simp only [levelEntries_eq v keyOk keyOf kvs (h kvs hg), opt_map]

theorem usersMap_eq (v : Nat) (c : Obj) : Spec.Auth.usersMap v c = opt (plUsers (rulesOf v) c) :=
  levelMap_eq v c _ _ _ (fun _ _ _ _ => rfl)

theorem notificationsMap_eq (v : Nat) (c : Obj) :
    Spec.Auth.notificationsMap v c = opt (plNotifications (rulesOf v) c) :=
  levelMap_eq v c _ _ _ (fun _ _ _ _ => rfl)

theorem eventsMap_eq (v : Nat) (c : Obj) (hc : PLContentOk c) :
    Spec.Auth.eventsMap v c = opt (plEvents (rulesOf v) c) :=
  levelMap_eq v c _ _ _ (fun kvs hk p hp => by simp [hc.2 kvs hk p hp])

/-- A level map of a well-formed content has pairwise different keys: `he` is one of `usersMap_eq`,
`eventsMap_eq`, `notificationsMap_eq`, `hr` the model's successful read. -/
theorem levelMap_nodup {v : Nat} {c : Obj} {name : Str} {keyOk : Str → Bool} {r : Res (Option PLMap)}
    {m : Option PLMap} (hc : PLContentOk c) (he : Spec.Auth.levelMap v c name keyOk = opt r) (hr : r = .ok m) :
    ∀ l, m = some l → (l.map (·.1)).Nodup := by
  rintro l rfl
  subst hr
  unfold Spec.Auth.levelMap at he
  cases hg : Obj.get c name with
  | none => simp [hg] at he
  | some j =>
    cases j <;> simp [hg] at he
    rename_i kvs
    rw [levelEntries_keys v keyOk kvs l he]
    exact hc.1 name kvs hg

theorem entry_eq {m : Option (List (Str × Int))} (h : ∀ l, m = some l → (l.map (·.1)).Nodup) (k : Str) :
    Spec.Auth.entry m k = m.bind (lastGet · k) := by
  cases m with
  | none => rfl
  | some l => simp [Spec.Auth.entry, lastGet_eq_get (h l rfl)]

/-- The power-levels event (if any) is well formed. -/
def PLOk (pl : Option Event) : Prop := ∀ e, pl = some e → PLContentOk e.content

theorem fetchPowerLevels_eq (f : Fetch) : f (bs "m.room.power_levels") [] = fetchPowerLevels f := rfl

theorem userLevel_eq (v : Nat) (pl : Option Event) (creator u : Str) (h : PLOk pl) :
    Spec.Auth.userLevel v pl creator u = opt (plUserLevel (rulesOf v) pl u creator) := by
  unfold Spec.Auth.userLevel plUserLevel
  cases pl with
  | none => rfl
  | some e =>
    have hc := h e rfl
    simp only [usersMap_eq]
    cases hu : plUsers (rulesOf v) e.content with
    | error x => rfl
    | ok users =>
      simp only [opt_ok, Option.bind_some, entry_eq (levelMap_nodup hc (usersMap_eq v _) hu), bind, Except.bind]
      cases users.bind (lastGet · u) with
      | some l => rfl
      | none => exact levelPropOr_eq v e.content .usersDefault

theorem namedLevel_eq (v : Nat) (pl : Option Event) (fld : PLField) :
    Spec.Auth.namedLevel v pl fld.key fld.default = opt (plIntOrDefault (rulesOf v) pl fld) := by
  unfold Spec.Auth.namedLevel plIntOrDefault
  cases pl with
  | none => rfl
  | some e => exact levelPropOr_eq v e.content fld

theorem namedLevel_invite (v : Nat) (pl : Option Event) :
    Spec.Auth.namedLevel v pl (bs "invite") 0 = opt (plIntOrDefault (rulesOf v) pl .invite) :=
  namedLevel_eq v pl .invite
theorem namedLevel_kick (v : Nat) (pl : Option Event) :
    Spec.Auth.namedLevel v pl (bs "kick") 50 = opt (plIntOrDefault (rulesOf v) pl .kick) :=
  namedLevel_eq v pl .kick
theorem namedLevel_ban (v : Nat) (pl : Option Event) :
    Spec.Auth.namedLevel v pl (bs "ban") 50 = opt (plIntOrDefault (rulesOf v) pl .ban) :=
  namedLevel_eq v pl .ban
theorem namedLevel_redact (v : Nat) (pl : Option Event) :
    Spec.Auth.namedLevel v pl (bs "redact") 50 = opt (plIntOrDefault (rulesOf v) pl .redact) :=
  namedLevel_eq v pl .redact

theorem requiredLevel_eq (v : Nat) (pl : Option Event) (type : Str) (isState : Bool) (h : PLOk pl) :
    Spec.Auth.requiredLevel v pl type isState = opt (plEventLevel (rulesOf v) pl type isState) := by
  unfold Spec.Auth.requiredLevel plEventLevel
  cases pl with
  | none => cases isState <;> rfl
  | some e =>
    have hc := h e rfl
    simp only [eventsMap_eq v e.content hc]
    cases hu : plEvents (rulesOf v) e.content with
    | error x => rfl
    | ok events =>
      simp only [opt_ok, Option.bind_some, entry_eq (levelMap_nodup hc (eventsMap_eq v _ hc) hu), bind, Except.bind]
      cases events.bind (lastGet · type) with
      | some l => rfl
      | none =>
        cases isState
        · exact levelPropOr_eq v e.content .eventsDefault
        · exact levelPropOr_eq v e.content .stateDefault

end Ruma.AuthSpec
