/-
  Model = spec, part 2: rule 1 (`m.room.create`), rule 4a (`m.room.aliases`) and rule 4
  (`m.room.member`: join, invite, third-party invite, leave/kick, ban, knock) — for every room
  version `v`, the spec's rule allows exactly when the model's check (with the flags
  `Spec.Auth.rulesOf v`) returns `Ok`.
-/
import RumaModel.Lemmas.AuthSpec
set_option linter.unusedSimpArgs false
namespace Ruma.AuthSpec
open Ruma Ruma.Auth Ruma.Ident
open Ruma.Spec.Auth (rulesOf Verdict orReject)

/-- A model check allows. -/
abbrev Allows (r : Res Unit) : Prop := r = .ok ()

/-- Side conditions: the two sides test the same thing, the model as a `Bool` over its constants, the
specification as a `Prop` over the strings spelt out. `simp` translates one into the other; where the
two differ in how they group or order the tests, the call names the rearrangement that is left. -/
macro "side" : tactic =>
  `(tactic| simp [jrPublic, jrInvite, jrKnock, jrRestricted, jrKnockRestricted, mBan, mInvite, mJoin, mLeave, mKnock,
      rulesOf])

theorem bindA {α} {a : Res α} {F : α → Option Verdict} {G : α → Res Unit}
    (h : ∀ x, a = .ok x → (orReject (F x) = .allow ↔ G x = .ok ())) :
    orReject ((opt a).bind F) = .allow ↔ (a >>= G) = .ok () := by
  cases a with
  | error e => simp [orReject, bind, Except.bind]
  | ok x => exact h x rfl

theorem mapA {α} {a : Res α} {g : α → Verdict} {G : α → Res Unit}
    (h : ∀ x, a = .ok x → (g x = .allow ↔ G x = .ok ())) :
    orReject ((opt a).map g) = .allow ↔ (a >>= G) = .ok () := by
  cases a with
  | error e => simp [orReject, bind, Except.bind]
  | ok x => exact h x rfl

theorem requireV {p : Prop} [Decidable p] {c : Bool} {V : Verdict} {Y : Res Unit}
    (hc : c = true ↔ ¬ p) (h : ¬ p → (V = .allow ↔ Y = .ok ())) :
    (if p then .reject else V) = .allow ↔ (require c >>= fun _ => Y) = .ok () := by
  by_cases hp : p
  · have : c = false := by cases c <;> simp_all
    simp [hp, this, require, bind, Except.bind]
  · rw [if_neg hp, hc.mpr hp]
    exact h hp

theorem iteV {α β} {p : Prop} [Decidable p] {c : Bool} {V1 V2 a : α} {Y1 Y2 b : β}
    (hc : c = true ↔ p) (h1 : p → (V1 = a ↔ Y1 = b)) (h2 : ¬ p → (V2 = a ↔ Y2 = b)) :
    (if p then V1 else V2) = a ↔ (if c then Y1 else Y2) = b := by
  by_cases hp : p
  · rw [if_pos hp, if_pos (hc.mpr hp)]
    exact h1 hp
  · rw [if_neg hp, if_neg (hp ∘ hc.mp)]
    exact h2 hp

theorem requireA {p : Prop} [Decidable p] {c : Bool} {X : Option Verdict} {Y : Res Unit}
    (hc : c = true ↔ ¬ p) (h : ¬ p → (orReject X = .allow ↔ Y = .ok ())) :
    orReject (if p then some .reject else X) = .allow ↔ (require c >>= fun _ => Y) = .ok () := by
  rw [apply_ite orReject]
  exact requireV hc h

theorem iteA {p : Prop} [Decidable p] {c : Bool} {X1 X2 : Option Verdict} {Y1 Y2 : Res Unit}
    (hc : c = true ↔ p) (h1 : p → (orReject X1 = .allow ↔ Y1 = .ok ()))
    (h2 : ¬ p → (orReject X2 = .allow ↔ Y2 = .ok ())) :
    orReject (if p then X1 else X2) = .allow ↔ (if c then Y1 else Y2) = .ok () := by
  rw [apply_ite orReject]
  exact iteV hc h1 h2

theorem lastA {p : Prop} [Decidable p] {c : Bool} (hc : c = true ↔ p) :
    (if p then Verdict.allow else Verdict.reject) = .allow ↔ require c = .ok () := by
  by_cases hp : p
  · simp [hp, hc.mpr hp, require]
  · have : c = false := by cases c <;> simp_all
    simp [hp, this, require]

theorem lastN {p : Prop} [Decidable p] {c : Bool} (hc : c = true ↔ ¬ p) :
    (if p then Verdict.reject else Verdict.allow) = .allow ↔ require c = .ok () := by
  rw [← ite_not]
  exact lastA hc

theorem allowA {Y : Res Unit} (h : Y = .ok ()) : orReject (some Verdict.allow) = .allow ↔ Y = .ok () := by
  simp [orReject, h]

theorem rejectA {Y : Res Unit} (h : Y ≠ .ok ()) : orReject (some Verdict.reject) = .allow ↔ Y = .ok () := by
  simp [orReject, h]

theorem noneA {Y : Res Unit} (h : Y ≠ .ok ()) : orReject (none : Option Verdict) = .allow ↔ Y = .ok () := by
  simp [orReject, h]

theorem create_eq_spec (v : Nat) (ev : Event) :
    Spec.Auth.rule1 v ev = .allow ↔ Allows (checkRoomCreate (rulesOf v) ev) := by
  unfold Spec.Auth.rule1 checkRoomCreate Allows
  rw [hasCreatorProp_eq]
  refine requireV (by simp) fun _ => ?_
  cases roomServer ev.roomId with
  | none => simp
  | some s =>
    refine requireV (by simp) fun _ => ?_
    exact lastN (by simp [rulesOf, ← Bool.not_eq_true]; exact Decidable.or_iff_not_imp_left)

theorem aliases_eq_spec (ev : Event) :
    Spec.Auth.rule4a ev = .allow ↔
      Allows (require (match ev.stateKey with
        | some k => some k == userServer ev.sender
        | none => false)) := by
  unfold Spec.Auth.rule4a Allows
  cases ev.stateKey with
  | none => simp [require]
  | some k => exact lastN (by simp)

theorem member_ban_eq_spec (v : Nat) (ev : Event) (target : Str) (create : Event) (f : Fetch)
    (hpl : PLOk (fetchPowerLevels f)) :
    orReject (Spec.Auth.rule4_6 v ev target create f) = .allow ↔
      Allows (checkMemberBan (rulesOf v) ev target create f) := by
  unfold Spec.Auth.rule4_6 checkMemberBan Allows
  simp only [membershipOf_eq, creatorOf_eq, fetchPowerLevels_eq f, userLevel_eq _ _ _ _ hpl, namedLevel_ban]
  refine bindA fun sm _ => ?_
  refine requireA (by side) fun _ => ?_
  refine bindA fun creator _ => ?_
  refine bindA fun sl _ => ?_
  refine bindA fun bl _ => ?_
  refine mapA fun tl _ => ?_
  exact lastA (by side)


theorem member_knock_eq_spec (v : Nat) (ev : Event) (target : Str) (f : Fetch) :
    orReject (Spec.Auth.rule4_7 v ev target f) = .allow ↔ Allows (checkMemberKnock (rulesOf v) ev target f) := by
  unfold Spec.Auth.rule4_7 checkMemberKnock Allows
  simp only [joinRuleOf_eq, membershipOf_eq]
  refine bindA fun jr _ => ?_
  refine requireA (by side; exact Decidable.or_iff_not_imp_left) fun _ => ?_
  refine requireA (by side) fun _ => ?_
  refine mapA fun sm _ => ?_
  exact lastN (by side; exact and_assoc)

theorem member_leave_eq_spec (v : Nat) (ev : Event) (target : Str) (create : Event) (f : Fetch)
    (hpl : PLOk (fetchPowerLevels f)) :
    orReject (Spec.Auth.rule4_5 v ev target create f) = .allow ↔
      Allows (checkMemberLeave (rulesOf v) ev target create f) := by
  unfold Spec.Auth.rule4_5 checkMemberLeave Allows
  simp only [membershipOf_eq, creatorOf_eq, fetchPowerLevels_eq f, userLevel_eq _ _ _ _ hpl, namedLevel_ban,
    namedLevel_kick]
  refine bindA fun sm _ => ?_
  refine iteA (by side) (fun _ => ?_) (fun _ => ?_)
  · exact lastA (by side; exact or_assoc.trans or_left_comm)
  · refine requireA (by side) fun _ => ?_
    refine bindA fun creator _ => ?_
    refine bindA fun tm _ => ?_
    refine bindA fun sl _ => ?_
    refine bindA fun bl _ => ?_
    refine requireA (by side; exact Decidable.imp_iff_not_or.symm) fun _ => ?_
    refine bindA fun kl _ => ?_
    refine mapA fun tl _ => ?_
    exact lastA (by side)

/-- 4.4.2–4.4.5 (an invite without `third_party_invite`). -/
theorem member_invite_plain_eq_spec (v : Nat) (ev : Event) (target : Str) (create : Event) (f : Fetch)
    (hpl : PLOk (fetchPowerLevels f)) :
    orReject (Spec.Auth.rule4_4.rule4_4_rest v ev target create f) = .allow ↔
      (userMembership f ev.sender >>= fun sm =>
        require (sm == mJoin) >>= fun _ =>
        userMembership f target >>= fun tm =>
        require (!(tm == mJoin || tm == mBan)) >>= fun _ =>
        createCreator (rulesOf v) create >>= fun creator =>
        plUserLevel (rulesOf v) (fetchPowerLevels f) ev.sender creator >>= fun sl =>
        plIntOrDefault (rulesOf v) (fetchPowerLevels f) .invite >>= fun inviteLevel =>
        require (decide (sl ≥ inviteLevel))) = .ok () := by
  unfold Spec.Auth.rule4_4.rule4_4_rest
  simp only [membershipOf_eq, creatorOf_eq, fetchPowerLevels_eq f, userLevel_eq _ _ _ _ hpl, namedLevel_invite]
  refine bindA fun sm _ => ?_
  refine requireA (by side) fun _ => ?_
  refine bindA fun tm _ => ?_
  refine requireA (by side) fun _ => ?_
  refine bindA fun creator _ => ?_
  refine bindA fun sl _ => ?_
  refine mapA fun il _ => ?_
  exact lastA (by side)

/-- "a user with sufficient permission to invite other users". -/
theorem canInvite_eq_spec (v : Nat) (f : Fetch) (creator u : Str) (hpl : PLOk (fetchPowerLevels f)) :
    orReject ((Spec.Auth.canInvite v f creator u).map fun ok => if ok then Verdict.allow else .reject) = .allow ↔
      (userMembership f u >>= fun um =>
        require (um == mJoin) >>= fun _ =>
        plUserLevel (rulesOf v) (fetchPowerLevels f) u creator >>= fun ul =>
        plIntOrDefault (rulesOf v) (fetchPowerLevels f) .invite >>= fun inviteLevel =>
        require (decide (ul ≥ inviteLevel))) = .ok () := by
  unfold Spec.Auth.canInvite
  simp only [membershipOf_eq, fetchPowerLevels_eq f, userLevel_eq _ _ _ _ hpl, namedLevel_invite, Option.map_bind,
    Function.comp_def, apply_ite (Option.map _), Option.map_some, Option.map_map]
  refine bindA fun um _ => ?_
  refine requireA (by side) fun _ => ?_
  refine bindA fun ul _ => ?_
  refine mapA fun il _ => ?_
  simp [require]

theorem member_join_eq_spec (v : Nat) (ev : Event) (target : Str) (create : Event) (f : Fetch)
    (hpl : PLOk (fetchPowerLevels f)) :
    orReject (Spec.Auth.rule4_3 v ev target create f) = .allow ↔
      Allows (checkMemberJoin (rulesOf v) ev target create f) := by
  unfold Spec.Auth.rule4_3 checkMemberJoin Allows
  simp only [membershipOf_eq, creatorOf_eq, joinRuleOf_eq, optUserIdProp_eq]
  refine bindA fun creator _ => ?_
  refine iteA (by side) (fun _ => allowA rfl) (fun _ => ?_)
  refine requireA (by side) fun hst => ?_
  have hst' : ev.sender = target := by simpa using hst
  rw [hst']
  refine bindA fun m _ => ?_
  refine requireA (by side) fun _ => ?_
  refine bindA fun jr _ => ?_
  refine iteA (by side) (fun _ => allowA rfl) (fun _ => ?_)
  refine iteA (by side) (fun _ => ?_) (fun _ => ?_)
  · refine iteA (by side) (fun _ => allowA rfl) (fun _ => ?_)
    refine bindA fun via _ => ?_
    cases via with
    | none => exact rejectA (by simp)
    | some u => exact canInvite_eq_spec v f creator u hpl
  · rw [apply_ite orReject]
    exact lastA (by side)

theorem contentThirdPartyInvite_eq {c : Obj} {tpi : JVal} (hg : Obj.get c (bs "third_party_invite") = some tpi)
    (hn : tpi ≠ .null) :
    contentThirdPartyInvite c =
      match Spec.Auth.signedOf tpi with
      | some signed => .ok (some signed)
      | none => .error () := by
  have canon (x : JVal) : (toCanonObj x).map some =
      match Spec.Auth.signedOf (.arr [x]) with
      | some signed => .ok (some signed)
      | none => .error () := by
    cases x with
    | obj kvs => simp only [toCanonObj, Spec.Auth.signedOf]; cases Canonical.normalizeMap kvs <;> rfl
    | _ => rfl
  unfold contentThirdPartyInvite
  rw [hg]
  cases tpi with
  | null => exact absurd rfl hn
  | obj o =>
    simp only
    cases hs : Obj.get o (bs "signed") with
    | none => simp [Spec.Auth.signedOf, hs]
    | some x => simp only [canon, Spec.Auth.signedOf, hs]
  | arr xs =>
    match xs with
    | [x] => exact canon x
    | [] | _ :: _ :: _ => rfl
  | bool _ | int _ | float | str _ => rfl

theorem publicKeysMany_eq (xs : List JVal) :
    Spec.Auth.publicKeysOf.many xs = opt (publicKeyEntries xs) := by
  induction xs with
  | nil => rfl
  | cons x t ih =>
    cases x with
    | obj o =>
      simp only [Spec.Auth.publicKeysOf.many, publicKeyEntries, publicKeyEntry, strProp_eq, ih]
      cases strField o (bs "public_key") with
      | error e => rfl
      | ok k => cases publicKeyEntries t <;> rfl
    | arr ys =>
      match ys with
      | [] => rfl
      | [.str k] =>
        simp only [Spec.Auth.publicKeysOf.many, publicKeyEntries, publicKeyEntry, ih]
        cases publicKeyEntries t <;> rfl
      | [.null] | [.bool _] | [.int _] | [.float] | [.arr _] | [.obj _] => rfl
      | _ :: _ :: _ => simp [Spec.Auth.publicKeysOf.many, publicKeyEntries, publicKeyEntry, bind, Except.bind]
    | null | bool _ | int _ | float | str _ => rfl

theorem publicKeysOf_eq (c : Obj) : Spec.Auth.publicKeysOf c = opt (tpiPublicKeys c) := by
  unfold Spec.Auth.publicKeysOf tpiPublicKeys
  -- `public_keys` first: only its list form needs more than evaluating both sides
  cases Obj.get c (bs "public_keys") with
  | none =>
    cases Obj.get c (bs "public_key") with
    | none => rfl
    | some p => cases p <;> rfl
  | some j =>
    cases j with
    | arr xs =>
      simp only [publicKeysMany_eq]
      cases Obj.get c (bs "public_key") with
      | none => cases publicKeyEntries xs <;> rfl
      | some p => cases p <;> cases publicKeyEntries xs <;> rfl
    | _ =>
      cases Obj.get c (bs "public_key") with
      | none => rfl
      | some p => cases p <;> rfl

/-- Every entity of a `signatures` object maps to an object (the shape the signing JSON format
prescribes). Outside this the implementation's answer depends on the order of the entities. -/
def SigsOk (sigs : Obj) : Prop := ∀ p ∈ sigs, ∃ kvs, p.2 = JVal.obj kvs

theorem entity_any (verified : List (Str × Str × Str)) (pks : List Str) (ent : List (Str × JVal)) :
    (Spec.Auth.entitySignatures ent).any (fun p => pks.any fun pk => verified.contains (p.1, p.2, pk)) =
      entityVerifies verified pks ent := by
  unfold Spec.Auth.entitySignatures entityVerifies
  induction ent with
  | nil => rfl
  | cons kv t ih =>
    obtain ⟨k, j⟩ := kv
    cases j <;> simp only [List.filterMap_cons, List.any_cons, ih, Bool.false_or]

theorem tpiSignatureOk_eq (verified : List (Str × Str × Str)) (pks : List Str) :
    ∀ (sigs : Obj), SigsOk sigs →
      tpiSignatureOk verified pks sigs =
        .ok ((Spec.Auth.signaturePairs sigs).any fun p => pks.any fun pk => verified.contains (p.1, p.2, pk)) := by
  intro sigs
  induction sigs with
  | nil => intro _; rfl
  | cons p t ih =>
    intro h
    obtain ⟨k, j⟩ := p
    obtain ⟨ent, hj⟩ := h (k, j) (by simp)
    simp only at hj
    subst hj
    have ht := ih (fun q hq => h q (List.mem_cons_of_mem _ hq))
    simp only [tpiSignatureOk, Spec.Auth.signaturePairs, List.flatMap_cons, List.any_append, entity_any]
    by_cases hany : entityVerifies verified pks ent = true
    · simp [hany]
    · simp only [hany, if_false, Bool.false_or, Bool.false_eq_true]
      rw [ht]
      rfl

/-- The event's `third_party_invite.signed.signatures`, if it is an object, has the prescribed shape. -/
def TpiSigsOk (ev : Event) : Prop :=
  ∀ signed sigs, contentThirdPartyInvite ev.content = .ok (some signed) →
    Obj.get signed (bs "signatures") = some (.obj sigs) → SigsOk sigs

theorem member_third_party_invite_eq_spec (ev : Event) (tpi : JVal) (target : Str) (f : Fetch) (N : Res Unit)
    (hg : Obj.get ev.content (bs "third_party_invite") = some tpi) (hn : tpi ≠ .null) (hs : TpiSigsOk ev) :
    orReject (Spec.Auth.rule4_4_1 ev tpi target f) = .allow ↔
      (contentThirdPartyInvite ev.content >>= fun t =>
        match t with
        | some signed => checkThirdPartyInvite ev signed target f
        | none => N) = .ok () := by
  unfold Spec.Auth.rule4_4_1
  have hc := contentThirdPartyInvite_eq hg hn
  rw [hc]
  rcases hsig : Spec.Auth.signedOf tpi with _ | signed
  · exact noneA nofun
  rw [hsig] at hc
  show _ ↔ checkThirdPartyInvite ev signed target f = .ok ()
  unfold checkThirdPartyInvite
  simp only [Option.bind_some, membershipOf_eq, strProp_eq, publicKeysOf_eq]
  refine bindA fun tm _ => ?_
  refine requireA (by side) fun _ => ?_
  refine bindA fun token _ => ?_
  refine bindA fun mxid _ => ?_
  refine requireA (by side; exact eq_comm) fun _ => ?_
  simp only [fetchThirdPartyInvite, tThirdPartyInvite]
  cases hte : f (bs "m.room.third_party_invite") token with
  | none => exact rejectA nofun
  | some te =>
    refine requireA (by side) fun _ => ?_
    refine bindA fun pks _ => ?_
    unfold tpiSignatures
    cases hsg : Obj.get signed (bs "signatures") with
    | none => exact noneA nofun
    | some j =>
      cases j <;> try exact noneA nofun
      rename_i sigs
      simp only [Res.ok_bind, tpiSignatureOk_eq _ _ sigs (hs signed sigs hc hsg), apply_ite orReject]
      exact lastA Iff.rfl

theorem contentThirdPartyInvite_absent (c : Obj)
    (h : Obj.get c (bs "third_party_invite") = none ∨ Obj.get c (bs "third_party_invite") = some .null) :
    contentThirdPartyInvite c = .ok none := by
  unfold contentThirdPartyInvite
  rcases h with h | h <;> rw [h]

theorem member_invite_eq_spec (v : Nat) (ev : Event) (target : Str) (create : Event) (f : Fetch)
    (hpl : PLOk (fetchPowerLevels f)) (hs : TpiSigsOk ev) :
    orReject (Spec.Auth.rule4_4 v ev target create f) = .allow ↔
      Allows (checkMemberInvite (rulesOf v) ev target create f) := by
  unfold Spec.Auth.rule4_4 checkMemberInvite Allows
  cases hg : Obj.get ev.content (bs "third_party_invite") with
  | none =>
    rw [contentThirdPartyInvite_absent _ (.inl hg), Res.ok_bind]
    exact member_invite_plain_eq_spec v ev target create f hpl
  | some tpi =>
    cases tpi with
    | null =>
      rw [contentThirdPartyInvite_absent _ (.inr hg), Res.ok_bind]
      exact member_invite_plain_eq_spec v ev target create f hpl
    | _ => exact member_third_party_invite_eq_spec ev _ target f _ hg nofun hs

/-- Rule 4 as a whole. -/
theorem member_eq_spec (v : Nat) (ev : Event) (create : Event) (f : Fetch)
    (hpl : PLOk (fetchPowerLevels f)) (hs : TpiSigsOk ev) :
    Spec.Auth.rule4 v ev create f = .allow ↔ Allows (checkRoomMember (rulesOf v) ev create f) := by
  unfold Spec.Auth.rule4 checkRoomMember Allows
  cases hsk : ev.stateKey with
  | none => simp
  | some target =>
    refine requireV (by simp) fun _ => ?_
    rw [strProp_eq, contentMembership]
    cases hm : strField ev.content (bs "membership") with
    | error e => simp
    | ok m =>
      refine iteV (by side) (fun _ => member_join_eq_spec v ev target create f hpl) fun _ => ?_
      refine iteV (by side) (fun _ => member_invite_eq_spec v ev target create f hpl hs) fun _ => ?_
      refine iteV (by side) (fun _ => member_leave_eq_spec v ev target create f hpl) fun _ => ?_
      refine iteV (by side) (fun _ => member_ban_eq_spec v ev target create f hpl) fun _ => ?_
      exact iteV (by side; exact and_comm) (fun _ => member_knock_eq_spec v ev target f) fun _ => by simp

end Ruma.AuthSpec
