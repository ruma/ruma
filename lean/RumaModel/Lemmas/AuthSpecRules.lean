/-
  Model = spec, part 3: rule 9 (`m.room.power_levels`), rule 10a (`m.room.redaction`, v1–v2),
  rules 5–11, and the whole: `Spec.Auth.authorize v = authCheck (Spec.Auth.rulesOf v)` on the
  comparison domain `InSpecDomain`.
-/
import RumaModel.Lemmas.AuthSpecMember
set_option linter.unusedSimpArgs false
namespace Ruma.AuthSpec
open Ruma Ruma.Auth Ruma.Ident
open Ruma.Spec.Auth (rulesOf Verdict orReject)

/-! ## rule 9 — power levels -/

/-- name and default of an integer property. -/
def prop (fld : PLField) : Str × Int := (fld.key, fld.default)

theorem intProps_eq : Spec.Auth.intProps = PLField.all.map prop := rfl

/-- The shape check of the seven integer properties (9.1) succeeds exactly when `int_fields_map` does. -/
theorem readInts_isSome (v : Nat) (c : Obj) : ∀ l : List PLField,
    (Spec.Auth.readInts v c (l.map prop)).isSome = (opt (intFieldsMap (rulesOf v) c l)).isSome := by
  intro l
  induction l with
  | nil => rfl
  | cons fld t ih =>
    simp only [List.map_cons, prop, Spec.Auth.readInts, intFieldsMap, levelProp_eq]
    cases getAsInt (rulesOf v) c fld with
    | error e => rfl
    | ok x =>
      simp only [opt_ok, Option.bind_some, Option.isSome_map, Res.ok_bind, ih]
      cases intFieldsMap (rulesOf v) c t <;> rfl

/-- … and its result is not used afterwards: the spec's read can be replaced by the model's. -/
theorem readInts_bind (v : Nat) (c : Obj) (X : Option Verdict) :
    ((Spec.Auth.readInts v c Spec.Auth.intProps).bind fun _ => X) =
      (opt (intFieldsMap (rulesOf v) c PLField.all)).bind fun _ => X := by
  have h := readInts_isSome v c PLField.all
  rw [intProps_eq]
  cases h1 : Spec.Auth.readInts v c (PLField.all.map prop) <;>
    cases h2 : opt (intFieldsMap (rulesOf v) c PLField.all) <;> simp_all

theorem mapChangeOk_eq (cur new : Option PLMap) (sl : Int) (rej : Str → Int → Bool)
    (hc : ∀ l, cur = some l → (l.map (·.1)).Nodup) (hn : ∀ l, new = some l → (l.map (·.1)).Nodup) :
    Spec.Auth.mapChangeOk cur new sl rej = checkPowerLevelMaps cur new sl rej := by
  unfold Spec.Auth.mapChangeOk checkPowerLevelMaps
  have hk : ∀ m : Option PLMap, Spec.Auth.keysOf m = plKeys m := fun m => by cases m <;> rfl
  rw [hk, hk]
  congr 1
  funext k
  rw [entry_eq hc, entry_eq hn]
  -- for either value, "not too high" on one side is "too high" negated on the other
  have hle (n : Int) : decide (n ≤ sl) = !decide (n > sl) := by
    rw [← decide_not]
    exact decide_eq_decide.mpr Int.not_lt.symm
  cases cur.bind (lastGet · k) <;> cases new.bind (lastGet · k) <;> simp [hle, Bool.beq_eq_decide_eq]

theorem intsChangeOk_eq (v : Nat) (cur new : Obj) (newInts : List (PLField × Int)) (sl : Int)
    (hnew : ∀ fld, getAsInt (rulesOf v) new fld = .ok (fieldsGet newInts fld)) :
    ∀ l : List PLField,
      Spec.Auth.intsChangeOk v cur new sl (l.map prop) = some true ↔
        checkIntFields (rulesOf v) cur newInts sl l = .ok () := by
  intro l
  induction l with
  | nil => simp [Spec.Auth.intsChangeOk, checkIntFields]
  | cons fld t ih =>
    simp only [List.map_cons, prop, Spec.Auth.intsChangeOk, checkIntFields, levelProp_eq, hnew fld]
    cases hg : getAsInt (rulesOf v) cur fld with
    | error e => simp [Res.error_bind]
    | ok c =>
      rw [opt_ok, opt_ok, Option.bind_some, Option.bind_some, Res.ok_bind]
      exact iteV (by simp) (fun _ => ih) fun _ => iteV (by simp) (fun _ => by simp) fun _ => ih

/-- peel rule 9.5: the spec computes a flag and rejects on `false`; the model's loop fails. -/
theorem intsA {v : Nat} {cur new : Obj} {newInts : List (PLField × Int)} {sl : Int}
    {X : Option Verdict} {Y : Res Unit}
    (hnew : intFieldsMap (rulesOf v) new PLField.all = .ok newInts)
    (h : orReject X = .allow ↔ Y = .ok ()) :
    orReject ((Spec.Auth.intsChangeOk v cur new sl Spec.Auth.intProps).bind fun ok =>
        if !ok then some .reject else X) = .allow ↔
      (checkIntFields (rulesOf v) cur newInts sl PLField.all >>= fun _ => Y) = .ok () := by
  have hget : ∀ fld, getAsInt (rulesOf v) new fld = .ok (fieldsGet newInts fld) := fun fld => by
    obtain ⟨x, hx, hf⟩ := intFieldsMap_get hnew PLField.all_nodup fld (PLField.mem_all fld)
    rw [hx, hf]
  have key := intsChangeOk_eq v cur new newInts sl hget PLField.all
  rw [← intProps_eq] at key
  have hb : (checkIntFields (rulesOf v) cur newInts sl PLField.all >>= fun _ => Y) = .ok () ↔
      Spec.Auth.intsChangeOk v cur new sl Spec.Auth.intProps = some true ∧ Y = .ok () := by
    rw [bind_eq_ok, key]
    exact ⟨fun ⟨_, a, b⟩ => ⟨a, b⟩, fun ⟨a, b⟩ => ⟨(), a, b⟩⟩
  rw [hb]
  rcases Spec.Auth.intsChangeOk v cur new sl Spec.Auth.intProps with _ | _ | _
  · simp [orReject]
  · simp [orReject]
  · simpa using h

theorem power_levels_eq_spec (v : Nat) (ev : Event) (pl : Option Event) (sl : Int)
    (hpl : PLOk pl) (hev : PLContentOk ev.content) :
    orReject (Spec.Auth.rule9 v ev pl sl) = .allow ↔ Allows (checkRoomPowerLevels (rulesOf v) ev pl sl) := by
  unfold Spec.Auth.rule9 checkRoomPowerLevels Allows
  simp only [eventsMap_eq v ev.content hev, notificationsMap_eq, usersMap_eq, readInts_bind]
  refine bindA fun newInts hni => ?_
  refine bindA fun newEvents hne => ?_
  refine bindA fun newN hnn => ?_
  refine bindA fun newUsers hnu => ?_
  cases pl with
  | none => exact allowA rfl
  | some cur =>
    have hc : PLContentOk cur.content := hpl cur rfl
    -- every map read has pairwise different keys, so the spec's lookups are the model's
    have ndE := fun c hc m => levelMap_nodup (m := m) hc (eventsMap_eq v c hc)
    have ndN := fun c hc m => levelMap_nodup (m := m) hc (notificationsMap_eq v c)
    have ndU := fun c hc m => levelMap_nodup (m := m) hc (usersMap_eq v c)
    simp only [eventsMap_eq v cur.content hc]
    refine intsA hni ?_
    refine bindA fun curEvents hce => ?_
    rw [mapChangeOk_eq _ _ _ _ (ndE _ hc _ hce) (ndE _ hev _ hne)]
    refine requireA (by simp) fun _ => ?_
    by_cases hnc : Spec.Auth.notificationsChecked v = true
    · have hr : (rulesOf v).limitNotificationsPowerLevels = true := hnc
      simp only [hnc, hr, if_true]
      cases hcn : plNotifications (rulesOf v) cur.content with
      | error e => exact noneA nofun
      | ok curN =>
        simp only [opt_ok, Option.map_some, Option.bind_some, Res.ok_bind]
        rw [mapChangeOk_eq _ _ _ _ (ndN _ hc _ hcn) (ndN _ hev _ hnn)]
        refine requireA (by simp) fun _ => ?_
        refine mapA fun curUsers hcu => ?_
        rw [mapChangeOk_eq _ _ _ _ (ndU _ hc _ hcu) (ndU _ hev _ hnu)]
        exact lastA (by simp)
    · have hr : (rulesOf v).limitNotificationsPowerLevels = false := Bool.eq_false_iff.mpr hnc
      simp only [hnc, hr, if_false, Bool.false_eq_true, Option.bind_some, Bool.not_true]
      refine mapA fun curUsers hcu => ?_
      rw [mapChangeOk_eq _ _ _ _ (ndU _ hc _ hcu) (ndU _ hev _ hnu)]
      exact lastA (by simp)

theorem redaction_eq_spec (v : Nat) (ev : Event) (pl : Option Event) (sl : Int) :
    orReject (Spec.Auth.rule10a v ev pl sl) = .allow ↔ Allows (checkRoomRedaction (rulesOf v) ev pl sl) := by
  unfold Spec.Auth.rule10a checkRoomRedaction Allows
  simp only [namedLevel_redact]
  refine mapA fun rl _ => ?_
  by_cases h1 : sl ≥ rl
  · simp [h1]
  · by_cases h2 : eventServer ev.eventId = ev.redacts.bind eventServer
    · simp [h1, h2, require]
    · simp [h1, h2, require]

/-- Rules 5–11. -/
theorem general_eq_spec (v : Nat) (ev : Event) (create : Event) (f : Fetch)
    (hpl : PLOk (fetchPowerLevels f)) (hev : ev.type = tPowerLevels → PLContentOk ev.content) :
    orReject (Spec.Auth.rules5to11 v ev create f) = .allow ↔
      (userMembership f ev.sender >>= fun sm =>
        require (sm == mJoin) >>= fun _ =>
        createCreator (rulesOf v) create >>= fun creator =>
        plUserLevel (rulesOf v) (fetchPowerLevels f) ev.sender creator >>= fun senderLevel =>
        if ev.type == tThirdPartyInvite then
          plIntOrDefault (rulesOf v) (fetchPowerLevels f) .invite >>= fun inviteLevel =>
          require (decide (senderLevel ≥ inviteLevel))
        else
          plEventLevel (rulesOf v) (fetchPowerLevels f) ev.type ev.stateKey.isSome >>= fun required =>
          require (decide (senderLevel ≥ required)) >>= fun _ =>
          require (!foreignUserStateKey ev) >>= fun _ =>
          if ev.type == tPowerLevels then checkRoomPowerLevels (rulesOf v) ev (fetchPowerLevels f) senderLevel
          else if (rulesOf v).specialCaseRoomRedaction && ev.type == tRedaction then
            checkRoomRedaction (rulesOf v) ev (fetchPowerLevels f) senderLevel
          else .ok ()) = .ok () := by
  unfold Spec.Auth.rules5to11
  simp only [membershipOf_eq, creatorOf_eq, fetchPowerLevels_eq f, userLevel_eq _ _ _ _ hpl, namedLevel_invite,
    requiredLevel_eq _ _ _ _ hpl]
  refine bindA fun sm _ => ?_
  refine requireA (by side) fun _ => ?_
  refine bindA fun creator _ => ?_
  refine bindA fun sl _ => ?_
  refine iteA (by simp [tThirdPartyInvite]) (fun _ => ?_) (fun _ => ?_)
  · refine mapA fun il _ => ?_
    exact lastA (by simp)
  · refine bindA fun req _ => ?_
    refine requireA (by simp) fun _ => ?_
    have hfk : Spec.Auth.stateKeyNamesOtherUser ev = foreignUserStateKey ev := rfl
    rw [hfk]
    refine requireA (by simp) fun _ => ?_
    refine iteA (by simp [tPowerLevels]) (fun hty => ?_) (fun _ => ?_)
    · exact power_levels_eq_spec v ev _ sl hpl (hev hty)
    · refine iteA (by simp [rulesOf, tRedaction]) (fun _ => ?_) (fun _ => allowA rfl)
      exact redaction_eq_spec v ev _ sl

/-- The inputs on which specification and implementation are compared: JSON objects have unique
keys (stated for the object-valued properties of the power-levels contents involved), no `events`
key uses the one spelling that ruma's `TimelineEventType` identifies with another type string, and
the entities of `third_party_invite.signed.signatures` map to objects. -/
structure InSpecDomain (ev : Event) (f : Fetch) : Prop where
  pl : PLOk (fetchPowerLevels f)
  evPl : ev.type = tPowerLevels → PLContentOk ev.content
  sigs : TpiSigsOk ev

theorem verdict_allow_iff {r : Res Unit} : (match r with | .ok _ => true | .error _ => false) = true ↔ r = .ok () := by
  cases r <;> simp

theorem authCheck_eq_authorize (v : Nat) (ev : Event) (f : Fetch) (h : InSpecDomain ev f) :
    Spec.Auth.authorize v ev f = authCheck (rulesOf v) ev f := by
  rw [Bool.eq_iff_iff, authCheck_true]
  unfold Spec.Auth.authorize authCheckR
  rw [decide_eq_true_eq]
  refine iteV (by simp [tCreate]) (fun _ => create_eq_spec v ev) fun _ => ?_
  simp only [fetchCreate, tCreate]
  cases hc : f (bs "m.room.create") [] with
  | none => simp [Res.error_bind]
  | some create =>
    rw [Res.ok_bind]
    refine requireV (by simp) fun _ => ?_
    rw [federates_eq]
    cases hfed : createFederate create.content with
    | error e => simp [Res.error_bind]
    | ok fed =>
      rw [Res.ok_bind]
      refine requireV (by cases fed <;> simp) fun _ => ?_
      refine iteV (by simp [rulesOf, tAliases]) (fun _ => aliases_eq_spec ev) fun _ => ?_
      refine iteV (by simp [tMember]) (fun _ => member_eq_spec v ev create f h.pl h.sigs) fun _ => ?_
      exact general_eq_spec v ev create f h.pl h.evPl

end Ruma.AuthSpec
