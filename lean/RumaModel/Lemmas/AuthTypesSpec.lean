/-
  `auth_types_for_event` selects what the specification's auth-events selection selects.
-/
import RumaModel.Lemmas.AuthRestrict
import RumaModel.Lemmas.AuthSpecMember
import RumaModel.Spec.AuthTypes
set_option linter.unusedSimpArgs false
namespace Ruma.AuthSpec
open Ruma Ruma.Auth Ruma.Ident
open Ruma.Spec.Auth (rulesOf)

/-- Same selection: both fail, or both succeed with the same set of pairs. -/
def SameSelection (m : Except Unit (List (Str × Str))) (s : Option (List (Str × Str))) : Prop :=
  match m, s with
  | .ok l, some l' => ∀ k, k ∈ l ↔ k ∈ l'
  | .error _, none => True
  | _, _ => False

theorem sameSelection_bind {m : Except Unit (List (Str × Str))} {s : Option (List (Str × Str))}
    {G : List (Str × Str) → Except Unit (List (Str × Str))} {F : List (Str × Str) → Option (List (Str × Str))}
    (h : SameSelection m s)
    (hk : ∀ l l', (∀ k, k ∈ l ↔ k ∈ l') → SameSelection (G l) (F l')) :
    SameSelection (m >>= G) (s.bind F) := by
  cases m with
  | error e =>
    cases s with
    | none => trivial
    | some _ => exact h.elim
  | ok l =>
    cases s with
    | none => exact h.elim
    | some l' => exact hk l l' h

theorem sameSelection_map {m : Except Unit (List (Str × Str))} {s : Option (List (Str × Str))}
    {g g' : List (Str × Str) → List (Str × Str)} (h : SameSelection m (s.map g))
    (hg : ∀ x k, k ∈ g x ↔ k ∈ g' x) : SameSelection m (s.map g') := by
  cases m with
  | error e => cases s <;> simp_all [SameSelection]
  | ok l =>
    cases s with
    | none => simp [SameSelection] at h
    | some x =>
      simp only [Option.map_some, SameSelection] at h ⊢
      intro k
      rw [h k, hg x k]

/-- One optional step of either selection: the model extends the list `l` it has so far when `c`,
the specification contributes the keys `F` when `p`. -/
theorem sameSelection_step {p : Prop} [Decidable p] {c : Bool} {G : Except Unit (List (Str × Str))}
    {F : Option (List (Str × Str))} {l l' : List (Str × Str)} (hc : c = true ↔ p) (hl : ∀ k, k ∈ l ↔ k ∈ l')
    (h : SameSelection G (F.map (l' ++ ·))) :
    SameSelection (if c then G else .ok l) ((if p then F else some []).map (l' ++ ·)) := by
  by_cases hp : p
  · rwa [if_pos hp, if_pos (hc.mpr hp)]
  · rw [if_neg hp, if_neg (hp ∘ hc.mp)]
    exact fun k => by simp [hl k]

theorem tpiAuthType_spec (c : Obj) {l l' : List (Str × Str)} (hl : ∀ k, k ∈ l ↔ k ∈ l') :
    SameSelection (tpiAuthType c l) ((Spec.AuthTypes.thirdPartyInviteKey c).map (l' ++ ·)) := by
  unfold tpiAuthType Spec.AuthTypes.thirdPartyInviteKey
  have absent : ∀ h, SameSelection (contentThirdPartyInvite c >>= fun t => match t with
      | some signed => tpiToken signed >>= fun token => .ok (pushNew l (tThirdPartyInvite, token))
      | none => .ok l) ((some []).map (l' ++ ·)) := fun h => by
    rw [contentThirdPartyInvite_absent c h]
    exact fun k => by simp [hl k]
  cases hg : Obj.get c (bs "third_party_invite") with
  | none => exact absent (.inl hg)
  | some tpi =>
    cases tpi with
    | null => exact absent (.inr hg)
    | _ =>
      simp only [contentThirdPartyInvite_eq hg nofun]
      generalize Spec.Auth.signedOf _ = s
      rcases s with _ | signed
      · trivial
      simp only [Res.ok_bind, Option.bind_some, strProp_eq, tpiToken]
      cases strField signed (bs "token") with
      | error e => trivial
      | ok token => exact fun k => by simp [mem_pushNew, hl k, tThirdPartyInvite]

theorem authorisedAuthType_spec (c : Obj) {l l' : List (Str × Str)} (hl : ∀ k, k ∈ l ↔ k ∈ l') :
    SameSelection (authorisedAuthType c l) ((Spec.AuthTypes.authorisingUserKey c).map (l' ++ ·)) := by
  unfold authorisedAuthType Spec.AuthTypes.authorisingUserKey contentJoinAuthorised
  rw [optUserIdProp_eq]
  rcases optUserIdField c (bs "join_authorised_via_users_server") with e | _ | u
  · trivial
  · exact fun k => by simp [hl k]
  · exact fun k => by simp [mem_pushNew, hl k, tMember]

/-- The specification collects the keys of the two optional steps and puts them behind the fixed
ones; regrouped, each step extends what is there, as the model does. -/
theorem selection_regroup (tp au : Option (List (Str × Str))) (A B : List (Str × Str)) :
    (tp.bind fun t => au.map fun a => B ++ t ++ a).map (A ++ ·) =
      (tp.map ((A ++ B) ++ ·)).bind fun L => au.map (L ++ ·) := by
  cases tp <;> cases au <;> simp [List.append_assoc]

/-- **The selection is the specification's**, for every room version: `auth_types_for_event` fails
exactly when the spec's selection has an unreadable property, and otherwise selects the same set of
`(type, state_key)` pairs. -/
theorem authTypes_eq_spec (v : Nat) (ev : Event) :
    SameSelection (authTypesForEvent (rulesOf v) ev) (Spec.AuthTypes.selection v ev) := by
  unfold authTypesForEvent Spec.AuthTypes.selection
  by_cases hcr : ev.type = bs "m.room.create"
  · rw [if_pos (show (ev.type == tCreate) = true from beq_iff_eq.mpr hcr), if_pos hcr]
    exact fun _ => Iff.rfl
  rw [if_neg (show ¬ (ev.type == tCreate) = true from hcr ∘ eq_of_beq), if_neg hcr]
  by_cases hm : ev.type = bs "m.room.member"
  · rw [if_pos (show (ev.type == tMember) = true from beq_iff_eq.mpr hm), if_pos hm]
    unfold Spec.AuthTypes.memberSelection
    cases ev.stateKey with
    | none => trivial
    | some sk =>
      simp only [strProp_eq, contentMembership]
      cases strField ev.content (bs "membership") with
      | error e => trivial
      | ok m =>
        simp only [opt_ok, Option.bind_some, Res.ok_bind, selection_regroup]
        refine sameSelection_bind
          (sameSelection_step (by simp [mInvite]) ?hl2 (tpiAuthType_spec _ ?hl2)) fun l3 L3 h3 =>
          sameSelection_step (by simp [mJoin, rulesOf]) h3 (authorisedAuthType_spec _ h3)
        -- the fixed keys agree; the model lists the create event third, the specification first
        intro k
        by_cases hmm : m = bs "join" ∨ m = bs "invite" ∨ m = bs "knock" <;>
          simp [hmm, or_assoc, mem_pushNew, tCreate, tMember, tPowerLevels, tJoinRules, mJoin, mInvite, mKnock] <;>
          exact (or_congr_right or_left_comm).trans or_left_comm
  · rw [if_neg (show ¬ (ev.type == tMember) = true from hm ∘ eq_of_beq), if_neg hm]
    exact fun k => (List.perm_append_comm (l₁ := [(tPowerLevels, []), (tMember, ev.sender)])
      (l₂ := [(tCreate, [])])).mem_iff

end Ruma.AuthSpec
