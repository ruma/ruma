/-
  Canonical JSON (C01): association lists (`Obj.insert`, `Obj.ofList`, lookups), and `normalize`:
  its closed form on objects, canonical values, which inputs it accepts, reordered and duplicate entries.
-/
import RumaModel.Model.Canonical
import RumaModel.Spec.CanonicalJson
import RumaModel.Lemmas.SignObj
namespace Ruma.Canonical
open Ruma

theorem str_lt_asymm {a b : Str} (h : a < b) : ¬ b < a := List.lt_asymm h
theorem str_trichotomy (a b : Str) : a < b ∨ a = b ∨ b < a := Std.lt_trichotomy a b

variable {α : Type}

/-- Last entry with the key (what a `BTreeMap` built by successive `insert`s ends up holding). -/
def getLast (o : List (Str × α)) (k : Str) : Option α :=
  match o with
  | [] => none
  | (k', v) :: t =>
    match getLast t k with
    | some x => some x
    | none => if k' = k then some v else none

theorem getLast_eq_none_iff (l : List (Str × α)) (k : Str) : getLast l k = none ↔ k ∉ Obj.keys l := by
  induction l with
  | nil => simp [getLast, Obj.keys]
  | cons e t ih =>
    obtain ⟨ke, ve⟩ := e
    rw [getLast, Obj.keys, List.map_cons, List.mem_cons, not_or, ← Obj.keys, ← ih]
    cases getLast t k with
    | some x => simp
    | none => simp [eq_comm]

theorem getLast_none_of_not_mem (l : List (Str × α)) (k : Str) (h : k ∉ Obj.keys l) : getLast l k = none :=
  (getLast_eq_none_iff l k).mpr h

theorem getLast_eq_get (l : List (Str × α)) (hnd : (Obj.keys l).Nodup) (k : Str) :
    getLast l k = Obj.get l k := by
  induction l with
  | nil => rfl
  | cons e t ih =>
    obtain ⟨ke, ve⟩ := e
    obtain ⟨hke, hnd'⟩ := List.nodup_cons.mp hnd
    rw [getLast, Obj.get, ih hnd']
    by_cases hk : ke = k
    · rw [← hk, Obj.get_none_of_not_mem t ke hke]
    · rw [if_neg hk, if_neg hk]
      cases Obj.get t k <;> rfl

theorem get_eq_some_iff (l : List (Str × α)) (hnd : (Obj.keys l).Nodup) (k : Str) (v : α) :
    Obj.get l k = some v ↔ (k, v) ∈ l := by
  induction l with
  | nil => simp [Obj.get]
  | cons e t ih =>
    obtain ⟨ke, ve⟩ := e
    obtain ⟨hke, hnd'⟩ := List.nodup_cons.mp hnd
    rw [Obj.get, List.mem_cons, Prod.mk.injEq]
    by_cases hk : ke = k
    · subst hk
      have : (ke, v) ∉ t := fun hx => hke (List.mem_map_of_mem (f := (·.1)) hx)
      simp [this, eq_comm]
    · simp [hk, Ne.symm hk, ih hnd']

theorem getLast_append (a b : List (Str × α)) (x : Str) :
    getLast (a ++ b) x = (getLast b x).or (getLast a x) := by
  induction a with
  | nil => cases h : getLast b x <;> simp [getLast, h]
  | cons e t ih =>
    obtain ⟨ke, ve⟩ := e
    simp only [List.cons_append, getLast, ih]
    cases getLast b x <;> simp

theorem keys_map {β : Type} (g : α → β) (l : List (Str × α)) :
    Obj.keys (l.map (Prod.map id g)) = Obj.keys l :=
  List.map_map.trans (List.map_congr_left fun _ _ => rfl)

theorem getLast_map {β : Type} (g : α → β) (l : List (Str × α)) (k : Str) :
    getLast (l.map (Prod.map id g)) k = (getLast l k).map g := by
  induction l with
  | nil => rfl
  | cons e t ih =>
    obtain ⟨ke, ve⟩ := e
    simp only [List.map_cons, Prod.map_apply, id, getLast, ih]
    cases getLast t k with
    | some x => rfl
    | none => by_cases h : ke = k <;> simp [h]

theorem insert_map {β : Type} (g : α → β) (o : List (Str × α)) (k : Str) (v : α) :
    Obj.insert (o.map (Prod.map id g)) k (g v) = (Obj.insert o k v).map (Prod.map id g) := by
  induction o with
  | nil => rfl
  | cons e t ih =>
    obtain ⟨ke, ve⟩ := e
    simp only [List.map_cons, Prod.map_apply, id, Obj.insert]
    split
    · rfl
    split
    · rfl
    · rw [ih]; rfl

theorem sorted_tail {e : Str × α} {t : List (Str × α)} (h : Obj.Sorted (e :: t)) : Obj.Sorted t :=
  (List.pairwise_cons.mp h).2

theorem sorted_head_lt {e : Str × α} {t : List (Str × α)} (h : Obj.Sorted (e :: t)) :
    ∀ x ∈ Obj.keys t, e.1 < x := (List.pairwise_cons.mp h).1

theorem sorted_keys_nodup {o : List (Str × α)} (h : Obj.Sorted o) : (Obj.keys o).Nodup :=
  h.imp fun {a b} (hlt : a < b) (e : a = b) => List.lt_irrefl b (e ▸ hlt)

theorem ofList_sorted (l : List (Str × α)) : Obj.Sorted (Obj.ofList l) :=
  List.foldlRecOn l _ List.Pairwise.nil fun o h e _ => Obj.sorted_insert o e.1 e.2 h

theorem mem_ofList {l : List (Str × α)} {e : Str × α} (h : e ∈ Obj.ofList l) : e ∈ l :=
  List.foldlRecOn (motive := fun o => e ∈ o → e ∈ l) l _ (fun h => (List.not_mem_nil h).elim)
    (fun _ ih _ ha he => (Obj.mem_insert he).elim (· ▸ ha) ih) h

theorem get_foldl_insert (l acc : List (Str × α)) (k : Str) :
    Obj.get (l.foldl (fun acc p => Obj.insert acc p.1 p.2) acc) k = (getLast l k).or (Obj.get acc k) := by
  induction l generalizing acc with
  | nil => simp [getLast]
  | cons e t ih =>
    obtain ⟨ke, ve⟩ := e
    simp only [List.foldl_cons, ih, Obj.get_insert, getLast]
    cases getLast t k with
    | some x => simp
    | none => by_cases h : ke = k <;> simp [h]

theorem get_ofList (l : List (Str × α)) (k : Str) : Obj.get (Obj.ofList l) k = getLast l k := by
  unfold Obj.ofList
  rw [get_foldl_insert]
  cases getLast l k <;> simp [Obj.get]

theorem ofList_of_sorted {l : List (Str × α)} (h : Obj.Sorted l) : Obj.ofList l = l :=
  Obj.sorted_ext _ _ (ofList_sorted l) h fun k => by
    rw [get_ofList, getLast_eq_get l (sorted_keys_nodup h)]

theorem ofList_perm {l l' : List (Str × α)} (hp : l.Perm l') (hnd : (Obj.keys l).Nodup) :
    Obj.ofList l = Obj.ofList l' := by
  have hnd' : (Obj.keys l').Nodup := (List.Perm.nodup_iff (hp.map _)).mp hnd
  apply Obj.sorted_ext _ _ (ofList_sorted l) (ofList_sorted l')
  intro k
  rw [get_ofList, get_ofList, getLast_eq_get l hnd, getLast_eq_get l' hnd']
  apply Option.ext
  intro v
  rw [get_eq_some_iff l hnd, get_eq_some_iff l' hnd']
  exact hp.mem_iff

theorem ofList_drop_shadowed (lp lm : List (Str × α)) (k : Str) (c0 : α) (hk : k ∈ Obj.keys lm) :
    Obj.ofList (lp ++ (k, c0) :: lm) = Obj.ofList (lp ++ lm) := by
  apply Obj.sorted_ext _ _ (ofList_sorted _) (ofList_sorted _)
  intro x
  rw [get_ofList, get_ofList, getLast_append, getLast_append, getLast]
  cases hg : getLast lm x with
  | some y => rfl
  | none =>
    have : k ≠ x := fun e => (getLast_eq_none_iff lm x).mp hg (e ▸ hk)
    rw [if_neg this]

theorem ofList_map {β : Type} (g : α → β) (l : List (Str × α)) :
    Obj.ofList (l.map (Prod.map id g)) = (Obj.ofList l).map (Prod.map id g) := by
  rw [Obj.ofList, List.foldl_map]
  exact List.foldl_hom (init := []) (List.map (Prod.map id g)) fun o p => insert_map g o p.1 p.2

open Ruma.Spec.CanonicalJson

theorem intOk_iff (i : Int) : intOk i = true ↔ IntInRange i := by
  have : maxInt = 2 ^ 53 - 1 := by decide
  unfold intOk IntInRange
  rw [← this]
  simp

theorem normalize_int_ok {i : Int} {c : JVal} :
    normalize (.int i) = .ok c ↔ IntInRange i ∧ c = .int i := by
  rw [normalize, ← intOk_iff]
  cases intOk i <;> simp [eq_comm]

theorem normalize_arr_ok {xs : List JVal} {c : JVal} :
    normalize (.arr xs) = .ok c ↔ ∃ ys, normalizeL xs = .ok ys ∧ c = .arr ys := by
  rw [normalize]
  cases normalizeL xs <;> simp [eq_comm]

theorem normalize_obj_ok {kvs : List (Str × JVal)} {c : JVal} :
    normalize (.obj kvs) = .ok c ↔ ∃ l, normalizeO kvs = .ok l ∧ c = .obj (Obj.ofList l) := by
  rw [normalize]
  cases normalizeO kvs <;> simp [eq_comm]

theorem normalizeL_cons_ok {v : JVal} {t : List JVal} {l : List JVal} :
    normalizeL (v :: t) = .ok l ↔ ∃ v' t', normalize v = .ok v' ∧ normalizeL t = .ok t' ∧ l = v' :: t' := by
  rw [normalizeL]
  cases normalize v <;> cases normalizeL t <;> simp [eq_comm]

theorem normalizeO_cons_ok {k : Str} {v : JVal} {t l : List (Str × JVal)} :
    normalizeO ((k, v) :: t) = .ok l ↔
      ∃ v' t', normalize v = .ok v' ∧ normalizeO t = .ok t' ∧ l = (k, v') :: t' := by
  rw [normalizeO]
  cases normalize v <;> cases normalizeO t <;> simp [eq_comm]

theorem normalize_obj_eq (kvs : List (Str × JVal)) :
    normalize (.obj kvs) = (normalizeMap kvs).map JVal.obj := by
  rw [normalize, normalizeMap]
  cases normalizeO kvs <;> rfl

/-- The converted value where `normalize` accepts (`null`, never looked at, where it rejects). -/
def normVal (v : JVal) : JVal :=
  match normalize v with
  | .ok c => c
  | .error _ => .null

theorem normalize_isOk {v : JVal} : (normalize v).isOk = true ↔ normalize v = .ok (normVal v) := by
  unfold normVal
  cases normalize v <;> simp [Except.isOk, Except.toBool]

theorem normalizeO_eq : ∀ (kvs : List (Str × JVal)), normalizeO kvs =
    if kvs.all (fun e => (normalize e.2).isOk) then .ok (kvs.map (Prod.map id normVal))
    else .error .intConvert
  | [] => rfl
  | (k, v) :: t => by
    rw [normalizeO, normalizeO_eq t, List.all_cons, List.map_cons, Prod.map_apply, normVal]
    cases normalize v with
    | error e => cases e; rfl
    | ok c => cases t.all fun e => (normalize e.2).isOk <;> rfl

theorem normalizeO_eq_ok {kvs l : List (Str × JVal)} (h : normalizeO kvs = .ok l) :
    (∀ e ∈ kvs, normalize e.2 = .ok (normVal e.2)) ∧ l = kvs.map (Prod.map id normVal) := by
  rw [normalizeO_eq] at h
  split at h
  · next hall =>
    injection h with h
    exact ⟨fun e he => normalize_isOk.mp (List.all_eq_true.mp hall e he), h.symm⟩
  · cases h

theorem normalizeMap_eq (kvs : List (Str × JVal)) : normalizeMap kvs =
    if kvs.all (fun e => (normalize e.2).isOk) then .ok (Obj.ofList (kvs.map (Prod.map id normVal)))
    else .error .intConvert := by
  rw [normalizeMap, normalizeO_eq]
  cases kvs.all fun e => (normalize e.2).isOk <;> rfl

theorem normalizeMap_perm {kvs kvs' : List (Str × JVal)} (hp : kvs.Perm kvs')
    (hnd : (Obj.keys kvs).Nodup) : normalizeMap kvs = normalizeMap kvs' := by
  rw [normalizeMap_eq, normalizeMap_eq, hp.all_eq, ofList_perm (hp.map _) (by rwa [keys_map])]

theorem isCanonicalO_iff (l : List (Str × JVal)) : IsCanonicalO l ↔ ∀ e ∈ l, IsCanonical e.2 := by
  induction l with
  | nil => simp [IsCanonicalO]
  | cons a t ih =>
    obtain ⟨k, v⟩ := a
    simp [IsCanonicalO, ih]

mutual
theorem normalize_isCanonical : ∀ (v c : JVal), normalize v = .ok c → IsCanonical c
  | .null, _, rfl => trivial
  | .bool _, _, rfl => trivial
  | .int _, _, h => by
    obtain ⟨hi, rfl⟩ := normalize_int_ok.mp h
    exact hi
  | .float, _, h => nomatch h
  | .str _, _, rfl => trivial
  | .arr xs, _, h => by
    obtain ⟨ys, h1, rfl⟩ := normalize_arr_ok.mp h
    exact normalizeL_isCanonical xs ys h1
  | .obj kvs, _, h => by
    obtain ⟨l, h1, rfl⟩ := normalize_obj_ok.mp h
    have hl := (isCanonicalO_iff l).mp (normalizeO_isCanonical kvs l h1)
    exact ⟨ofList_sorted l, (isCanonicalO_iff _).mpr fun e he => hl e (mem_ofList he)⟩
theorem normalizeL_isCanonical : ∀ (xs ys : List JVal), normalizeL xs = .ok ys → IsCanonicalL ys
  | [], _, rfl => trivial
  | v :: t, _, h => by
    obtain ⟨v', t', h1, h2, rfl⟩ := normalizeL_cons_ok.mp h
    exact ⟨normalize_isCanonical v v' h1, normalizeL_isCanonical t t' h2⟩
theorem normalizeO_isCanonical : ∀ (kvs l : List (Str × JVal)), normalizeO kvs = .ok l → IsCanonicalO l
  | [], _, rfl => trivial
  | (k, v) :: t, _, h => by
    obtain ⟨v', t', h1, h2, rfl⟩ := normalizeO_cons_ok.mp h
    exact ⟨normalize_isCanonical v v' h1, normalizeO_isCanonical t t' h2⟩
end

mutual
theorem normalize_of_isCanonical : ∀ (c : JVal), IsCanonical c → normalize c = .ok c
  | .null, _ => rfl
  | .bool _, _ => rfl
  | .int _, h => normalize_int_ok.mpr ⟨h, rfl⟩
  | .float, h => nomatch h
  | .str _, _ => rfl
  | .arr xs, h => normalize_arr_ok.mpr ⟨xs, normalizeL_of_isCanonical xs h, rfl⟩
  | .obj kvs, h =>
    normalize_obj_ok.mpr ⟨kvs, normalizeO_of_isCanonical kvs h.2, by rw [ofList_of_sorted h.1]⟩
theorem normalizeL_of_isCanonical : ∀ (xs : List JVal), IsCanonicalL xs → normalizeL xs = .ok xs
  | [], _ => rfl
  | v :: t, h =>
    normalizeL_cons_ok.mpr ⟨v, t, normalize_of_isCanonical v h.1, normalizeL_of_isCanonical t h.2, rfl⟩
theorem normalizeO_of_isCanonical : ∀ (kvs : List (Str × JVal)), IsCanonicalO kvs → normalizeO kvs = .ok kvs
  | [], _ => rfl
  | (_, v) :: t, h =>
    normalizeO_cons_ok.mpr ⟨v, t, normalize_of_isCanonical v h.1, normalizeO_of_isCanonical t h.2, rfl⟩
end

mutual
theorem normalize_ok_iff : ∀ (v : JVal), (∃ c, normalize v = .ok c) ↔ Representable v
  | .null => ⟨fun _ => trivial, fun _ => ⟨_, rfl⟩⟩
  | .bool _ => ⟨fun _ => trivial, fun _ => ⟨_, rfl⟩⟩
  | .int i => by simp [normalize_int_ok, Representable]
  | .float => ⟨fun ⟨_, h⟩ => (nomatch h), False.elim⟩
  | .str _ => ⟨fun _ => trivial, fun _ => ⟨_, rfl⟩⟩
  | .arr xs => by
    rw [Representable, ← normalizeL_ok_iff xs, normalize]
    cases normalizeL xs <;> simp
  | .obj kvs => by
    rw [Representable, ← normalizeO_ok_iff kvs, normalize]
    cases normalizeO kvs <;> simp
theorem normalizeL_ok_iff : ∀ (xs : List JVal), (∃ ys, normalizeL xs = .ok ys) ↔ RepresentableL xs
  | [] => by simp [normalizeL, RepresentableL]
  | v :: t => by
    rw [RepresentableL, ← normalize_ok_iff v, ← normalizeL_ok_iff t, normalizeL]
    cases normalize v <;> cases normalizeL t <;> simp
theorem normalizeO_ok_iff : ∀ (kvs : List (Str × JVal)), (∃ l, normalizeO kvs = .ok l) ↔ RepresentableO kvs
  | [] => by simp [normalizeO, RepresentableO]
  | (k, v) :: t => by
    rw [RepresentableO, ← normalize_ok_iff v, ← normalizeO_ok_iff t, normalizeO]
    cases normalize v <;> cases normalizeO t <;> simp
end

theorem normalizeO_ofList (m l : List (Str × JVal)) (h : normalizeO m = .ok l) :
    normalizeO (Obj.ofList m) = .ok (Obj.ofList l) := by
  obtain ⟨hall, rfl⟩ := normalizeO_eq_ok h
  rw [normalizeO_eq, if_pos, ofList_map]
  exact List.all_eq_true.mpr fun e he => normalize_isOk.mpr (hall e (mem_ofList he))

mutual
/-- serde_json's own `Map` construction in front of ruma's code (`serdeValue`: a later duplicate
replaces an earlier one) does not change what `normalize` returns. -/
theorem normalize_serdeValue : ∀ (v c : JVal), normalize v = .ok c → normalize (serdeValue v) = .ok c
  | .null, c, h => h
  | .bool _, c, h => h
  | .int _, c, h => h
  | .float, c, h => h
  | .str _, c, h => h
  | .arr xs, c, h => by
    obtain ⟨ys, h1, h2⟩ := normalize_arr_ok.mp h
    rw [serdeValue]
    exact normalize_arr_ok.mpr ⟨ys, normalizeL_serdeValue xs ys h1, h2⟩
  | .obj kvs, c, h => by
    obtain ⟨l, h1, h2⟩ := normalize_obj_ok.mp h
    rw [serdeValue]
    refine normalize_obj_ok.mpr ⟨Obj.ofList l, normalizeO_ofList _ _ (normalizeO_serdeValue kvs l h1), ?_⟩
    rw [h2, ofList_of_sorted (ofList_sorted l)]
theorem normalizeL_serdeValue : ∀ (xs ys : List JVal), normalizeL xs = .ok ys → normalizeL (serdeValueL xs) = .ok ys
  | [], ys, h => h
  | v :: t, ys, h => by
    obtain ⟨v', t', h1, h2, h3⟩ := normalizeL_cons_ok.mp h
    rw [serdeValueL]
    exact normalizeL_cons_ok.mpr ⟨v', t', normalize_serdeValue v v' h1, normalizeL_serdeValue t t' h2, h3⟩
theorem normalizeO_serdeValue : ∀ (kvs l : List (Str × JVal)), normalizeO kvs = .ok l →
    normalizeO (serdeValueO kvs) = .ok l
  | [], ys, h => h
  | (k, v) :: t, ys, h => by
    obtain ⟨v', t', h1, h2, h3⟩ := normalizeO_cons_ok.mp h
    rw [serdeValueO]
    exact normalizeO_cons_ok.mpr ⟨v', t', normalize_serdeValue v v' h1, normalizeO_serdeValue t t' h2, h3⟩
end

mutual
/-- `Shuffled v w`: `w` is `v` with the entries of objects reordered, at any depth; every reordered
object has distinct keys. (Array elements keep their positions.) -/
inductive Shuffled : JVal → JVal → Prop
  | atom (v : JVal) : Shuffled v v
  | arr {xs ys : List JVal} : ShuffledL xs ys → Shuffled (.arr xs) (.arr ys)
  | obj {kvs mid kvs' : List (Str × JVal)} :
      ShuffledO kvs mid → mid.Perm kvs' → (Obj.keys kvs).Nodup → Shuffled (.obj kvs) (.obj kvs')
inductive ShuffledL : List JVal → List JVal → Prop
  | nil : ShuffledL [] []
  | cons {v w : JVal} {xs ys : List JVal} : Shuffled v w → ShuffledL xs ys → ShuffledL (v :: xs) (w :: ys)
inductive ShuffledO : List (Str × JVal) → List (Str × JVal) → Prop
  | nil : ShuffledO [] []
  | cons {k : Str} {v w : JVal} {xs ys : List (Str × JVal)} :
      Shuffled v w → ShuffledO xs ys → ShuffledO ((k, v) :: xs) ((k, w) :: ys)
end

theorem shuffledO_keys : ∀ {a b : List (Str × JVal)}, ShuffledO a b → Obj.keys a = Obj.keys b
  | _, _, .nil => rfl
  | _, _, .cons _ h => by
    simp only [Obj.keys, List.map_cons]
    exact congrArg _ (shuffledO_keys h)

mutual
theorem shuffled_normalize : ∀ {v w : JVal}, Shuffled v w → normalize v = normalize w
  | _, _, .atom _ => rfl
  | _, _, .arr h => by rw [normalize, normalize, shuffledL_normalize h]
  | _, _, .obj h hp hnd => by
    rw [normalize, shuffledO_normalize h, ← normalize, normalize_obj_eq, normalize_obj_eq,
      normalizeMap_perm hp (shuffledO_keys h ▸ hnd)]
theorem shuffledL_normalize : ∀ {xs ys : List JVal}, ShuffledL xs ys → normalizeL xs = normalizeL ys
  | _, _, .nil => rfl
  | _, _, .cons h t => by rw [normalizeL, normalizeL, shuffled_normalize h, shuffledL_normalize t]
theorem shuffledO_normalize : ∀ {a b : List (Str × JVal)}, ShuffledO a b → normalizeO a = normalizeO b
  | _, _, .nil => rfl
  | _, _, .cons h t => by rw [normalizeO, normalizeO, shuffled_normalize h, shuffledO_normalize t]
end

end Ruma.Canonical
