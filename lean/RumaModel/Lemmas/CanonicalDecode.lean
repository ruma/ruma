/-
  A reader for canonical JSON texts, and the proof that it reads back exactly the value that was
  serialised.
-/
import RumaModel.Lemmas.CanonicalEncode
namespace Ruma.Canonical
open Ruma Ruma.Spec.CanonicalJson

def hexVal (b : Nat) : Option Nat :=
  if 48 ≤ b ∧ b ≤ 57 then some (b - 48) else if 97 ≤ b ∧ b ≤ 102 then some (b - 87) else none

def isDigit (b : Nat) : Bool := decide (48 ≤ b) && decide (b ≤ 57)

/-- One (possibly escaped) byte of a string body; returns it and the remaining input. -/
def decodeChar : List Nat → Option (Nat × List Nat)
  | [] => none
  | b :: t =>
    if b = 92 then
      match t with
      | [] => none
      | e :: t' =>
        if e = 34 then some (34, t')
        else if e = 92 then some (92, t')
        else if e = 98 then some (8, t')
        else if e = 102 then some (12, t')
        else if e = 110 then some (10, t')
        else if e = 114 then some (13, t')
        else if e = 116 then some (9, t')
        else if e = 117 then
          match t' with
          | z1 :: z2 :: h1 :: h2 :: t'' =>
            if z1 = 48 ∧ z2 = 48 then
              match hexVal h1, hexVal h2 with
              | some x, some y => some (16 * x + y, t'')
              | _, _ => none
            else none
          | _ => none
        else none
    else if b = 34 ∨ b < 32 then none
    else some (b, t)

/-- String body after the opening quote, up to and including the closing quote. -/
def decodeStrBody : Nat → List Nat → Option (Str × List Nat)
  | 0, _ => none
  | fuel + 1, inp =>
    match inp with
    | [] => none
    | b :: t =>
      if b = 34 then some ([], t)
      else
        match decodeChar (b :: t) with
        | none => none
        | some (c, rest) =>
          match decodeStrBody fuel rest with
          | none => none
          | some (s, r) => some (c :: s, r)

def decodeStr (inp : List Nat) : Option (Str × List Nat) :=
  match inp with
  | [] => none
  | b :: t => if b = 34 then decodeStrBody (t.length + 1) t else none

/-- Decimal digits, most significant first, accumulated into `acc`. -/
def decodeDigits : List Nat → Nat → Nat × List Nat
  | [], acc => (acc, [])
  | b :: t, acc => if isDigit b then decodeDigits t (10 * acc + (b - 48)) else (acc, b :: t)

def decodeInt (inp : List Nat) : Option (Int × List Nat) :=
  match inp with
  | [] => none
  | b :: t =>
    if b = 45 then
      match t with
      | [] => none
      | d :: _ => if isDigit d then
          let (n, r) := decodeDigits t 0
          some (-(Int.ofNat n), r)
        else none
    else if isDigit b then
      let (n, r) := decodeDigits (b :: t) 0
      some (Int.ofNat n, r)
    else none

def stripPrefix : List Nat → List Nat → Option (List Nat)
  | [], inp => some inp
  | _ :: _, [] => none
  | p :: ps, b :: t => if p = b then stripPrefix ps t else none

mutual
def decodeVal : Nat → List Nat → Option (JVal × List Nat)
  | 0, _ => none
  | fuel + 1, inp =>
    match inp with
    | [] => none
    | b :: t =>
      if b = 110 then (stripPrefix [117, 108, 108] t).map (fun r => (.null, r))
      else if b = 116 then (stripPrefix [114, 117, 101] t).map (fun r => (.bool true, r))
      else if b = 102 then (stripPrefix [97, 108, 115, 101] t).map (fun r => (.bool false, r))
      else if b = 34 then (decodeStr (b :: t)).map (fun p => (.str p.1, p.2))
      else if b = 91 then
        match t with
        | [] => none
        | c :: r =>
          if c = 93 then some (.arr [], r)
          else (decodeElems fuel (c :: r)).map (fun p => (.arr p.1, p.2))
      else if b = 123 then
        match t with
        | [] => none
        | c :: r =>
          if c = 125 then some (.obj [], r)
          else (decodeMembers fuel (c :: r)).map (fun p => (.obj p.1, p.2))
      else (decodeInt (b :: t)).map (fun p => (.int p.1, p.2))
/-- `value *( "," value ) "]"`. -/
def decodeElems : Nat → List Nat → Option (List JVal × List Nat)
  | 0, _ => none
  | fuel + 1, inp =>
    match decodeVal fuel inp with
    | none => none
    | some (v, r) =>
      match r with
      | [] => none
      | c :: r' =>
        if c = 44 then (decodeElems fuel r').map (fun p => (v :: p.1, p.2))
        else if c = 93 then some ([v], r')
        else none
/-- `member *( "," member ) "}"`. -/
def decodeMembers : Nat → List Nat → Option (List (Str × JVal) × List Nat)
  | 0, _ => none
  | fuel + 1, inp =>
    match decodeStr inp with
    | none => none
    | some (k, r0) =>
      match r0 with
      | [] => none
      | c0 :: r1 =>
        if c0 = 58 then
          match decodeVal fuel r1 with
          | none => none
          | some (v, r) =>
            match r with
            | [] => none
            | c :: r' =>
              if c = 44 then (decodeMembers fuel r').map (fun p => ((k, v) :: p.1, p.2))
              else if c = 125 then some ([(k, v)], r')
              else none
        else none
end

/-- Read one canonical JSON text; the whole input must be consumed. -/
def decodeCanon (b : List Nat) : Option JVal :=
  match decodeVal (2 * b.length + 2) b with
  | some (v, []) => some v
  | _ => none

theorem hexVal_hexLower (n : Nat) (h : n < 16) : hexVal (Canonical.hexLower n) = some n :=
  (by decide : ∀ n : Fin 16, hexVal (Canonical.hexLower n.val) = some n.val) ⟨n, h⟩

theorem decodeChar_escapeByte (b : Nat) (more : List Nat) :
    decodeChar (escapeByte b ++ more) = some (b, more) := by
  rcases escapeByte_cases b with ⟨c, hc, e⟩ | ⟨h, e⟩ | ⟨h, e⟩
  · rw [e]
    exact (forall_shortEscapes fun b c => decodeChar (92 :: c :: more) = some (b, more)).mpr
      ⟨rfl, rfl, rfl, rfl, rfl, rfl, rfl⟩ _ hc
  · rw [e]
    simp only [List.cons_append, List.nil_append, decodeChar, hexVal_hexLower (b / 16) (by omega),
      hexVal_hexLower (b % 16) (by omega)]
    simp
    omega
  · have : b ≠ 92 ∧ ¬ (b = 34 ∨ b < 32) := by omega
    rw [e]
    simp only [List.cons_append, List.nil_append, decodeChar, this, if_false]

theorem escapeByte_head (b : Nat) : ∃ x t, escapeByte b = x :: t ∧ x ≠ 34 := by
  rcases escapeByte_cases b with ⟨_, _, e⟩ | ⟨_, e⟩ | ⟨hb, e⟩
  · exact ⟨92, _, e, by decide⟩
  · exact ⟨92, _, e, by decide⟩
  · exact ⟨b, [], e, fun h => hb (.inl h)⟩

theorem decodeStrBody_escape : ∀ (s : Str) (more : List Nat) (fuel : Nat), (escape s).length < fuel →
    decodeStrBody fuel (escape s ++ 34 :: more) = some (s, more)
  | _, _, 0, hf => absurd hf (Nat.not_lt_zero _)
  | [], _, _ + 1, _ => rfl
  | b :: t, more, f + 1, hf => by
    rw [escape, List.flatMap_cons, ← escape] at hf ⊢
    obtain ⟨x, r, hx, hne⟩ := escapeByte_head b
    have hlen : (escape t).length < f := by
      rw [hx] at hf; simp only [List.length_append, List.length_cons] at hf; omega
    have hc := decodeChar_escapeByte b (escape t ++ 34 :: more)
    rw [List.append_assoc]
    rw [hx] at hc ⊢
    simp only [List.cons_append] at hc ⊢
    rw [decodeStrBody]
    simp only [hne, if_false, hc, decodeStrBody_escape t more f hlen]

theorem decodeStr_encodeStr (s : Str) (rest : List Nat) :
    decodeStr (encodeStr s ++ rest) = some (s, rest) := by
  unfold encodeStr
  simp only [List.cons_append, List.append_assoc, decodeStr, if_true]
  apply decodeStrBody_escape
  simp only [List.length_append, List.length_cons]
  omega

/-- `rest` does not continue a number. -/
def NoDigitStart (rest : List Nat) : Prop := ∀ b t, rest = b :: t → isDigit b = false

theorem isDigit_iff (b : Nat) : isDigit b = true ↔ 48 ≤ b ∧ b ≤ 57 := by simp [isDigit]

theorem decodeDigits_stop (rest : List Nat) (acc : Nat) (h : NoDigitStart rest) :
    decodeDigits rest acc = (acc, rest) := by
  cases rest with
  | nil => rfl
  | cons b t => simp [decodeDigits, h b t rfl]

/-- Reading the digits of `n` from 0 arrives at `n`: the digits before the last are those of `n / 10`. -/
theorem decodeDigits_decimal (n : Nat) : ∀ (rest : List Nat),
    decodeDigits (decimal n ++ rest) 0 = decodeDigits rest n := by
  induction n using Nat.strongRecOn with
  | ind n ih =>
    intro rest
    have hd : ∀ d, d < 10 → ∀ acc, decodeDigits ((48 + d) :: rest) acc = decodeDigits rest (10 * acc + d) :=
      fun d hd acc => by
        rw [decodeDigits, if_pos ((isDigit_iff _).mpr (by omega)), Nat.add_sub_cancel_left]
    rw [decimal]
    split
    · rw [List.singleton_append, hd n ‹_› 0]
      congr 1; omega
    · rw [List.append_assoc, ih (n / 10) (by omega), List.singleton_append, hd _ (by omega)]
      congr 1; omega

theorem decimal_head (n : Nat) : ∃ d t, decimal n = d :: t ∧ 48 ≤ d ∧ d ≤ 57 := by
  have : decimal n ≠ [] := by rw [decimal]; split <;> simp
  obtain ⟨d, t, e⟩ := List.exists_cons_of_ne_nil this
  exact ⟨d, t, e, decimal_digits n d (e ▸ List.mem_cons_self)⟩

theorem decodeInt_encodeInt (i : Int) (rest : List Nat) (h : NoDigitStart rest) :
    decodeInt (encodeInt i ++ rest) = some (i, rest) := by
  have digits : ∀ n, ∃ d t, decimal n = d :: t ∧ isDigit d = true ∧
      decodeDigits (d :: (t ++ rest)) 0 = (n, rest) := fun n => by
    obtain ⟨d, t, e, hd⟩ := decimal_head n
    refine ⟨d, t, e, (isDigit_iff d).mpr hd, ?_⟩
    rw [← List.cons_append, ← e, decodeDigits_decimal, decodeDigits_stop rest n h]
  cases i with
  | ofNat n =>
    obtain ⟨d, t, e, hd, hv⟩ := digits n
    have h45 : d ≠ 45 := fun e => by subst e; cases hd
    rw [encodeInt, natDigits_eq_decimal, e]
    simp only [List.cons_append, decodeInt, h45, if_false, hd, if_true, hv]
  | negSucc n =>
    obtain ⟨d, t, e, hd, hv⟩ := digits (n + 1)
    rw [encodeInt, natDigits_eq_decimal, e]
    simp only [List.cons_append, decodeInt, if_true, hd, hv]
    rfl

theorem stripPrefix_append (p rest : List Nat) : stripPrefix p (p ++ rest) = some rest := by
  induction p with
  | nil => cases rest <;> rfl
  | cons x t ih => simp [stripPrefix, ih]

theorem encodeInt_head : ∀ (i : Int), ∃ d t, encodeInt i = d :: t ∧ (d = 45 ∨ (48 ≤ d ∧ d ≤ 57))
  | .ofNat n => by
    obtain ⟨d, t, e, hd⟩ := decimal_head n
    exact ⟨d, t, by rw [encodeInt, natDigits_eq_decimal, e], .inr hd⟩
  | .negSucc _ => ⟨45, _, rfl, .inl rfl⟩

/-- The encoding of a canonical value does not start with `]` (which ends an array). -/
theorem encode_head : ∀ (v : JVal), IsCanonical v → ∃ x t, encode v = x :: t ∧ x ≠ 93
  | .null, _ => ⟨110, _, rfl, by decide⟩
  | .bool true, _ => ⟨116, _, rfl, by decide⟩
  | .bool false, _ => ⟨102, _, rfl, by decide⟩
  | .int i, _ => by
    obtain ⟨d, t, h1, h2⟩ := encodeInt_head i
    exact ⟨d, t, by rw [encode, h1], by omega⟩
  | .float, h => nomatch h
  | .str s, _ => ⟨34, _, rfl, by decide⟩
  | .arr xs, _ => ⟨91, _, rfl, by decide⟩
  | .obj kvs, _ => ⟨123, _, rfl, by decide⟩

theorem noDigitStart_cons (b : Nat) (t : List Nat) (h : isDigit b = false) : NoDigitStart (b :: t) := by
  intro b' t' e
  injection e with e1 _
  rw [← e1]; exact h

theorem encodeL_cons_head (x : JVal) (t : List JVal) (hx : IsCanonical x) :
    ∃ c r, encodeL (x :: t) = c :: r ∧ c ≠ 93 := by
  obtain ⟨c, r, h1, h2⟩ := encode_head x hx
  cases t with
  | nil => exact ⟨c, r, by rw [encodeL, h1], h2⟩
  | cons w t' => exact ⟨c, r ++ 44 :: encodeL (w :: t'), by rw [encodeL_cons_cons, h1]; rfl, h2⟩

theorem encodeO_cons_head (k : Str) (v : JVal) (t : List (Str × JVal)) :
    ∃ r, encodeO ((k, v) :: t) = 34 :: r := by
  cases t with
  | nil => exact ⟨_, by rw [encodeO]; rfl⟩
  | cons w t' => exact ⟨_, by rw [encodeO_cons_cons]; rfl⟩

mutual
theorem decodeVal_encode : ∀ (v : JVal) (rest : List Nat) (fuel : Nat), IsCanonical v →
    NoDigitStart rest → 2 * (encode v).length + 2 ≤ fuel →
    decodeVal fuel (encode v ++ rest) = some (v, rest)
  | _, _, 0, _, _, hf => absurd hf (Nat.not_succ_le_zero _)
  | v, rest, f + 1, hc, hr, hf =>
    match v, hc, hf with
    | .null, _, _ => rfl
    | .bool b, _, _ => by cases b <;> rfl
    | .int i, _, _ => by
      obtain ⟨d, t, h1, h2⟩ := encodeInt_head i
      have hd : d ≠ 110 ∧ d ≠ 116 ∧ d ≠ 102 ∧ d ≠ 34 ∧ d ≠ 91 ∧ d ≠ 123 := by omega
      have := decodeInt_encodeInt i rest hr
      rw [encode]
      rw [h1] at this ⊢
      simp only [List.cons_append] at this ⊢
      simp [decodeVal, hd, this]
    | .float, h, _ => nomatch h
    | .str s, _, _ => by
      show (decodeStr (encodeStr s ++ rest)).map (fun p => (JVal.str p.1, p.2)) = _
      rw [decodeStr_encodeStr]
      rfl
    | .arr [], _, _ => rfl
    | .arr (x :: t), hc, hf => by
      obtain ⟨c, r, h1, h2⟩ := encodeL_cons_head x t hc.1
      have hlen : 2 * (encodeL (x :: t)).length + 3 ≤ f := by
        rw [encode] at hf; simp only [List.length_cons, List.length_append, List.length_nil] at hf; omega
      have ih := decodeElems_encodeL (x :: t) rest f (by simp) hc hr hlen
      rw [encode]
      simp only [List.cons_append, List.append_assoc, List.nil_append]
      rw [h1] at ih ⊢
      simp only [List.cons_append] at ih ⊢
      simp [decodeVal, h2, ih]
    | .obj [], _, _ => rfl
    | .obj ((k, v) :: t), hc, hf => by
      obtain ⟨r, h1⟩ := encodeO_cons_head k v t
      have hlen : 2 * (encodeO ((k, v) :: t)).length + 3 ≤ f := by
        rw [encode] at hf; simp only [List.length_cons, List.length_append, List.length_nil] at hf; omega
      have ih := decodeMembers_encodeO ((k, v) :: t) rest f (by simp) hc.2 hr hlen
      rw [encode]
      simp only [List.cons_append, List.append_assoc, List.nil_append]
      rw [h1] at ih ⊢
      simp only [List.cons_append] at ih ⊢
      simp [decodeVal, ih]
theorem decodeElems_encodeL : ∀ (l : List JVal) (rest : List Nat) (fuel : Nat), l ≠ [] →
    IsCanonicalL l → NoDigitStart rest → 2 * (encodeL l).length + 3 ≤ fuel →
    decodeElems fuel (encodeL l ++ 93 :: rest) = some (l, rest)
  | _, _, 0, _, _, _, hf => absurd hf (Nat.not_succ_le_zero _)
  | l, rest, f + 1, hne, hc, hr, hf =>
    match l, hne, hc, hf with
    | [], hne, _, _ => absurd rfl hne
    | [v], _, hc, hf => by
      rw [encodeL] at hf ⊢
      have := decodeVal_encode v (93 :: rest) f hc.1 (noDigitStart_cons 93 rest (by decide)) (by omega)
      simp [decodeElems, this]
    | v :: w :: t, _, hc, hf => by
      rw [encodeL_cons_cons] at hf ⊢
      simp only [List.length_append, List.length_cons] at hf
      have h1 := decodeVal_encode v (44 :: (encodeL (w :: t) ++ 93 :: rest)) f hc.1
        (noDigitStart_cons 44 _ (by decide)) (by omega)
      have h2 := decodeElems_encodeL (w :: t) rest f (by simp) hc.2 hr (by omega)
      simp only [List.append_assoc, List.cons_append]
      simp [decodeElems, h1, h2]
theorem decodeMembers_encodeO : ∀ (l : List (Str × JVal)) (rest : List Nat) (fuel : Nat), l ≠ [] →
    IsCanonicalO l → NoDigitStart rest → 2 * (encodeO l).length + 3 ≤ fuel →
    decodeMembers fuel (encodeO l ++ 125 :: rest) = some (l, rest)
  | _, _, 0, _, _, _, hf => absurd hf (Nat.not_succ_le_zero _)
  | l, rest, f + 1, hne, hc, hr, hf =>
    match l, hne, hc, hf with
    | [], hne, _, _ => absurd rfl hne
    | [(k, v)], _, hc, hf => by
      rw [encodeO] at hf ⊢
      simp only [List.length_append, List.length_cons] at hf
      have h0 := decodeStr_encodeStr k (58 :: (encode v ++ 125 :: rest))
      have := decodeVal_encode v (125 :: rest) f hc.1 (noDigitStart_cons 125 rest (by decide)) (by omega)
      simp only [List.append_assoc, List.cons_append]
      simp [decodeMembers, h0, this]
    | (k, v) :: w :: t, _, hc, hf => by
      rw [encodeO_cons_cons] at hf ⊢
      simp only [List.length_append, List.length_cons] at hf
      have h0 := decodeStr_encodeStr k (58 :: (encode v ++ 44 :: (encodeO (w :: t) ++ 125 :: rest)))
      have h1 := decodeVal_encode v (44 :: (encodeO (w :: t) ++ 125 :: rest)) f hc.1
        (noDigitStart_cons 44 _ (by decide)) (by omega)
      have h2 := decodeMembers_encodeO (w :: t) rest f (by simp) hc.2 hr (by omega)
      simp only [List.append_assoc, List.cons_append]
      simp [decodeMembers, h0, h1, h2]
end
theorem decodeCanon_encode (v : JVal) (h : IsCanonical v) : decodeCanon (encode v) = some v := by
  unfold decodeCanon
  have := decodeVal_encode v [] (2 * (encode v).length + 2) h (by intro b t e; cases e) (Nat.le_refl _)
  rw [List.append_nil] at this
  rw [this]

end Ruma.Canonical
