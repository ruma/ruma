/-
  The serialiser (`escapeByte`, `encode`) against the specification's grammar: escapes, the text of a
  value in UTF-8, no whitespace outside strings.
-/
import RumaModel.Lemmas.CanonicalUtf8
namespace Ruma.Canonical
open Ruma Ruma.Spec.CanonicalJson

/-- The two-byte escapes `\" \\ \b \f \n \r \t`: the byte, and the byte written after the `\`. -/
def shortEscapes : List (Nat × Nat) :=
  [(34, 34), (92, 92), (8, 98), (12, 102), (10, 110), (13, 114), (9, 116)]

theorem forall_shortEscapes (P : Nat → Nat → Prop) : (∀ p ∈ shortEscapes, P p.1 p.2) ↔
    P 34 34 ∧ P 92 92 ∧ P 8 98 ∧ P 12 102 ∧ P 10 110 ∧ P 13 114 ∧ P 9 116 := by
  simp [shortEscapes]

theorem shortEscapes_spec : ∀ p ∈ shortEscapes,
    (p.1 = 34 ∨ p.1 = 92 ∨ p.1 < 32) ∧ 32 ≤ p.2 ∧ p.2 < 128 := by decide

theorem escapeByte_hex {b : Nat} (h : b ≤ 7 ∨ b = 11 ∨ (14 ≤ b ∧ b < 32)) :
    escapeByte b = [92, 117, 48, 48, Canonical.hexLower (b / 16), Canonical.hexLower (b % 16)] := by
  have : b ≠ 34 ∧ b ≠ 92 ∧ b ≠ 8 ∧ b ≠ 12 ∧ b ≠ 10 ∧ b ≠ 13 ∧ b ≠ 9 ∧ b < 32 := by omega
  simp only [escapeByte, this, if_false, if_true]

theorem escapeByte_raw {b : Nat} (h : ¬ (b = 34 ∨ b = 92 ∨ b < 32)) : escapeByte b = [b] := by
  have : b ≠ 34 ∧ b ≠ 92 ∧ b ≠ 8 ∧ b ≠ 12 ∧ b ≠ 10 ∧ b ≠ 13 ∧ b ≠ 9 ∧ ¬ b < 32 := by omega
  simp only [escapeByte, this, if_false]

theorem escapeByte_cases (b : Nat) :
    (∃ c, (b, c) ∈ shortEscapes ∧ escapeByte b = [92, c]) ∨
    ((b ≤ 7 ∨ b = 11 ∨ (14 ≤ b ∧ b < 32)) ∧
      escapeByte b = [92, 117, 48, 48, Canonical.hexLower (b / 16), Canonical.hexLower (b % 16)]) ∨
    (¬ (b = 34 ∨ b = 92 ∨ b < 32) ∧ escapeByte b = [b]) := by
  by_cases hx : b ≤ 7 ∨ b = 11 ∨ (14 ≤ b ∧ b < 32)
  · exact .inr (.inl ⟨hx, escapeByte_hex hx⟩)
  by_cases hr : b = 34 ∨ b = 92 ∨ b < 32
  · have : b = 34 ∨ b = 92 ∨ b = 8 ∨ b = 12 ∨ b = 10 ∨ b = 13 ∨ b = 9 := by omega
    rcases this with rfl | rfl | rfl | rfl | rfl | rfl | rfl <;> exact .inl ⟨_, by decide, rfl⟩
  · exact .inr (.inr ⟨hr, escapeByte_raw hr⟩)

theorem hexLower_digit (n : Nat) (h : n < 16) :
    (48 ≤ Canonical.hexLower n ∧ Canonical.hexLower n ≤ 57) ∨
    (97 ≤ Canonical.hexLower n ∧ Canonical.hexLower n ≤ 102) := by
  unfold Canonical.hexLower; split <;> omega

theorem escapeByte_bounds (b x : Nat) (hx : x ∈ escapeByte b) : 32 ≤ x ∧ (b < 128 → x < 128) := by
  rcases escapeByte_cases b with ⟨c, hc, e⟩ | ⟨hb, e⟩ | ⟨hb, e⟩
  · have := (shortEscapes_spec _ hc).2
    rw [e] at hx
    simp only [List.mem_cons, List.not_mem_nil, or_false] at hx
    omega
  · have h1 := hexLower_digit (b / 16) (by omega)
    have h2 := hexLower_digit (b % 16) (by omega)
    rw [e] at hx
    simp only [List.mem_cons, List.not_mem_nil, or_false] at hx
    omega
  · rw [e, List.mem_singleton] at hx
    omega

theorem hexLower_eq (n : Nat) : Canonical.hexLower n = Spec.CanonicalJson.hexLower n := by
  unfold Canonical.hexLower Spec.CanonicalJson.hexLower
  split <;> omega

theorem escapeByte_eq_charText (b : Nat) : escapeByte b = charText b := by
  unfold escapeByte charText
  simp only [hexLower_eq]

theorem escape_append (a b : List Nat) : escape (a ++ b) = escape a ++ escape b :=
  List.flatMap_append

/-- Escaping the UTF-8 bytes of a code point = UTF-8 of the grammar's text for that code point:
below U+0080 both are the ASCII text `escapeByte c`, from there on neither changes anything. -/
theorem escape_utf8EncodeChar (c : Nat) : escape (utf8EncodeChar c) = utf8Encode (charText c) := by
  rw [← escapeByte_eq_charText]
  by_cases hc : c < 128
  · rw [utf8Encode_ascii _ (fun x hx => (escapeByte_bounds c x hx).2 hc), utf8EncodeChar_ascii hc]
    exact List.flatMap_singleton ..
  · have raw : ∀ b, 128 ≤ b → escapeByte b = [b] := fun b hb => escapeByte_raw (by omega)
    rw [raw c (by omega), escape,
      flatMap_eq_self _ (fun b hb => raw b (utf8EncodeChar_high c (by omega) b hb))]
    exact (List.flatMap_singleton ..).symm

theorem escape_utf8Encode (s : List Nat) : escape (utf8Encode s) = utf8Encode (s.flatMap charText) := by
  induction s with
  | nil => rfl
  | cons c t ih =>
    rw [utf8Encode_cons, escape_append, ih, escape_utf8EncodeChar, List.flatMap_cons, utf8Encode_append]

theorem encodeStr_utf8Encode (s : List Nat) : encodeStr (utf8Encode s) = utf8Encode (strText s) := by
  rw [encodeStr, strText, utf8Encode_cons_ascii (by decide), utf8Encode_append, escape_utf8Encode]
  rfl

theorem digitChar_toNat (d : Nat) (h : d < 10) : (Nat.digitChar d).toNat = 48 + d := by
  have : ∀ d : Fin 10, (Nat.digitChar d.val).toNat = 48 + d.val := by decide
  exact this ⟨d, h⟩

theorem natDigits_eq_decimal (n : Nat) : natDigits n = decimal n := by
  induction n using Nat.strongRecOn with
  | ind n ih =>
    unfold natDigits
    rw [decimal, Nat.toDigits_eq_if (by decide)]
    by_cases h : n < 10
    · simp [h, digitChar_toNat n h]
    · simp only [h, if_false, List.map_append, List.map_cons, List.map_nil]
      rw [digitChar_toNat _ (Nat.mod_lt n (by decide))]
      have := ih (n / 10) (by omega)
      unfold natDigits at this
      rw [this]

theorem encodeInt_eq_intText (i : Int) : encodeInt i = intText i := by
  unfold encodeInt intText
  cases i with
  | ofNat n =>
    have : ¬ (Int.ofNat n < 0) := Int.not_lt.mpr (Int.natCast_nonneg n)
    simp only [this, if_false]
    exact natDigits_eq_decimal n
  | negSucc n =>
    have : Int.negSucc n < 0 := Int.negSucc_lt_zero n
    simp only [this, if_true]
    rw [natDigits_eq_decimal]
    congr 2

theorem decimal_digits (n : Nat) : ∀ x ∈ decimal n, 48 ≤ x ∧ x ≤ 57 := by
  induction n using Nat.strongRecOn with
  | ind n ih =>
    intro x hx
    rw [decimal] at hx
    split at hx
    · rw [List.mem_singleton] at hx; omega
    · rcases List.mem_append.mp hx with hx | hx
      · exact ih (n / 10) (by omega) x hx
      · rw [List.mem_singleton] at hx; omega

theorem encodeInt_bytes (i : Int) : ∀ x ∈ encodeInt i, x = 45 ∨ (48 ≤ x ∧ x ≤ 57) := by
  intro x hx
  rw [encodeInt_eq_intText, intText] at hx
  split at hx
  · exact (List.mem_cons.mp hx).imp_right (decimal_digits _ x)
  · exact .inr (decimal_digits _ x hx)

theorem encodeL_cons_cons (v w : JVal) (t : List JVal) :
    encodeL (v :: w :: t) = encode v ++ (44 :: encodeL (w :: t)) := by
  rw [encodeL]; simp

theorem encodeO_cons_cons (k : Str) (v : JVal) (e : Str × JVal) (t : List (Str × JVal)) :
    encodeO ((k, v) :: e :: t) = encodeStr k ++ (58 :: encode v) ++ (44 :: encodeO (e :: t)) := by
  rw [encodeO]; simp

instance : DecidablePred IsStructural := fun b => by unfold IsStructural; infer_instance

section
variable {P : List Nat → Prop} (plain : ∀ l : List Nat, (∀ b ∈ l, IsStructural b) → P l)
  (str : ∀ s, P (encodeStr s)) (append : ∀ {a b : List Nat}, P a → P b → P (a ++ b))
include plain str append

mutual
/-- The serialiser's output is put together from structural bytes and string literals: what holds
of these and is kept by `++` holds of `encode v`. -/
theorem encode_induction : ∀ v, P (encode v)
  | .null => plain _ (by decide +kernel)
  | .bool true => plain _ (by decide +kernel)
  | .bool false => plain _ (by decide +kernel)
  | .int i => plain _ fun b hb => by
    have := encodeInt_bytes i b hb
    unfold IsStructural
    omega
  | .float => plain [] nofun
  | .str s => str s
  | .arr xs => append (plain [91] (by decide)) (append (encodeL_induction xs) (plain [93] (by decide)))
  | .obj kvs => append (plain [123] (by decide)) (append (encodeO_induction kvs) (plain [125] (by decide)))
theorem encodeL_induction : ∀ xs, P (encodeL xs)
  | [] => plain [] nofun
  | [v] => encode_induction v
  | v :: w :: t => encodeL_cons_cons v w t ▸
    append (encode_induction v) (append (plain [44] (by decide)) (encodeL_induction (w :: t)))
theorem encodeO_induction : ∀ kvs, P (encodeO kvs)
  | [] => plain [] nofun
  | [(k, v)] => append (str k) (append (plain [58] (by decide)) (encode_induction v))
  | (k, v) :: e :: t => encodeO_cons_cons k v e t ▸
    append (append (str k) (append (plain [58] (by decide)) (encode_induction v)))
      (append (plain [44] (by decide)) (encodeO_induction (e :: t)))
end
end

mutual
theorem encode_toJVal : ∀ (v : CVal), encode v.toJVal = utf8Encode (text v)
  | .null => by decide +kernel
  | .bool true => by decide +kernel
  | .bool false => by decide +kernel
  | .int i => by
    rw [CVal.toJVal, encode, text, ← encodeInt_eq_intText]
    exact (utf8Encode_ascii _ (fun x hx => by have := encodeInt_bytes i x hx; omega)).symm
  | .str s => by rw [CVal.toJVal, encode, text, encodeStr_utf8Encode]
  | .arr xs => by
    rw [CVal.toJVal, encode, text, encodeL_toJVal xs, utf8Encode_cons_ascii (by decide), utf8Encode_append]
    rfl
  | .obj kvs => by
    rw [CVal.toJVal, encode, text, encodeO_toJVal kvs, utf8Encode_cons_ascii (by decide), utf8Encode_append]
    rfl
theorem encodeL_toJVal : ∀ (xs : List CVal), encodeL (CVal.toJValL xs) = utf8Encode (elemsText xs)
  | [] => rfl
  | [v] => by rw [CVal.toJValL, CVal.toJValL, encodeL, elemsText, encode_toJVal v]
  | v :: w :: t => by
    have ih := encodeL_toJVal (w :: t)
    simp only [CVal.toJValL] at ih ⊢
    rw [encodeL_cons_cons, elemsText, encode_toJVal v, ih, utf8Encode_append,
      utf8Encode_cons_ascii (by decide)]
    simp
theorem encodeO_toJVal : ∀ (kvs : List (List Nat × CVal)),
    encodeO (CVal.toJValO kvs) = utf8Encode (membersText kvs)
  | [] => rfl
  | [(k, v)] => by
    rw [CVal.toJValO, CVal.toJValO, encodeO, membersText, encode_toJVal v, encodeStr_utf8Encode,
      utf8Encode_append, utf8Encode_cons_ascii (by decide)]
  | (k, v) :: e :: t => by
    have ih := encodeO_toJVal (e :: t)
    obtain ⟨k2, v2⟩ := e
    simp only [CVal.toJValO] at ih ⊢
    rw [encodeO_cons_cons, membersText, encode_toJVal v, ih, encodeStr_utf8Encode, utf8Encode_append,
      utf8Encode_append, utf8Encode_cons_ascii (by decide), utf8Encode_cons_ascii (by decide)]
    simp
end

theorem charText_sound (c : Nat) (hc : c ≤ 0x10FFFF) : CharText c (charText c) := by
  rw [← escapeByte_eq_charText]
  rcases escapeByte_cases c with ⟨x, hx, e⟩ | ⟨h, e⟩ | ⟨h, e⟩
  · rw [e]
    exact (forall_shortEscapes fun c x => CharText c [92, x]).mpr
      ⟨.quote, .backslash, .b, .f, .n, .r, .t⟩ _ hx
  · rw [e, hexLower_eq, hexLower_eq]
    by_cases h9 : c < 16
    · rw [Nat.div_eq_of_lt h9, Nat.mod_eq_of_lt h9]
      exact .u000 c (by omega)
    · obtain ⟨x, rfl⟩ : ∃ x, c = 0x10 + x := ⟨c - 16, by omega⟩
      rw [show (0x10 + x) / 16 = 1 by omega, show (0x10 + x) % 16 = x by omega]
      exact .u001 x (by omega)
  · rw [e]; exact .unescaped c (by omega)

theorem charText_complete {c : Nat} {t : List Nat} (h : CharText c t) : t = charText c := by
  rw [← escapeByte_eq_charText]
  cases h with
  | unescaped _ hr => exact (escapeByte_raw (by omega)).symm
  | quote => rfl
  | backslash => rfl
  | b => rfl
  | f => rfl
  | n => rfl
  | r => rfl
  | t => rfl
  | u000 x hx =>
    have h16 : c < 16 := by omega
    rw [escapeByte_hex (by omega), Nat.div_eq_of_lt h16, Nat.mod_eq_of_lt h16, hexLower_eq, hexLower_eq]
    rfl
  | u001 x hx =>
    rw [escapeByte_hex (by omega), show (0x10 + x) / 16 = 1 by omega,
      show (0x10 + x) % 16 = x by omega, hexLower_eq, hexLower_eq]
    rfl

theorem outside_true_raw (b : Nat) (more : List Nat) (hm : more ≠ []) (h1 : b ≠ 34) (h2 : b ≠ 92) :
    outsideStrings true (b :: more) = outsideStrings true more := by
  cases more with
  | nil => exact absurd rfl hm
  | cons c t => simp [outsideStrings, h1, h2]

/-- Inside a string, what is written for one byte is skipped as a whole: a `\` takes the next
byte with it, and the hexadecimal digits of `\u00xx` are neither `"` nor `\`. -/
theorem outside_true_escapeByte (b : Nat) (more : List Nat) (hm : more ≠ []) :
    outsideStrings true (escapeByte b ++ more) = outsideStrings true more := by
  have skip : ∀ c t, outsideStrings true (92 :: c :: t) = outsideStrings true t := fun c t => by
    rw [outsideStrings, if_pos rfl]
  rcases escapeByte_cases b with ⟨c, _, e⟩ | ⟨hb, e⟩ | ⟨hb, e⟩
  · rw [e]; exact skip c more
  · have h1 := hexLower_digit (b / 16) (by omega)
    have h2 := hexLower_digit (b % 16) (by omega)
    have hne : ∀ h, (48 ≤ h ∧ h ≤ 57) ∨ (97 ≤ h ∧ h ≤ 102) → h ≠ 34 ∧ h ≠ 92 := fun h _ => by omega
    rw [e]
    simp only [List.cons_append, List.nil_append]
    rw [skip, outside_true_raw 48 _ (List.cons_ne_nil _ _) (by decide) (by decide),
      outside_true_raw 48 _ (List.cons_ne_nil _ _) (by decide) (by decide),
      outside_true_raw _ _ (List.cons_ne_nil _ _) (hne _ h1).1 (hne _ h1).2,
      outside_true_raw _ _ hm (hne _ h2).1 (hne _ h2).2]
  · rw [e]; exact outside_true_raw b more hm (by omega) (by omega)

theorem outside_true_escape (s : Str) (rest : List Nat) :
    outsideStrings true (escape s ++ 34 :: rest) = outsideStrings false rest := by
  induction s with
  | nil => cases rest <;> simp [escape, outsideStrings]
  | cons b t ih =>
    rw [escape, List.flatMap_cons, List.append_assoc,
      outside_true_escapeByte _ _ (List.append_ne_nil_of_right_ne_nil _ (List.cons_ne_nil _ _))]
    exact ih

/-- Outside string literals `xs`, in front of anything, contributes structural bytes only, and what
follows it is read from outside a string again. -/
def Outside (xs : List Nat) : Prop :=
  ∀ (rest : List Nat) (b : Nat),
    b ∈ outsideStrings false (xs ++ rest) → IsStructural b ∨ b ∈ outsideStrings false rest

theorem Outside.append {xs ys : List Nat} (hx : Outside xs) (hy : Outside ys) : Outside (xs ++ ys) :=
  fun rest b hb => (hx _ b (List.append_assoc .. ▸ hb)).elim .inl (hy rest b)

/-- Structural bytes stay (`"` is not one of them). -/
theorem Outside.plain : ∀ (xs : List Nat), (∀ b ∈ xs, IsStructural b) → Outside xs
  | [], _ => fun _ _ hb => .inr hb
  | x :: t, hs => fun rest b hb => by
    have hx : x ≠ 34 := fun e => absurd (hs x List.mem_cons_self) (e ▸ by decide)
    rw [List.cons_append, outsideStrings, if_neg hx] at hb
    rcases List.mem_cons.mp hb with rfl | hb
    · exact .inl (hs _ List.mem_cons_self)
    · exact Outside.plain t (fun y hy => hs y (List.mem_cons_of_mem _ hy)) rest b hb

theorem Outside.str (s : Str) : Outside (encodeStr s) := fun rest _ hb => by
  rw [encodeStr, List.cons_append, List.append_assoc, List.singleton_append, outsideStrings, if_pos rfl,
    outside_true_escape] at hb
  exact .inr hb

theorem outside_encode (v : JVal) : Outside (encode v) :=
  encode_induction Outside.plain Outside.str Outside.append v

theorem outside_encodeL : ∀ (xs : List JVal) (rest : List Nat) (b : Nat),
    b ∈ outsideStrings false (encodeL xs ++ rest) → IsStructural b ∨ b ∈ outsideStrings false rest :=
  encodeL_induction Outside.plain Outside.str Outside.append

theorem outside_encodeO : ∀ (kvs : List (Str × JVal)) (rest : List Nat) (b : Nat),
    b ∈ outsideStrings false (encodeO kvs ++ rest) → IsStructural b ∨ b ∈ outsideStrings false rest :=
  encodeO_induction Outside.plain Outside.str Outside.append

end Ruma.Canonical
