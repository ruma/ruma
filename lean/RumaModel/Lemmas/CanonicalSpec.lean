/-
  A well-formed specification value, held in memory with UTF-8 strings, is canonical; the serialiser
  writes no control bytes.
-/
import RumaModel.Lemmas.CanonicalEncode
namespace Ruma.Canonical
open Ruma Ruma.Spec.CanonicalJson

theorem toJValO_keys : ∀ (kvs : List (List Nat × CVal)),
    Obj.keys (CVal.toJValO kvs) = (kvs.map (·.1)).map utf8Encode
  | [] => rfl
  | (k, v) :: t => by
    simp only [CVal.toJValO, Obj.keys, List.map_cons]
    exact congrArg _ (toJValO_keys t)

theorem toJValO_sorted_iff (kvs : List (List Nat × CVal)) :
    Obj.Sorted (CVal.toJValO kvs) ↔ KeysAscending kvs := by
  unfold Obj.Sorted KeysAscending
  rw [toJValO_keys, List.pairwise_map]
  simp only [utf8Encode_lt_iff]

mutual
theorem toJVal_isCanonical : ∀ (v : CVal), v.WF → IsCanonical v.toJVal
  | .null, _ => trivial
  | .bool _, _ => trivial
  | .int _, h => h
  | .str _, _ => trivial
  | .arr xs, h => toJValL_isCanonical xs h
  | .obj kvs, h => ⟨(toJValO_sorted_iff kvs).mpr h.1, toJValO_isCanonical kvs h.2⟩
theorem toJValL_isCanonical : ∀ (xs : List CVal), CVal.WFL xs → IsCanonicalL (CVal.toJValL xs)
  | [], _ => trivial
  | v :: t, h => ⟨toJVal_isCanonical v h.1, toJValL_isCanonical t h.2⟩
theorem toJValO_isCanonical : ∀ (kvs : List (List Nat × CVal)), CVal.WFO kvs → IsCanonicalO (CVal.toJValO kvs)
  | [], _ => trivial
  | (_, v) :: t, h => ⟨toJVal_isCanonical v h.2.1, toJValO_isCanonical t h.2.2⟩
end

theorem encodeStr_ge (s : Str) : ∀ x ∈ encodeStr s, 32 ≤ x := by
  simp only [encodeStr, List.forall_mem_cons, List.forall_mem_append]
  refine ⟨by decide, fun x hx => ?_, by decide, nofun⟩
  obtain ⟨b, _, hb⟩ := List.mem_flatMap.mp hx
  exact (escapeByte_bounds b x hb).1

theorem isStructural_ge {b : Nat} (h : IsStructural b) : 32 ≤ b := by
  simp only [IsStructural, List.mem_cons, List.not_mem_nil, or_false] at h
  omega

theorem encode_ge (v : JVal) : ∀ x ∈ encode v, 32 ≤ x :=
  encode_induction (fun _ h x hx => isStructural_ge (h x hx)) encodeStr_ge
    (fun ha hb => List.forall_mem_append.mpr ⟨ha, hb⟩) v

theorem encodeL_ge : ∀ (xs : List JVal) (x : Nat), x ∈ encodeL xs → 32 ≤ x :=
  encodeL_induction (fun _ h x hx => isStructural_ge (h x hx)) encodeStr_ge
    (fun ha hb => List.forall_mem_append.mpr ⟨ha, hb⟩)

theorem encodeO_ge : ∀ (kvs : List (Str × JVal)) (x : Nat), x ∈ encodeO kvs → 32 ≤ x :=
  encodeO_induction (fun _ h x hx => isStructural_ge (h x hx)) encodeStr_ge
    (fun ha hb => List.forall_mem_append.mpr ⟨ha, hb⟩)

end Ruma.Canonical
