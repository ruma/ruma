/-
  Every canonical in-memory value whose strings are valid UTF-8 is the in-memory form of a
  well-formed specification value (`CVal.toJVal` is onto those values), and `normalize` keeps
  strings valid.
-/
import RumaModel.Lemmas.CanonicalSpec
namespace Ruma.Canonical
open Ruma Ruma.Spec.CanonicalJson

instance : DecidablePred IsScalar := fun c => by unfold IsScalar; infer_instance

/-- A byte string is valid UTF-8 (RFC 3629): the encoding of a sequence of Unicode scalar values.
This is the invariant of a Rust `String`. -/
def IsUtf8 (b : Str) : Prop := ∃ s : List Nat, (∀ c ∈ s, IsScalar c) ∧ b = utf8Encode s

mutual
/-- Every string and every object key in the value, at every depth, is valid UTF-8. -/
def StringsUtf8 : JVal → Prop
  | .null => True
  | .bool _ => True
  | .int _ => True
  | .float => True
  | .str s => IsUtf8 s
  | .arr xs => StringsUtf8L xs
  | .obj kvs => StringsUtf8O kvs
def StringsUtf8L : List JVal → Prop
  | [] => True
  | v :: t => StringsUtf8 v ∧ StringsUtf8L t
def StringsUtf8O : List (Str × JVal) → Prop
  | [] => True
  | (k, v) :: t => IsUtf8 k ∧ StringsUtf8 v ∧ StringsUtf8O t
end

theorem stringsUtf8O_iff (l : List (Str × JVal)) :
    StringsUtf8O l ↔ ∀ e ∈ l, IsUtf8 e.1 ∧ StringsUtf8 e.2 := by
  induction l with
  | nil => simp [StringsUtf8O]
  | cons e t ih =>
    obtain ⟨k, v⟩ := e
    simp only [StringsUtf8O, List.mem_cons, forall_eq_or_imp, ih, and_assoc]

mutual
theorem normalize_stringsUtf8 : ∀ (v c : JVal), normalize v = .ok c → StringsUtf8 v → StringsUtf8 c
  | .null, _, rfl, _ => trivial
  | .bool _, _, rfl, _ => trivial
  | .int _, _, h, _ => by
    obtain ⟨_, rfl⟩ := normalize_int_ok.mp h
    trivial
  | .float, _, h, _ => nomatch h
  | .str _, _, rfl, hu => hu
  | .arr xs, _, h, hu => by
    obtain ⟨ys, h1, rfl⟩ := normalize_arr_ok.mp h
    exact normalizeL_stringsUtf8 xs ys h1 hu
  | .obj kvs, _, h, hu => by
    obtain ⟨l, h1, rfl⟩ := normalize_obj_ok.mp h
    have hl := (stringsUtf8O_iff l).mp (normalizeO_stringsUtf8 kvs l h1 hu)
    exact (stringsUtf8O_iff _).mpr fun e he => hl e (mem_ofList he)
theorem normalizeL_stringsUtf8 : ∀ (xs ys : List JVal), normalizeL xs = .ok ys → StringsUtf8L xs → StringsUtf8L ys
  | [], _, rfl, _ => trivial
  | v :: t, _, h, hu => by
    obtain ⟨v', t', hv, ht, rfl⟩ := normalizeL_cons_ok.mp h
    exact ⟨normalize_stringsUtf8 v v' hv hu.1, normalizeL_stringsUtf8 t t' ht hu.2⟩
theorem normalizeO_stringsUtf8 : ∀ (kvs l : List (Str × JVal)), normalizeO kvs = .ok l → StringsUtf8O kvs → StringsUtf8O l
  | [], _, rfl, _ => trivial
  | (k, v) :: t, _, h, hu => by
    obtain ⟨v', t', hv, ht, rfl⟩ := normalizeO_cons_ok.mp h
    exact ⟨hu.1, normalize_stringsUtf8 v v' hv hu.2.1, normalizeO_stringsUtf8 t t' ht hu.2.2⟩
end

mutual
/-- `CVal.toJVal` reaches every canonical value with valid UTF-8 strings, from a well-formed
specification value. -/
theorem toJVal_surjective : ∀ (c : JVal), IsCanonical c → StringsUtf8 c → ∃ v : CVal, v.WF ∧ v.toJVal = c
  | .null, _, _ => ⟨.null, trivial, rfl⟩
  | .bool b, _, _ => ⟨.bool b, trivial, rfl⟩
  | .int i, h, _ => ⟨.int i, h, rfl⟩
  | .float, h, _ => nomatch h
  | .str _, _, ⟨cs, hs, rfl⟩ => ⟨.str cs, hs, rfl⟩
  | .arr xs, h, hu => by
    obtain ⟨vs, hw, rfl⟩ := toJValL_surjective xs h hu
    exact ⟨.arr vs, hw, rfl⟩
  | .obj kvs, h, hu => by
    obtain ⟨ws, hw, rfl⟩ := toJValO_surjective kvs h.2 hu
    exact ⟨.obj ws, ⟨(toJValO_sorted_iff ws).mp h.1, hw⟩, rfl⟩
theorem toJValL_surjective : ∀ (xs : List JVal), IsCanonicalL xs → StringsUtf8L xs →
    ∃ vs : List CVal, CVal.WFL vs ∧ CVal.toJValL vs = xs
  | [], _, _ => ⟨[], trivial, rfl⟩
  | x :: t, h, hu => by
    obtain ⟨v, hv, rfl⟩ := toJVal_surjective x h.1 hu.1
    obtain ⟨vs, hvs, rfl⟩ := toJValL_surjective t h.2 hu.2
    exact ⟨v :: vs, ⟨hv, hvs⟩, rfl⟩
theorem toJValO_surjective : ∀ (kvs : List (Str × JVal)), IsCanonicalO kvs → StringsUtf8O kvs →
    ∃ ws : List (List Nat × CVal), CVal.WFO ws ∧ CVal.toJValO ws = kvs
  | [], _, _ => ⟨[], trivial, rfl⟩
  | (_, x) :: t, h, hu => by
    obtain ⟨ks, hks, rfl⟩ := hu.1
    obtain ⟨v, hv, rfl⟩ := toJVal_surjective x h.1 hu.2.1
    obtain ⟨ws, hws, rfl⟩ := toJValO_surjective t h.2 hu.2.2
    exact ⟨(ks, v) :: ws, ⟨hks, hv, hws⟩, rfl⟩
end

end Ruma.Canonical
