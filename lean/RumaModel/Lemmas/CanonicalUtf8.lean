/-
  UTF-8 encoding preserves the lexicographic order of code point sequences.
-/
import RumaModel.Lemmas.Canonical
namespace Ruma.Canonical
open Ruma Ruma.Spec.CanonicalJson

theorem nat_list_lt_irrefl (a : List Nat) : ¬ a < a := List.lt_irrefl a

theorem flatMap_eq_self {f : Nat → List Nat} (l : List Nat) (h : ∀ x ∈ l, f x = [x]) :
    l.flatMap f = l := by
  rw [List.flatMap_def, List.map_congr_left h, ← List.flatMap_def, List.flatMap_singleton']

theorem utf8Encode_append (a b : List Nat) : utf8Encode (a ++ b) = utf8Encode a ++ utf8Encode b :=
  List.flatMap_append

theorem utf8Encode_cons (c : Nat) (s : List Nat) : utf8Encode (c :: s) = utf8EncodeChar c ++ utf8Encode s :=
  List.flatMap_cons

theorem utf8EncodeChar_ascii {c : Nat} (h : c < 128) : utf8EncodeChar c = [c] := if_pos h

theorem utf8Encode_ascii (l : List Nat) (h : ∀ c ∈ l, c < 128) : utf8Encode l = l :=
  flatMap_eq_self l (fun c hc => utf8EncodeChar_ascii (h c hc))

theorem utf8Encode_cons_ascii {c : Nat} (h : c < 128) (s : List Nat) :
    utf8Encode (c :: s) = c :: utf8Encode s := by
  rw [utf8Encode_cons, utf8EncodeChar_ascii h]; rfl

theorem cons_lt_cons_of_lt {a b : Nat} (h : a < b) (s t : List Nat) : a :: s < b :: t :=
  List.cons_lt_cons_iff.mpr (.inl h)

/-- The leading byte tells the length (`0xxxxxxx`, `110xxxxx`, `1110xxxx`, `11110xxx`); the other
bytes are continuation bytes `10xxxxxx`. -/
theorem utf8EncodeChar_lead (c : Nat) : ∃ l t, utf8EncodeChar c = l :: t ∧
    (∀ x ∈ t, 0x80 ≤ x) ∧ (l < 0x80 ↔ c < 0x80) ∧ (l < 0xE0 ↔ c < 0x800) ∧ (l < 0xF0 ↔ c < 0x10000) := by
  unfold utf8EncodeChar
  split
  · exact ⟨_, _, rfl, by simp, by omega⟩
  split
  · exact ⟨_, _, rfl, by simp, by omega⟩
  split
  · exact ⟨_, _, rfl, by simp, by omega⟩
  · exact ⟨_, _, rfl, by simp, by omega⟩

theorem utf8EncodeChar_high (c : Nat) (hc : 128 ≤ c) : ∀ b ∈ utf8EncodeChar c, 128 ≤ b := by
  obtain ⟨l, t, e, ht, hl, _⟩ := utf8EncodeChar_lead c
  intro b hb
  rw [e] at hb
  rcases List.mem_cons.mp hb with rfl | hb
  · omega
  · exact ht b hb

/-- If an encoding of numbers preserves order whatever follows, so does the encoding with one more
base-64 digit at the end: compare `c / 64` with `d / 64` first, the last digit decides a tie. -/
theorem snoc_digit_lt (f : Nat → List Nat) (hf : ∀ x y, x < y → ∀ r1 r2, f x ++ r1 < f y ++ r2)
    (c d : Nat) (h : c < d) (r1 r2 : List Nat) :
    f (c / 64) ++ (0x80 + c % 64) :: r1 < f (d / 64) ++ (0x80 + d % 64) :: r2 := by
  have : c / 64 < d / 64 ∨ (c / 64 = d / 64 ∧ c % 64 < d % 64) := by omega
  rcases this with h1 | ⟨h1, h2⟩
  · exact hf _ _ h1 _ _
  · rw [h1]
    exact List.append_left_lt (cons_lt_cons_of_lt (by omega) _ _)

theorem utf8EncodeChar_append_lt {c d : Nat} (h : c < d) (r1 r2 : List Nat) :
    utf8EncodeChar c ++ r1 < utf8EncodeChar d ++ r2 := by
  -- different lengths: the leading bytes decide; same length: digit by digit
  by_cases hl : (c < 0x80 ∧ 0x80 ≤ d) ∨ (c < 0x800 ∧ 0x800 ≤ d) ∨ (c < 0x10000 ∧ 0x10000 ≤ d)
  · obtain ⟨l, t, e, _, b1, b2, b3⟩ := utf8EncodeChar_lead c
    obtain ⟨l', t', e', _, b1', b2', b3'⟩ := utf8EncodeChar_lead d
    have sep : ∀ {B T : Nat}, (l < B ↔ c < T) → (l' < B ↔ d < T) → c < T ∧ T ≤ d → l < l' :=
      fun i i' hT => Nat.lt_of_lt_of_le (i.mpr hT.1) (Nat.not_lt.mp (mt i'.mp (Nat.not_lt.mpr hT.2)))
    rw [e, e']
    exact cons_lt_cons_of_lt (hl.elim (sep b1 b1') fun hl => hl.elim (sep b2 b2') (sep b3 b3')) _ _
  · have one : ∀ p x y : Nat, x < y → ∀ r1 r2 : List Nat, [p + x] ++ r1 < [p + y] ++ r2 :=
      fun p _ _ h _ _ => cons_lt_cons_of_lt (by omega) _ _
    have two := fun p => snoc_digit_lt (fun x => [p + x]) (one p)
    have three := fun p => snoc_digit_lt (fun x => [p + x / 64, 0x80 + x % 64]) (two p)
    have four := fun p =>
      snoc_digit_lt (fun x => [p + x / 64 / 64, 0x80 + x / 64 % 64, 0x80 + x % 64]) (three p)
    simp only [Nat.div_div_eq_div_mul, Nat.reduceMul] at three four
    unfold utf8EncodeChar
    by_cases d1 : d < 0x80
    · rw [if_pos d1, if_pos (by omega)]; exact cons_lt_cons_of_lt h _ _
    have c1 : ¬ c < 0x80 := by omega
    rw [if_neg d1, if_neg c1]
    by_cases d2 : d < 0x800
    · rw [if_pos d2, if_pos (by omega)]; exact two _ c d h r1 r2
    have c2 : ¬ c < 0x800 := by omega
    rw [if_neg d2, if_neg c2]
    by_cases d3 : d < 0x10000
    · rw [if_pos d3, if_pos (by omega)]; exact three _ c d h r1 r2
    · rw [if_neg d3, if_neg (by omega)]; exact four _ c d h r1 r2

theorem utf8Encode_mono : ∀ {a b : List Nat}, a < b → utf8Encode a < utf8Encode b
  | _, [], h => absurd h (List.not_lt_nil _)
  | [], d :: t, _ => by
    obtain ⟨x, r, hx, _⟩ := utf8EncodeChar_lead d
    rw [utf8Encode_cons, hx]
    exact List.nil_lt_cons _ _
  | c :: s, d :: t, h => by
    rw [utf8Encode_cons, utf8Encode_cons]
    rcases List.cons_lt_cons_iff.mp h with h1 | ⟨rfl, h2⟩
    · exact utf8EncodeChar_append_lt h1 _ _
    · exact List.append_left_lt (utf8Encode_mono h2)

/-- Byte-lexicographic order of UTF-8 encodings is code-point-lexicographic order (a strictly
monotone map on a linear order reflects the order). -/
theorem utf8Encode_lt_iff (a b : List Nat) : utf8Encode a < utf8Encode b ↔ a < b := by
  refine ⟨fun h => ?_, utf8Encode_mono⟩
  rcases str_trichotomy a b with h1 | h1 | h1
  · exact h1
  · exact absurd (h1 ▸ h) (List.lt_irrefl _)
  · exact absurd h (List.lt_asymm (utf8Encode_mono h1))

end Ruma.Canonical
