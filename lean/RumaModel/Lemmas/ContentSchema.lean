/-
  Helper lemmas for C18's schema model (`Model/ContentSchema.lean`). Core Lean only.
  Part 1: an induction principle for `Schema`; non-mutual readings of the mutual functions, with what an
  accepted input looks like under each; `allSome`.
-/
import RumaModel.Model.ContentSchema
import RumaModel.Lemmas.Canonical
import RumaModel.Lemmas.Json

namespace Ruma.ContentSchema
open Ruma Ruma.Canonical

theorem Schema.ind {P : Schema → Prop}
    (any : P .any) (scalar : ∀ n, P (.scalar n))
    (arr : ∀ e, P e → P (.arr e))
    (map : ∀ ok s, P s → P (.map ok s))
    (obj : ∀ fields keep, (∀ f ∈ fields, P f.schema) → P (.obj fields keep))
    (nullOr : ∀ s, P s → P (.nullOr s))
    (tagged : ∀ tag cases, (∀ c ∈ cases, P c.schema) → P (.tagged tag cases)) :
    ∀ s, P s := by
  intro s
  refine Schema.rec (motive_1 := P) (motive_2 := fun f => P f.schema) (motive_3 := fun c => P c.schema)
    (motive_4 := fun fs => ∀ f ∈ fs, P f.schema) (motive_5 := fun cs => ∀ c ∈ cs, P c.schema)
    any scalar arr map ?_ nullOr ?_ ?_ ?_ ?_ ?_ ?_ ?_ s
  · intro fields keep h; exact obj fields keep h
  · intro tag cases h; exact tagged tag cases h
  · intro _ _ s _ _ _ _ _ _ h; exact h
  · intro _ s h; exact h
  · intro f hf; cases hf
  · intro head tail h1 h2 f hf
    cases hf with
    | head => exact h1
    | tail _ h => exact h2 f h
  · intro c hc; cases hc
  · intro head tail h1 h2 c hc
    cases hc with
    | head => exact h1
    | tail _ h => exact h2 c h

/-- What a field contributes, as a function of what the visitor found for it. -/
def outOf (f : Field) (l : Look) : Out :=
  if f.ghost then absentOut f.req f.dflt else
  match l with
  | .dup => .fail
  | .absent => absentOut f.req f.dflt
  | .one v =>
    if f.nullAbsent && isNull v then absentOut f.req f.dflt else
    match project f.schema v with
    | some nv => if f.skip nv then .nothing else .emit nv
    | none => if f.lenient then absentOut f.req f.dflt else .fail

def Field.look (f : Field) (o : Obj) : Look := ContentSchema.look f.name f.aliases o

theorem projectField_eq (f : Field) (o : Obj) : projectField f o = outOf f (f.look o) := by
  cases f with
  | mk name aliases s req dflt na len skip ghost =>
    rw [projectField]
    simp only [Field.look, Field.name, Field.aliases, outOf, Field.ghost]
    cases ghost
    · simp only [Bool.false_eq_true, if_false]
      cases look name aliases o <;> rfl
    · rfl

/-- Assemble the written fields; the first failure fails everything. -/
def collect : List (Str × Out) → Option Obj
  | [] => some []
  | (_, .fail) :: _ => none
  | (_, .nothing) :: t => collect t
  | (k, .emit v) :: t =>
    match collect t with
    | some out => some ((k, v) :: out)
    | none => none

/-- What the fields of a struct contribute, in declaration order. -/
def outs (fs : List Field) (o : Obj) : List (Str × Out) := fs.map (fun f => (f.name, outOf f (f.look o)))

theorem projectFields_eq (fs : List Field) (o : Obj) : projectFields fs o = collect (outs fs o) := by
  induction fs with
  | nil => rw [projectFields]; rfl
  | cons f fs ih =>
    rw [projectFields, projectField_eq, ih]
    show _ = collect ((f.name, outOf f (f.look o)) :: outs fs o)
    cases outOf f (f.look o) <;> rfl

theorem projectCases_eq (cs : List Case) (t : Str) (v : JVal) :
    projectCases cs t v =
      match cs.find? (fun c => c.label == t) with
      | some c => project c.schema v
      | none => none := by
  induction cs with
  | nil => rw [projectCases]; rfl
  | cons c cs ih =>
    obtain ⟨label, s⟩ := c
    rw [projectCases, List.find?_cons, ih, Case.label]
    by_cases h : t = label
    · rw [if_pos h, h, beq_self_eq_true]; rfl
    · rw [if_neg h, beq_false_of_ne (Ne.symm h)]

/-- What a struct with a catch-all (`keep`) writes after its fields: the entries no field claims, as
`serde_json::Value`s in a map. -/
def kept (fields : List Field) (keep : Bool) (o : Obj) : Obj :=
  if keep then Obj.ofList (serdeValueO (o.filter (fun e => !known fields e.1))) else []

/-- The entry reader of a `BTreeMap<K, V>`. -/
def mapEntry (ok : Str → Bool) (s : Schema) (kv : Str × JVal) : Option (Str × JVal) :=
  if ok kv.1 then (match project s kv.2 with | some w => some (kv.1, w) | none => none) else none

theorem project_arr (e : Schema) (xs : List JVal) :
    project (.arr e) (.arr xs) = (allSome (xs.map (project e))).map .arr := by
  rw [project]; cases allSome (xs.map (project e)) <;> rfl

theorem project_map (ok : Str → Bool) (s : Schema) (kvs : List (Str × JVal)) :
    project (.map ok s) (.obj kvs) =
      (allSome (kvs.map (mapEntry ok s))).map (fun l => .obj (Obj.ofList l)) := by
  rw [project]
  show (match allSome (kvs.map (mapEntry ok s)) with | some l => _ | none => _) = _
  cases allSome (kvs.map (mapEntry ok s)) <;> rfl

theorem project_obj (fields : List Field) (keep : Bool) (o : Obj) :
    project (.obj fields keep) (.obj o) =
      (collect (outs fields o)).map (fun out => .obj (out ++ kept fields keep o)) := by
  rw [project, projectFields_eq]
  show (match collect (outs fields o) with | some out => _ | none => _) = _
  cases collect (outs fields o) <;> rfl

theorem project_tagged (tag : Str) (cases : List Case) (o : Obj) :
    project (.tagged tag cases) (.obj o) =
      (tagOf tag o).bind fun t => (cases.find? (fun c => c.label == t)).bind fun c =>
        project c.schema (.obj o) := by
  rw [project]
  cases tagOf tag o with
  | none => rfl
  | some t =>
    simp only [projectCases_eq, Option.bind_some]
    cases cases.find? (fun c => c.label == t) <;> rfl

theorem isNull_iff {v : JVal} : isNull v = true ↔ v = .null := by
  cases v <;> simp [isNull]

theorem project_nullOr (s : Schema) (v : JVal) (h : v ≠ .null) : project (.nullOr s) v = project s v := by
  cases v with
  | null => exact absurd rfl h
  | _ => simp only [project]

theorem project_nullOr_null (s : Schema) : project (.nullOr s) .null = some .null := by
  rw [project]

theorem project_arr_some {e : Schema} {v v' : JVal} (h : project (.arr e) v = some v') :
    ∃ xs ys, v = .arr xs ∧ v' = .arr ys ∧ allSome (xs.map (project e)) = some ys := by
  cases v with
  | arr xs =>
    rw [project_arr, Option.map_eq_some_iff] at h
    obtain ⟨ys, ha, rfl⟩ := h
    exact ⟨xs, ys, rfl, rfl, ha⟩
  | _ => simp only [project, reduceCtorEq] at h

theorem project_map_some {ok : Str → Bool} {s : Schema} {v v' : JVal} (h : project (.map ok s) v = some v') :
    ∃ kvs l, v = .obj kvs ∧ v' = .obj (Obj.ofList l) ∧ allSome (kvs.map (mapEntry ok s)) = some l := by
  cases v with
  | obj kvs =>
    rw [project_map, Option.map_eq_some_iff] at h
    obtain ⟨l, ha, rfl⟩ := h
    exact ⟨kvs, l, rfl, rfl, ha⟩
  | _ => simp only [project, reduceCtorEq] at h

theorem project_obj_some {fields : List Field} {keep : Bool} {v v' : JVal}
    (h : project (.obj fields keep) v = some v') :
    ∃ o out, v = .obj o ∧ v' = .obj (out ++ kept fields keep o) ∧ collect (outs fields o) = some out := by
  cases v with
  | obj o =>
    rw [project_obj, Option.map_eq_some_iff] at h
    obtain ⟨out, hc, rfl⟩ := h
    exact ⟨o, out, rfl, rfl, hc⟩
  | _ => simp only [project, reduceCtorEq] at h

theorem project_tagged_some {tag : Str} {cases : List Case} {v v' : JVal}
    (h : project (.tagged tag cases) v = some v') :
    ∃ o c, v = .obj o ∧ c ∈ cases ∧ tagOf tag o = some c.label ∧
      cases.find? (fun c' => c'.label == c.label) = some c ∧ project c.schema (.obj o) = some v' := by
  cases v with
  | obj o =>
    rw [project_tagged] at h
    obtain ⟨t, ht, h1⟩ := Option.bind_eq_some_iff.mp h
    obtain ⟨c, hf, h2⟩ := Option.bind_eq_some_iff.mp h1
    have hlab : c.label = t := by simpa using List.find?_some hf
    subst hlab
    exact ⟨o, c, rfl, List.mem_of_find?_eq_some hf, ht, hf, h2⟩
  | _ => simp only [project, reduceCtorEq] at h

theorem allSome_map_some (r : List α) : allSome (r.map some) = some r := by
  induction r with
  | nil => rfl
  | cons x t ih => simp only [List.map_cons, allSome, ih]

/-- Two lists related element by element. -/
inductive All2 (R : β → α → Prop) : List β → List α → Prop
  | nil : All2 R [] []
  | cons {x : β} {y : α} {xs : List β} {ys : List α} : R x y → All2 R xs ys → All2 R (x :: xs) (y :: ys)

theorem allSome_map_eq_some {f : β → Option α} {xs : List β} {r : List α}
    (h : allSome (xs.map f) = some r) : All2 (fun x y => f x = some y) xs r := by
  induction xs generalizing r with
  | nil => cases h; exact .nil
  | cons x t ih =>
    rw [List.map_cons] at h
    cases hx : f x with
    | none => rw [hx] at h; cases h
    | some a =>
      cases ht : allSome (t.map f) with
      | none => rw [hx, allSome, ht] at h; cases h
      | some t' => rw [hx, allSome, ht] at h; cases h; exact .cons hx (ih ht)

theorem allSome_map_of_forall₂ {f : β → Option α} {xs : List β} {r : List α}
    (h : All2 (fun x y => f x = some y) xs r) : allSome (xs.map f) = some r := by
  induction h with
  | nil => rfl
  | cons hx _ ih => simp only [List.map_cons, hx, allSome, ih]

theorem allSome_map_fix {f : α → Option α} {xs : List α} (h : ∀ x ∈ xs, f x = some x) :
    allSome (xs.map f) = some xs := by
  rw [List.map_congr_left h, allSome_map_some]

theorem allSome_eq (l : List (Option α)) :
    allSome l = if l.all Option.isSome then some (l.filterMap id) else none := by
  induction l with
  | nil => rfl
  | cons x t ih =>
    cases x with
    | none => rfl
    | some a => rw [allSome, ih]; by_cases h : t.all Option.isSome <;> simp [h]

theorem allSome_mem {f : β → Option α} {xs : List β} {r : List α} (h : allSome (xs.map f) = some r) :
    ∀ y ∈ r, ∃ x ∈ xs, f x = some y := by
  rw [allSome_eq] at h
  split at h
  · cases h
    intro y hy
    rw [List.filterMap_map] at hy
    exact List.mem_filterMap.mp hy
  · cases h

theorem allSome_perm {l l' : List (Option α)} (h : l.Perm l') :
    (allSome l = none ∧ allSome l' = none) ∨
      ∃ a a', allSome l = some a ∧ allSome l' = some a' ∧ a.Perm a' := by
  have hall : l.all Option.isSome = l'.all Option.isSome := by
    rw [Bool.eq_iff_iff, List.all_eq_true, List.all_eq_true]
    exact ⟨fun H x hx => H x (h.mem_iff.mpr hx), fun H x hx => H x (h.mem_iff.mp hx)⟩
  rw [allSome_eq, allSome_eq, hall]
  by_cases ha : l'.all Option.isSome = true
  · exact .inr ⟨_, _, if_pos ha, if_pos ha, h.filterMap id⟩
  · exact .inl ⟨if_neg ha, if_neg ha⟩

end Ruma.ContentSchema
