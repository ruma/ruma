/-
  Helper lemmas for C18's schema model, part 2: `serdeValue` facts, what a field and a struct write, and the
  fixpoint and duplicate-key theorems of `Props/C18Schema.lean` in their inductive form. Core Lean only.
-/
import RumaModel.Lemmas.ContentSchema
import RumaModel.Spec.ContentSchema
namespace Ruma.ContentSchema
open Ruma Ruma.Canonical

theorem serdeValueO_eq_map (kvs : List (Str × JVal)) :
    serdeValueO kvs = kvs.map (fun e => (e.1, serdeValue e.2)) := by
  induction kvs with
  | nil => rfl
  | cons e t ih => obtain ⟨k, v⟩ := e; rw [serdeValueO, ih]; rfl

theorem serdeValueL_eq_map (xs : List JVal) : serdeValueL xs = xs.map serdeValue := by
  induction xs with
  | nil => rfl
  | cons v t ih => rw [serdeValueL, ih]; rfl

theorem serdeValueO_keys (kvs : List (Str × JVal)) : Obj.keys (serdeValueO kvs) = Obj.keys kvs := by
  rw [serdeValueO_eq_map]; simp [Obj.keys, List.map_map]

theorem serdeValueO_fix {l : List (Str × JVal)} (h : ∀ e ∈ l, serdeValue e.2 = e.2) : serdeValueO l = l := by
  rw [serdeValueO_eq_map]
  exact (List.map_congr_left fun e he => by rw [h e he]; rfl).trans (List.map_id l)

theorem serdeValueL_fix {l : List JVal} (h : ∀ v ∈ l, serdeValue v = v) : serdeValueL l = l := by
  rw [serdeValueL_eq_map]
  exact (List.map_congr_left h).trans (List.map_id l)

mutual
theorem serdeValue_idem : ∀ v : JVal, serdeValue (serdeValue v) = serdeValue v
  | .null => rfl
  | .bool _ => rfl
  | .int _ => rfl
  | .float => rfl
  | .str _ => rfl
  | .arr xs => by
    rw [serdeValue, serdeValue, serdeValueL_fix (serdeValueL_idem xs)]
  | .obj kvs => by
    rw [serdeValue, serdeValue]
    have h : ∀ e ∈ Obj.ofList (serdeValueO kvs), serdeValue e.2 = e.2 :=
      fun e he => serdeValueO_idem kvs e (mem_ofList he)
    rw [serdeValueO_fix h, ofList_of_sorted (ofList_sorted _)]
theorem serdeValueL_idem : ∀ xs : List JVal, ∀ v ∈ serdeValueL xs, serdeValue v = v
  | [], _, h => by simp [serdeValueL] at h
  | x :: t, v, h => by
    rw [serdeValueL] at h
    cases h with
    | head => exact serdeValue_idem x
    | tail _ h => exact serdeValueL_idem t v h
theorem serdeValueO_idem : ∀ kvs : List (Str × JVal), ∀ e ∈ serdeValueO kvs, serdeValue e.2 = e.2
  | [], _, h => by simp [serdeValueO] at h
  | (k, x) :: t, e, h => by
    rw [serdeValueO] at h
    cases h with
    | head => exact serdeValue_idem x
    | tail _ h => exact serdeValueO_idem t e h
end

theorem noDupKeysL_iff (xs : List JVal) : NoDupKeysL xs ↔ ∀ v ∈ xs, NoDupKeys v := by
  induction xs with
  | nil => simp [NoDupKeysL]
  | cons v t ih => simp [NoDupKeysL, ih]

theorem noDupKeysO_iff (kvs : List (Str × JVal)) : NoDupKeysO kvs ↔ ∀ e ∈ kvs, NoDupKeys e.2 := by
  induction kvs with
  | nil => simp [NoDupKeysO]
  | cons e t ih => obtain ⟨k, v⟩ := e; simp [NoDupKeysO, ih]

mutual
theorem serdeValue_noDup : ∀ v : JVal, NoDupKeys (serdeValue v)
  | .null => trivial
  | .bool _ => trivial
  | .int _ => trivial
  | .float => trivial
  | .str _ => trivial
  | .arr xs => by
    rw [serdeValue, NoDupKeys, noDupKeysL_iff]
    exact serdeValueL_noDup xs
  | .obj kvs => by
    rw [serdeValue, NoDupKeys, noDupKeysO_iff]
    exact ⟨sorted_keys_nodup (ofList_sorted _), fun e he => serdeValueO_noDup kvs e (mem_ofList he)⟩
theorem serdeValueL_noDup : ∀ xs : List JVal, ∀ v ∈ serdeValueL xs, NoDupKeys v
  | [], _, h => by simp [serdeValueL] at h
  | x :: t, v, h => by
    rw [serdeValueL] at h
    cases h with
    | head => exact serdeValue_noDup x
    | tail _ h => exact serdeValueL_noDup t v h
theorem serdeValueO_noDup : ∀ kvs : List (Str × JVal), ∀ e ∈ serdeValueO kvs, NoDupKeys e.2
  | [], _, h => by simp [serdeValueO] at h
  | (k, x) :: t, e, h => by
    rw [serdeValueO] at h
    cases h with
    | head => exact serdeValue_noDup x
    | tail _ h => exact serdeValueO_noDup t e h
end

mutual
theorem shuffled_serdeValue : ∀ {v w : JVal}, Shuffled v w → serdeValue v = serdeValue w
  | _, _, .atom _ => rfl
  | _, _, .arr h => by rw [serdeValue, serdeValue, shuffledL_serdeValue h]
  | _, _, .obj (kvs := kvs) (mid := mid) (kvs' := kvs') h hp hnd => by
    rw [serdeValue, serdeValue, shuffledO_serdeValue h]
    have hp' : (serdeValueO mid).Perm (serdeValueO kvs') := by
      rw [serdeValueO_eq_map, serdeValueO_eq_map]; exact hp.map _
    refine congrArg JVal.obj (ofList_perm hp' ?_)
    rw [serdeValueO_keys, ← shuffledO_keys h]; exact hnd
theorem shuffledL_serdeValue : ∀ {xs ys : List JVal}, ShuffledL xs ys → serdeValueL xs = serdeValueL ys
  | _, _, .nil => rfl
  | _, _, .cons h t => by rw [serdeValueL, serdeValueL, shuffled_serdeValue h, shuffledL_serdeValue t]
theorem shuffledO_serdeValue : ∀ {a b : List (Str × JVal)}, ShuffledO a b → serdeValueO a = serdeValueO b
  | _, _, .nil => rfl
  | _, _, .cons h t => by rw [serdeValueO, serdeValueO, shuffled_serdeValue h, shuffledO_serdeValue t]
end

theorem serdeValue_null {v : JVal} (h : serdeValue v = .null) : v = .null := by
  cases v <;> simp [serdeValue] at h ⊢

/-- What `project s` makes of an accepted value `v`: it is read back unchanged, no object in it has a
key twice, and it is `null` only if `v` was. -/
structure Normal (s : Schema) (v v' : JVal) : Prop where
  idem : project s v' = some v'
  noDup : NoDupKeys v'
  null : v' = .null → v = .null

theorem absentOut_emit {req : Bool} {dflt : Option JVal} {d : JVal} :
    absentOut req dflt = .emit d ↔ req = false ∧ dflt = some d := by
  unfold absentOut
  cases req <;> cases dflt <;> simp

theorem absentOut_omit {req : Bool} {dflt : Option JVal} :
    absentOut req dflt = .nothing ↔ req = false ∧ dflt = none := by
  unfold absentOut
  cases req <;> cases dflt <;> simp

theorem outOf_ghost {f : Field} (h : f.ghost = true) (l : Look) : outOf f l = absentOut f.req f.dflt := by
  simp [outOf, h]
theorem outOf_absent (f : Field) : outOf f .absent = absentOut f.req f.dflt := by
  unfold outOf; cases f.ghost <;> rfl
theorem outOf_one {f : Field} (h : f.ghost = false) (v : JVal) :
    outOf f (.one v) =
      if (f.nullAbsent && isNull v) = true then absentOut f.req f.dflt else
      match project f.schema v with
      | some nv => if f.skip nv = true then .nothing else .emit nv
      | none => if f.lenient = true then absentOut f.req f.dflt else .fail := by
  unfold outOf; rw [h]; rfl

theorem outOf_cases (f : Field) (l : Look) (r : Out) (h : outOf f l = r) :
    r = .fail ∨ absentOut f.req f.dflt = r ∨
      ∃ v0 nv, f.ghost = false ∧ l = .one v0 ∧ (f.nullAbsent && isNull v0) = false ∧ project f.schema v0 = some nv ∧
        r = (if f.skip nv = true then .nothing else .emit nv) := by
  unfold outOf at h
  grind

theorem outOf_reread {f : Field} (hok : f.Ok)
    (ih : ∀ v v', project f.schema v = some v' → Normal f.schema v v') (l : Look) :
    (∀ v, outOf f l = .emit v → outOf f (.one v) = .emit v ∧ NoDupKeys v) ∧
    (outOf f l = .nothing → outOf f .absent = .nothing) := by
  have hdflt : ∀ d, absentOut f.req f.dflt = .emit d → outOf f (.one d) = .emit d ∧ NoDupKeys d := by
    intro d hd
    obtain ⟨_, hd2⟩ := absentOut_emit.mp hd
    have hnd : NoDupKeys d := by
      rcases hok.2 d hd2 with ⟨_, rfl⟩ | h
      · trivial
      · exact (ih d d h).noDup
    refine ⟨?_, hnd⟩
    cases hg : f.ghost with
    | true => rw [outOf_ghost hg]; exact hd
    | false =>
    rw [outOf_one hg]
    by_cases hc : (f.nullAbsent && isNull d) = true
    · rw [if_pos hc]; exact hd
    · rw [if_neg hc]
      rcases hok.2 d hd2 with ⟨h1, h2⟩ | h
      · subst h2; simp [h1, isNull] at hc
      · rw [h]
        have : f.skip d = false := hok.1 (.inr (by rw [hd2]; rfl)) d
        simp [this]
  have hskip : ∀ nv, f.skip nv = true → absentOut f.req f.dflt = .nothing := by
    intro nv hs
    apply absentOut_omit.mpr
    constructor
    · cases hr : f.req with
      | false => rfl
      | true => have := hok.1 (.inl hr) nv; rw [hs] at this; cases this
    · cases hdf : f.dflt with
      | none => rfl
      | some d => have := hok.1 (.inr (by rw [hdf]; rfl)) nv; rw [hs] at this; cases this
  constructor
  · intro v h
    rcases outOf_cases f l _ h with h1 | h1 | ⟨v0, nv, hg, _, hc, hp, hr⟩
    · cases h1
    · exact hdflt v h1
    · by_cases hs : f.skip nv = true
      · rw [if_pos hs] at hr; cases hr
      · rw [if_neg hs] at hr
        simp only [Out.emit.injEq] at hr
        subst hr
        refine ⟨?_, (ih v0 v hp).noDup⟩
        have hc' : ¬ (f.nullAbsent && isNull v) = true := by
          intro hcn
          simp only [Bool.and_eq_true] at hcn
          have hv : v = .null := by
            cases v <;> simp [isNull] at hcn ⊢
          have := (ih v0 v hp).null hv
          subst this
          simp [hcn.1, isNull] at hc
        rw [outOf_one hg, if_neg hc', (ih v0 v hp).idem]
        simp [hs]
  · intro h
    rw [outOf_absent]
    rcases outOf_cases f l _ h with h1 | h1 | ⟨v0, nv, _, _, hc, hp, hr⟩
    · cases h1
    · exact h1
    · by_cases hs : f.skip nv = true
      · exact hskip nv hs
      · rw [if_neg hs] at hr; cases hr

/-- The entry a field writes, if any. -/
def written (o : Obj) (f : Field) : Option (Str × JVal) :=
  match outOf f (f.look o) with
  | .emit v => some (f.name, v)
  | _ => none

theorem written_some {o : Obj} {f : Field} {e : Str × JVal} (h : written o f = some e) :
    f.name = e.1 ∧ outOf f (f.look o) = .emit e.2 := by
  unfold written at h
  cases ho : outOf f (f.look o) <;> rw [ho] at h <;> cases h
  exact ⟨rfl, rfl⟩

theorem collect_outs : ∀ {fs : List Field} {o out : Obj}, collect (outs fs o) = some out →
    out = fs.filterMap (written o) ∧ ∀ f ∈ fs, outOf f (f.look o) ≠ .fail
  | [], _, out, h => by
    simp only [outs, List.map_nil, collect, Option.some.injEq] at h
    exact ⟨h.symm, nofun⟩
  | g :: fs', o, out, h => by
    change collect ((g.name, outOf g (g.look o)) :: outs fs' o) = some out at h
    rw [List.filterMap_cons, written]
    cases hg : outOf g (g.look o) with
    | fail => rw [hg] at h; simp [collect] at h
    | nothing =>
      rw [hg, collect] at h
      obtain ⟨h1, h2⟩ := collect_outs h
      exact ⟨h1, fun f hf => (List.mem_cons.mp hf).elim (fun e => by rw [e, hg]; nofun) (h2 f)⟩
    | emit v =>
      rw [hg, collect] at h
      cases ht : collect (outs fs' o) with
      | none => rw [ht] at h; cases h
      | some out' =>
        rw [ht] at h
        obtain ⟨h1, h2⟩ := collect_outs ht
        exact ⟨by rw [← Option.some.inj h, h1],
          fun f hf => (List.mem_cons.mp hf).elim (fun e => by rw [e, hg]; nofun) (h2 f)⟩

theorem spelledBy_self (f : Field) : f.spelledBy f.name = true := by
  simp [Field.spelledBy, spells]

theorem known_of_mem {fs : List Field} {f : Field} {k : Str} (hf : f ∈ fs) (h : f.spelledBy k = true) :
    known fs k = true := List.any_eq_true.mpr ⟨f, hf, h⟩

theorem out_key_is_name {fs : List Field} {o out : Obj} (h : collect (outs fs o) = some out) :
    ∀ e ∈ out, ∃ g ∈ fs, g.name = e.1 ∧ outOf g (g.look o) = .emit e.2 := by
  intro e he
  rw [(collect_outs h).1, List.mem_filterMap] at he
  obtain ⟨g, hg, hw⟩ := he
  exact ⟨g, hg, written_some hw⟩

theorem out_known {fs : List Field} {o out : Obj} (h : collect (outs fs o) = some out) :
    ∀ e ∈ out, known fs e.1 = true := by
  intro e he
  obtain ⟨g, hg, hn, _⟩ := out_key_is_name h e he
  exact known_of_mem hg (hn ▸ spelledBy_self g)

theorem distinct_ne {fs : List Field} (hd : Distinct fs) {a b : Field} (ha : a ∈ fs) (hb : b ∈ fs)
    (hab : a ≠ b) : a.spelledBy b.name = false := by
  let R (a b : Field) := a ≠ b → a.spelledBy b.name = false ∧ b.spelledBy a.name = false
  have h1 : fs.Pairwise R := List.Pairwise.imp (S := R) (fun h _ => h) hd
  have h2 : fs.Pairwise (flip R) := List.Pairwise.imp (S := flip R) (fun h _ => h.symm) hd
  exact (List.Pairwise.forall_of_forall_of_flip (fun _ _ h => absurd rfl h) h1 h2 ha hb hab).1

theorem out_keys_nodup {fs : List Field} {o out : Obj} (hd : Distinct fs)
    (h : collect (outs fs o) = some out) : (Obj.keys out).Nodup := by
  rw [(collect_outs h).1]
  refine List.pairwise_map.mpr (hd.filterMap (written o) ?_)
  intro a a' hr b hb b' hb' hbb
  have := hr.1
  rw [(written_some hb').1, ← hbb, ← (written_some hb).1, spelledBy_self] at this
  cases this

theorem filterMap_of_pairwise {R : α → α → Prop} {h : α → Option β} {a : α} :
    ∀ {l : List α}, l.Pairwise R → a ∈ l → (∀ x, R a x → h x = none) → (∀ x, R x a → h x = none) →
      l.filterMap h = (h a).toList
  | x :: t, hp, ha, h1, h2 => by
    obtain ⟨hx, ht⟩ := List.pairwise_cons.mp hp
    rcases List.mem_cons.mp ha with rfl | ha
    · have : t.filterMap h = [] := List.filterMap_eq_nil_iff.mpr (fun y hy => h1 y (hx y hy))
      rw [List.filterMap_cons, this]
      cases h a <;> rfl
    · rw [List.filterMap_cons_none (h2 x (hx a ha))]
      exact filterMap_of_pairwise ht ha h1 h2

theorem filter_out_self {fs : List Field} {o out : Obj} (hd : Distinct fs)
    (h : collect (outs fs o) = some out) {f : Field} (hf : f ∈ fs) :
    out.filter (fun e => f.spelledBy e.1) = (written o f).toList := by
  have hw : (written o f).filter (fun e => f.spelledBy e.1) = written o f := by
    cases hf' : written o f with
    | none => rfl
    | some e => simp [Option.filter, ← (written_some hf').1, spelledBy_self]
  have hne : ∀ g, f.spelledBy g.name = false → (written o g).filter (fun e => f.spelledBy e.1) = none := by
    intro g hg
    cases hg' : written o g with
    | none => rfl
    | some e => simp [Option.filter, ← (written_some hg').1, hg]
  rw [(collect_outs h).1, List.filter_filterMap,
    filterMap_of_pairwise hd hf (fun g hr => hne g hr.1) (fun g hr => hne g hr.2), hw]

theorem kept_unknown {fields : List Field} {keep : Bool} {o : Obj} :
    ∀ e ∈ kept fields keep o, known fields e.1 = false ∧ serdeValue e.2 = e.2 ∧ NoDupKeys e.2 := by
  intro e he
  unfold kept at he
  cases keep with
  | false => simp at he
  | true =>
    simp only [if_true] at he
    have h1 := mem_ofList he
    refine ⟨?_, serdeValueO_idem _ e h1, serdeValueO_noDup _ e h1⟩
    rw [serdeValueO_eq_map, List.mem_map] at h1
    obtain ⟨e0, he0, rfl⟩ := h1
    simpa using (List.mem_filter.mp he0).2

theorem kept_sorted (fields : List Field) (keep : Bool) (o : Obj) : Obj.Sorted (kept fields keep o) := by
  unfold kept
  cases keep with
  | false => exact List.Pairwise.nil
  | true => exact ofList_sorted _

theorem kept_fix {fields : List Field} {keep : Bool} {o out : Obj} (h : ∀ e ∈ out, known fields e.1 = true) :
    kept fields keep (out ++ kept fields keep o) = kept fields keep o := by
  have hf : (out ++ kept fields keep o).filter (fun e => !known fields e.1) = kept fields keep o := by
    rw [List.filter_append, List.filter_eq_nil_iff.mpr (fun e he => by simp [h e he]), List.nil_append]
    exact List.filter_eq_self.mpr (fun e he => by simp [(kept_unknown e he).1])
  cases keep with
  | false => rfl
  | true =>
    have hk : ∀ l, kept fields true l = Obj.ofList (serdeValueO (l.filter fun e => !known fields e.1)) :=
      fun _ => rfl
    rw [hk (out ++ _), hf, serdeValueO_fix (fun e he => (kept_unknown e he).2.1)]
    exact ofList_of_sorted (kept_sorted ..)

theorem look_append (f : Field) (a b : Obj) :
    f.look (a ++ b) = pick (a.filter (fun e => f.spelledBy e.1) ++ b.filter (fun e => f.spelledBy e.1)) := by
  simp only [Field.look, look, List.filter_append]; rfl

theorem look_out {fields : List Field} {keep : Bool} {o out : Obj} (hd : Distinct fields)
    (hc : collect (outs fields o) = some out) {f : Field} (hf : f ∈ fields) :
    f.look (out ++ kept fields keep o) =
      match outOf f (f.look o) with
      | .emit v => .one v
      | _ => .absent := by
  have hr : (kept fields keep o).filter (fun e => f.spelledBy e.1) = [] := by
    rw [List.filter_eq_nil_iff]
    intro e he hsp
    have := known_of_mem hf hsp
    rw [(kept_unknown e he).1] at this; cases this
  rw [look_append, hr, List.append_nil, filter_out_self hd hc hf, written]
  cases outOf f (f.look o) <;> rfl

/-- The struct case of `project_normal`. -/
theorem obj_normal {fields : List Field} {keep : Bool} (hok : ∀ f ∈ fields, f.Ok) (hd : Distinct fields)
    (ih : ∀ f ∈ fields, ∀ v v', project f.schema v = some v' → Normal f.schema v v')
    {o out : Obj} (hc : collect (outs fields o) = some out) :
    Normal (.obj fields keep) (.obj o) (.obj (out ++ kept fields keep o)) := by
  have hre := fun f (hf : f ∈ fields) => outOf_reread (hok f hf) (ih f hf) (f.look o)
  refine ⟨?_, ?_, nofun⟩
  · -- every field reads back what it wrote
    have houts : outs fields (out ++ kept fields keep o) = outs fields o :=
      List.map_congr_left (fun f hf => by
        rw [look_out hd hc hf]
        cases hof : outOf f (f.look o) with
        | fail => exact absurd hof ((collect_outs hc).2 f hf)
        | nothing => rw [(hre f hf).2 hof]
        | emit v => rw [((hre f hf).1 v hof).1])
    rw [project_obj, houts, hc, kept_fix (out_known hc)]; rfl
  · rw [NoDupKeys, noDupKeysO_iff]
    constructor
    · simp only [Obj.keys, List.map_append]
      rw [List.nodup_append]
      refine ⟨out_keys_nodup hd hc, sorted_keys_nodup (kept_sorted ..), ?_⟩
      intro a ha b hb hab
      obtain ⟨e, he, rfl⟩ := List.mem_map.mp ha
      obtain ⟨e', he', hk⟩ := List.mem_map.mp hb
      have h2 := (kept_unknown e' he').1
      rw [hk, ← hab, out_known hc e he] at h2
      cases h2
    · intro e he
      rcases List.mem_append.mp he with he | he
      · obtain ⟨g, hg, _, hout⟩ := out_key_is_name hc e he
        exact ((hre g hg).1 _ hout).2
      · exact (kept_unknown e he).2.2

theorem project_scalar (norm : JVal → Option JVal) (v : JVal) :
    project (.scalar norm) v =
      if isScalar v = true then
        (match norm v with
         | some b => if isScalar b = true then some b else none
         | none => none)
      else none := by
  rw [project]; rfl

theorem project_scalar_some {norm : JVal → Option JVal} {v v' : JVal} (h : project (.scalar norm) v = some v') :
    isScalar v = true ∧ norm v = some v' ∧ isScalar v' = true := by
  rw [project_scalar] at h
  grind

theorem noDupKeys_of_scalar {v : JVal} (h : isScalar v = true) : NoDupKeys v := by
  cases v <;> simp [isScalar, NoDupKeys] at h ⊢

theorem tagOf_eq_some {tag : Str} {o : Obj} {t : Str} (h : tagOf tag o = some t) :
    ∃ e, o.filter (fun e => e.1 == tag) = [e] ∧ e.2 = .str t := by
  unfold tagOf at h
  match hf : o.filter (fun e => e.1 == tag) with
  | [] => rw [hf] at h; simp [pick] at h
  | [e] =>
    rw [hf] at h
    simp only [pick] at h
    refine ⟨e, hf, ?_⟩
    cases h2 : e.2 <;> rw [h2] at h <;> simp at h
    rw [h]
  | _ :: _ :: _ => rw [hf] at h; simp [pick] at h

/-- The selector of `tagOf` on what the visitor found. -/
def tagSel : Look → Option Str
  | .one (.str s) => some s
  | _ => none

theorem tagOf_eq (tag : Str) (o : Obj) : tagOf tag o = tagSel (pick (o.filter (fun e => e.1 == tag))) := by
  unfold tagOf
  cases h : pick (o.filter (fun e => e.1 == tag)) with
  | absent => rfl
  | dup => rfl
  | one v => cases v <;> rfl

theorem tagFixed_out {tag label : Str} {s : Schema} (hwf : WF s) (htf : TagFixed tag label s)
    {o : Obj} {v' : JVal} (h : project s (.obj o) = some v') :
    ∃ o', v' = .obj o' ∧ tagOf tag o' = some label := by
  obtain ⟨fields, keep, rfl, f, hf, hname, hreq, hgh, norm, hs, hnorm⟩ := htf
  cases hwf with
  | obj _ hok hd _ =>
    obtain ⟨_, out, ho, rfl, hc⟩ := project_obj_some h
    cases ho
    refine ⟨_, rfl, ?_⟩
    have hemit : outOf f (f.look o) = .emit (.str label) := by
      have hnf := (collect_outs hc).2 f hf
      rcases outOf_cases f (f.look o) _ rfl with h1 | h1 | ⟨v0, nv, _, _, _, hp, hr⟩
      · exact absurd h1 hnf
      · unfold absentOut at h1
        rw [hreq] at h1
        exact absurd h1.symm hnf
      · have hsk : f.skip nv = false := (hok f hf).1 (.inl hreq) nv
        rw [hr, hsk]
        simp only [Bool.false_eq_true, if_false, Out.emit.injEq]
        rw [hs] at hp
        exact hnorm v0 nv (project_scalar_some hp).2.1
    have hsp : ∀ e ∈ out ++ kept fields keep o, (e.1 == tag) = f.spelledBy e.1 := by
      intro e he
      by_cases hk : e.1 = tag
      · rw [hk, ← hname, spelledBy_self]; simp
      · have h2 : (e.1 == tag) = false := by simpa using hk
        rw [h2]; symm
        rcases List.mem_append.mp he with he | he
        · obtain ⟨g, hg, hn, _⟩ := out_key_is_name hc e he
          rw [← hn]
          exact distinct_ne hd hf hg (fun e' => hk (by rw [← hn, ← e', hname]))
        · cases hsb : f.spelledBy e.1 with
          | false => rfl
          | true => have := known_of_mem hf hsb; rw [(kept_unknown e he).1] at this; cases this
    rw [tagOf_eq, List.filter_congr hsp]
    change tagSel (f.look (out ++ kept fields keep o)) = _
    rw [look_out hd hc hf, hemit]; rfl

theorem mapEntry_some {ok : Str → Bool} {s : Schema} {kv e : Str × JVal} (h : mapEntry ok s kv = some e) :
    ok kv.1 = true ∧ e.1 = kv.1 ∧ project s kv.2 = some e.2 := by
  unfold mapEntry at h
  grind

/-- Under a well-formed schema, what `project` yields is read back unchanged, has no duplicate keys, and
is `null` only for `null`: the three are proved together because the struct case of the first needs
the third for the fields' types. -/
theorem project_normal : ∀ (s : Schema), WF s → ∀ v v', project s v = some v' → Normal s v v' := by
  intro s
  induction s using Schema.ind with
  | any =>
    intro _ v v' h
    rw [project] at h
    cases h
    exact ⟨by rw [project, serdeValue_idem], serdeValue_noDup v, serdeValue_null⟩
  | scalar n =>
    intro hwf v v' h
    cases hwf with
    | scalar hn hnull =>
      obtain ⟨_, h2, h3⟩ := project_scalar_some h
      exact ⟨by rw [project_scalar, if_pos h3, hn v v' h2]; simp [h3], noDupKeys_of_scalar h3,
        fun e => hnull v (e ▸ h2)⟩
  | arr e ih =>
    intro hwf v v' h
    cases hwf with
    | arr he =>
      obtain ⟨xs, ys, rfl, rfl, ha⟩ := project_arr_some h
      have hy : ∀ y ∈ ys, project e y = some y ∧ NoDupKeys y := fun y hy =>
        let ⟨x, _, hxy⟩ := allSome_mem ha y hy; ⟨(ih he x y hxy).idem, (ih he x y hxy).noDup⟩
      refine ⟨?_, ?_, nofun⟩
      · rw [project_arr, allSome_map_fix (fun y h => (hy y h).1)]; rfl
      · rw [NoDupKeys, noDupKeysL_iff]; exact fun y h => (hy y h).2
  | map ok s ih =>
    intro hwf v v' h
    cases hwf with
    | map hs =>
      obtain ⟨kvs, l, rfl, rfl, ha⟩ := project_map_some h
      have hl : ∀ e ∈ Obj.ofList l, mapEntry ok s e = some e ∧ NoDupKeys e.2 := by
        intro e he
        obtain ⟨kv, _, hkv⟩ := allSome_mem ha e (mem_ofList he)
        obtain ⟨h1, h2, h3⟩ := mapEntry_some hkv
        refine ⟨?_, (ih hs _ _ h3).noDup⟩
        unfold mapEntry
        rw [h2, if_pos h1, (ih hs _ _ h3).idem, ← h2]
      refine ⟨?_, ?_, nofun⟩
      · rw [project_map, allSome_map_fix (fun e he => (hl e he).1), Option.map_some,
          ofList_of_sorted (ofList_sorted _)]
      · rw [NoDupKeys, noDupKeysO_iff]
        exact ⟨sorted_keys_nodup (ofList_sorted _), fun e he => (hl e he).2⟩
  | obj fields keep ih =>
    intro hwf v v' h
    cases hwf with
    | obj hsub hok hd _ =>
      obtain ⟨o, out, rfl, rfl, hc⟩ := project_obj_some h
      exact obj_normal hok hd (fun f hf => ih f hf (hsub f hf)) hc
  | nullOr s ih =>
    intro hwf v v' h
    cases hwf with
    | nullOr hs =>
      by_cases hv : v = .null
      · subst hv
        rw [project_nullOr_null] at h
        cases h
        exact ⟨project_nullOr_null s, trivial, fun _ => rfl⟩
      · rw [project_nullOr _ _ hv] at h
        have hn := ih hs _ _ h
        refine ⟨?_, hn.noDup, hn.null⟩
        by_cases hv' : v' = .null
        · subst hv'; exact project_nullOr_null s
        · rw [project_nullOr _ _ hv']; exact hn.idem
  | tagged tag cases ih =>
    intro hwf v v' h
    cases hwf with
    | tagged hsub htf =>
      obtain ⟨o, c, rfl, hc, _, hf, h⟩ := project_tagged_some h
      have hn := ih c hc (hsub c hc) _ _ h
      obtain ⟨o', rfl, ho'⟩ := tagFixed_out (hsub c hc) (htf c hc) h
      refine ⟨?_, hn.noDup, nofun⟩
      rw [project_tagged, ho', Option.bind_some, hf, Option.bind_some]
      exact hn.idem

end Ruma.ContentSchema
