/-
  Helper lemmas for C18's schema model, part 3: `project` reads two inputs alike when every field, element
  and case does (`SameRead`); from that, independence of key order (`Shuffled`) and of unknown fields
  (`Ext`). Core Lean only.
-/
import RumaModel.Lemmas.ContentSchemaThm
namespace Ruma.ContentSchema
open Ruma Ruma.Canonical

/-- What relates two values read under `s` for the purposes of a field: same result, same
`null`-ness. -/
def SameRead (s : Schema) (v w : JVal) : Prop := project s v = project s w ∧ isNull v = isNull w

inductive LookRel (R : JVal → JVal → Prop) : Look → Look → Prop
  | absent : LookRel R .absent .absent
  | dup : LookRel R .dup .dup
  | one {v w : JVal} : R v w → LookRel R (.one v) (.one w)

theorem outOf_lookRel {f : Field} {R : JVal → JVal → Prop} (hR : ∀ v w, R v w → SameRead f.schema v w)
    {l1 l2 : Look} (h : LookRel R l1 l2) : outOf f l1 = outOf f l2 := by
  cases h with
  | absent => rfl
  | dup => rfl
  | one hvw =>
    obtain ⟨h1, h2⟩ := hR _ _ hvw
    unfold outOf
    simp only [h1, h2]

theorem project_obj_congr {R : Field → JVal → JVal → Prop} {fields : List Field} {keep : Bool} {a b : Obj}
    (hR : ∀ f ∈ fields, ∀ v w, R f v w → SameRead f.schema v w)
    (hl : ∀ f ∈ fields, LookRel (R f) (f.look a) (f.look b)) (hk : kept fields keep a = kept fields keep b) :
    project (.obj fields keep) (.obj a) = project (.obj fields keep) (.obj b) := by
  have houts : outs fields a = outs fields b :=
    List.map_congr_left fun f hf => by rw [outOf_lookRel (hR f hf) (hl f hf)]
  rw [project_obj, project_obj, houts, hk]

theorem project_nullOr_congr {s : Schema} {v w : JVal} (h : SameRead s v w) :
    project (.nullOr s) v = project (.nullOr s) w := by
  have hvw : v = .null ↔ w = .null := by rw [← isNull_iff, ← isNull_iff, h.2]
  by_cases hv : v = .null
  · rw [hv, hvw.mp hv]
  · rw [project_nullOr _ _ hv, project_nullOr _ _ (mt hvw.mpr hv), h.1]

theorem project_tagged_congr {tag : Str} {cases : List Case} {a b : Obj} (ht : tagOf tag a = tagOf tag b)
    (hc : ∀ c ∈ cases, tagOf tag a = some c.label → project c.schema (.obj a) = project c.schema (.obj b)) :
    project (.tagged tag cases) (.obj a) = project (.tagged tag cases) (.obj b) := by
  rw [project_tagged, project_tagged, ← ht]
  cases hta : tagOf tag a with
  | none => rfl
  | some t =>
    cases hf : cases.find? (fun c => c.label == t) with
    | none => simp only [Option.bind_some, hf, Option.bind_none]
    | some c =>
      have hlab : c.label = t := by simpa using List.find?_some hf
      simp only [Option.bind_some, hf]
      exact hc c (List.mem_of_find?_eq_some hf) (by rw [hta, hlab])

/-- Entry lists with the same keys in the same order and related values. -/
def EntriesRel (R : JVal → JVal → Prop) : List (Str × JVal) → List (Str × JVal) → Prop :=
  All2 (fun x y => x.1 = y.1 ∧ R x.2 y.2)

theorem entriesRel_filter {R : JVal → JVal → Prop} (p : Str → Bool) {a b : List (Str × JVal)}
    (h : EntriesRel R a b) : EntriesRel R (a.filter (fun e => p e.1)) (b.filter (fun e => p e.1)) := by
  induction h with
  | nil => exact .nil
  | @cons x y xs ys hxy _ ih =>
    rw [List.filter_cons, List.filter_cons, ← hxy.1]
    by_cases hp : p x.1 = true
    · rw [if_pos hp, if_pos hp]; exact .cons hxy ih
    · rw [if_neg hp, if_neg hp]; exact ih

theorem entriesRel_keys {R : JVal → JVal → Prop} {a b : List (Str × JVal)} (h : EntriesRel R a b) :
    Obj.keys a = Obj.keys b := by
  induction h with
  | nil => rfl
  | cons hxy _ ih => simp only [Obj.keys, List.map_cons, hxy.1]; exact congrArg _ ih

theorem pick_rel {R : JVal → JVal → Prop} {A B C : List (Str × JVal)} (h : EntriesRel R A B) (hp : B.Perm C) :
    LookRel R (pick A) (pick C) := by
  cases h with
  | nil =>
    have := hp.nil_eq; subst this; exact .absent
  | cons hxy ht =>
    cases ht with
    | nil =>
      have := List.singleton_perm.mp hp; subst this
      exact .one hxy.2
    | cons _ _ =>
      have hl := hp.length_eq
      match C, hl with
      | _ :: _ :: _, _ => exact .dup

theorem entriesRel_map {R : JVal → JVal → Prop} {g : Str × JVal → β}
    (hg : ∀ x y : Str × JVal, x.1 = y.1 → R x.2 y.2 → g x = g y) {a b : List (Str × JVal)}
    (h : EntriesRel R a b) : a.map g = b.map g := by
  induction h with
  | nil => rfl
  | cons hxy _ ih => simp only [List.map_cons, hg _ _ hxy.1 hxy.2, ih]

theorem shuffled_isNull {v w : JVal} (h : Shuffled v w) : isNull v = isNull w := by
  cases h <;> rfl

theorem shuffledL_map {f : JVal → β} (hf : ∀ v w, Shuffled v w → f v = f w) :
    ∀ {xs ys : List JVal}, ShuffledL xs ys → xs.map f = ys.map f
  | _, _, .nil => rfl
  | _, _, .cons h t => by simp only [List.map_cons, hf _ _ h, shuffledL_map hf t]

theorem shuffledO_entriesRel : ∀ {a b : List (Str × JVal)}, ShuffledO a b → EntriesRel Shuffled a b
  | _, _, .nil => .nil
  | _, _, .cons h t => .cons ⟨rfl, h⟩ (shuffledO_entriesRel t)

theorem entriesRel_shuffledO : ∀ {a b : List (Str × JVal)}, EntriesRel Shuffled a b → ShuffledO a b := by
  intro a b h
  induction h with
  | nil => exact .nil
  | @cons x y xs ys hxy _ ih =>
    obtain ⟨k, v⟩ := x
    obtain ⟨k', w⟩ := y
    simp only at hxy
    obtain ⟨rfl, hvw⟩ := hxy
    exact .cons hvw ih

theorem mapEntry_congr {ok : Str → Bool} {s : Schema} {x y : Str × JVal} (hk : x.1 = y.1)
    (hv : project s x.2 = project s y.2) : mapEntry ok s x = mapEntry ok s y := by
  unfold mapEntry
  rw [hk, hv]

theorem allSome_mapEntry_keys {ok : Str → Bool} {s : Schema} :
    ∀ {l a : List (Str × JVal)}, allSome (l.map (mapEntry ok s)) = some a → Obj.keys a = Obj.keys l := by
  intro l a h
  have := allSome_map_eq_some h
  clear h
  induction this with
  | nil => rfl
  | cons hxy _ ih =>
    simp only [Obj.keys, List.map_cons]
    rw [(mapEntry_some hxy).2.1]
    exact congrArg _ ih

theorem tagSel_rel {l1 l2 : Look} (h : LookRel Shuffled l1 l2) : tagSel l1 = tagSel l2 := by
  cases h with
  | absent => rfl
  | dup => rfl
  | one hvw => cases hvw <;> rfl

theorem map_perm_project {ok : Str → Bool} {s : Schema} {kvs mid kvs' : List (Str × JVal)}
    (h1 : kvs.map (mapEntry ok s) = mid.map (mapEntry ok s)) (hk : Obj.keys kvs = Obj.keys mid)
    (hp : mid.Perm kvs') (hnd : (Obj.keys kvs).Nodup) :
    project (.map ok s) (.obj kvs) = project (.map ok s) (.obj kvs') := by
  rw [project_map, project_map, h1]
  rcases allSome_perm (hp.map (mapEntry ok s)) with ⟨e1, e2⟩ | ⟨a, a', e1, e2, hpa⟩
  · rw [e1, e2]
  · have hka : Obj.keys a = Obj.keys mid := allSome_mapEntry_keys e1
    rw [e1, e2, Option.map_some, Option.map_some, ofList_perm hpa (by rw [hka, ← hk]; exact hnd)]

theorem keys_filter_nodup {o : List (Str × JVal)} (p : Str × JVal → Bool) (h : (Obj.keys o).Nodup) :
    (Obj.keys (o.filter p)).Nodup :=
  List.Nodup.sublist (List.Sublist.map _ List.filter_sublist) h

theorem kept_shuffled {fields : List Field} {keep : Bool} {kvs mid kvs' : List (Str × JVal)}
    (ho : ShuffledO kvs mid) (hp : mid.Perm kvs') (hnd : (Obj.keys kvs).Nodup) :
    kept fields keep kvs = kept fields keep kvs' := by
  cases keep with
  | false => rfl
  | true =>
  show Obj.ofList (serdeValueO (kvs.filter (fun e => (fun k => !known fields k) e.1))) =
    Obj.ofList (serdeValueO (kvs'.filter (fun e => (fun k => !known fields k) e.1)))
  generalize (fun k => !known fields k) = q
  have h1 : ShuffledO (kvs.filter (fun e => q e.1)) (mid.filter (fun e => q e.1)) :=
    entriesRel_shuffledO (entriesRel_filter q (shuffledO_entriesRel ho))
  rw [shuffledO_serdeValue h1]
  have h2 : (serdeValueO (mid.filter (fun e => q e.1))).Perm (serdeValueO (kvs'.filter (fun e => q e.1))) := by
    rw [serdeValueO_eq_map, serdeValueO_eq_map]
    exact (hp.filter _).map _
  apply ofList_perm h2
  rw [serdeValueO_keys]
  apply keys_filter_nodup
  rw [← shuffledO_keys ho]; exact hnd

theorem tagOf_shuffled {tag : Str} {kvs mid kvs' : List (Str × JVal)}
    (ho : ShuffledO kvs mid) (hp : mid.Perm kvs') : tagOf tag kvs = tagOf tag kvs' := by
  rw [tagOf_eq, tagOf_eq]
  exact tagSel_rel (pick_rel (entriesRel_filter (fun k => k == tag) (shuffledO_entriesRel ho)) (hp.filter _))

theorem shuffled_project : ∀ (s : Schema) (v w : JVal), Shuffled v w → project s v = project s w := by
  intro s
  induction s using Schema.ind with
  | any => intro v w h; rw [project, project, shuffled_serdeValue h]
  | scalar n =>
    intro v w h
    cases h with
    | atom => rfl
    | arr _ => rw [project_scalar, project_scalar]; rfl
    | obj _ _ _ => rw [project_scalar, project_scalar]; rfl
  | arr e ih =>
    intro v w h
    cases h with
    | atom => rfl
    | arr hl => rw [project, project, shuffledL_map ih hl]
    | obj _ _ _ => simp [project]
  | map ok s ih =>
    intro v w h
    cases h with
    | atom => rfl
    | arr _ => simp [project]
    | obj ho hp hnd =>
      refine map_perm_project ?_ (shuffledO_keys ho) hp hnd
      exact entriesRel_map (R := Shuffled) (fun x y hk hv => mapEntry_congr hk (ih _ _ hv)) (shuffledO_entriesRel ho)
  | obj fields keep ih =>
    intro v w h
    cases h with
    | atom => rfl
    | arr _ => simp [project]
    | obj ho hp hnd =>
      refine project_obj_congr (R := fun _ => Shuffled) (fun f hf v w hvw => ⟨ih f hf v w hvw, shuffled_isNull hvw⟩)
        (fun f _ => ?_) (kept_shuffled ho hp hnd)
      exact pick_rel (entriesRel_filter (fun k => spells f.name f.aliases k) (shuffledO_entriesRel ho)) (hp.filter _)
  | nullOr s ih => exact fun v w h => project_nullOr_congr ⟨ih v w h, shuffled_isNull h⟩
  | tagged tag cases ih =>
    intro v w h
    cases h with
    | atom => rfl
    | arr _ => simp [project]
    | obj ho hp hnd =>
      exact project_tagged_congr (tagOf_shuffled ho hp) fun c hc _ => ih c hc _ _ (.obj ho hp hnd)

theorem filter_known_spelled {fields : List Field} {f : Field} (hf : f ∈ fields) (o : Obj) :
    (o.filter (fun e => known fields e.1)).filter (fun e => spells f.name f.aliases e.1) =
      o.filter (fun e => spells f.name f.aliases e.1) := by
  rw [List.filter_filter]
  apply List.filter_congr
  intro e _
  cases hsp : spells f.name f.aliases e.1 with
  | false => rfl
  | true => simp [known_of_mem hf (show f.spelledBy e.1 = true from hsp)]

mutual
theorem ext_sameRead : ∀ {s : Schema} {v w : JVal}, Ext s v w → SameRead s v w
  | _, _, _, .refl _ _ => ⟨rfl, rfl⟩
  | _, _, _, .arr (e := e) hl => by
    refine ⟨?_, rfl⟩
    rw [project, project, extL_project hl]
  | _, _, _, .map (ok := ok) hm => by
    refine ⟨?_, rfl⟩
    rw [project_map, project_map, extM_project hm ok]
  | _, _, _, .nullOr h => ⟨project_nullOr_congr (ext_sameRead h), (ext_sameRead h).2⟩
  | _, _, _, .obj (fields := fields) (keep := keep) (a := a) (b := b) ho hk => by
    refine ⟨project_obj_congr (R := fun f => SameRead f.schema) (fun _ _ _ _ h => h) (fun f hf => ?_) ?_, rfl⟩
    · have hrel := extO_rel ho f hf
      rw [filter_known_spelled hf, filter_known_spelled hf] at hrel
      exact pick_rel hrel (List.Perm.refl _)
    · unfold kept
      cases keep with
      | false => rfl
      | true => rw [hk rfl]
  | _, _, _, .tagged (tag := tag) ht hc =>
    ⟨project_tagged_congr (by rw [tagOf_eq, tagOf_eq, ht]) fun c hm hta => (ext_sameRead (hc c hm hta)).1, rfl⟩
theorem extL_project : ∀ {e : Schema} {xs ys : List JVal}, ExtL e xs ys → xs.map (project e) = ys.map (project e)
  | _, _, _, .nil _ => rfl
  | _, _, _, .cons h t => by
    simp only [List.map_cons, (ext_sameRead h).1, extL_project t]
theorem extM_project : ∀ {s : Schema} {a b : List (Str × JVal)}, ExtM s a b →
    ∀ ok, a.map (mapEntry ok s) = b.map (mapEntry ok s)
  | _, _, _, .nil _, _ => rfl
  | _, _, _, .cons (k := k) (v := v) (w := w) h t, ok => by
    simp only [List.map_cons, extM_project t ok]
    rw [mapEntry_congr (x := (k, v)) (y := (k, w)) rfl (ext_sameRead h).1]
theorem extO_rel : ∀ {fields : List Field} {a b : List (Str × JVal)}, ExtO fields a b →
    ∀ f ∈ fields, EntriesRel (SameRead f.schema)
      (a.filter (fun e => spells f.name f.aliases e.1)) (b.filter (fun e => spells f.name f.aliases e.1))
  | _, _, _, .nil _, _, _ => .nil
  | _, _, _, .cons (k := k) hf t, f, hmem => by
    rw [List.filter_cons, List.filter_cons]
    by_cases hsp : spells f.name f.aliases k = true
    · simp only [hsp, if_true]
      exact .cons ⟨rfl, ext_sameRead (hf f hmem hsp)⟩ (extO_rel t f hmem)
    · simp only [hsp]
      exact extO_rel t f hmem
end

theorem extO_of_eq {fields : List Field} : ∀ {a b : List (Str × JVal)}, a = b → ExtO fields a b
  | [], _, rfl => .nil _
  | (_, _) :: _, _, rfl => .cons (fun _ _ _ => .refl _ _) (extO_of_eq rfl)

theorem getLast_of_unique {α : Type} : ∀ {l : List (Str × α)} {k : Str} {x : α},
    l.filter (fun e => e.1 == k) = [(k, x)] → getLast l k = some x
  | [], _, _, h => by simp at h
  | (k', v) :: t, k, x, h => by
    rw [List.filter_cons] at h
    by_cases hk : k' = k
    · subst hk
      simp only [beq_self_eq_true, if_true, List.cons.injEq, Prod.mk.injEq, true_and] at h
      obtain ⟨rfl, ht⟩ := h
      have hnone : getLast t k' = none := by
        apply getLast_none_of_not_mem
        intro hm
        obtain ⟨e, he, hek⟩ := List.mem_map.mp hm
        have : e ∈ t.filter (fun e => e.1 == k') := List.mem_filter.mpr ⟨he, by simp [hek]⟩
        rw [ht] at this; cases this
      simp only [getLast, hnone, if_true]
    · have hk' : (k' == k) = false := by simpa using hk
      simp only [hk', Bool.false_eq_true, if_false] at h
      have := getLast_of_unique h
      simp only [getLast, this]

end Ruma.ContentSchema
