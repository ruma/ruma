/-
  Well-formedness of the schemas that occur: the scalar readers of the model, and with them every scalar
  type of `Model/ContentSchemaLeaves.lean`, meet the scalar clauses of `WF` (idempotent, `null` only from
  `null`; `Base64` included, without a shape hypothesis), every scalar type except `Base64`, `f64` and the
  lenient power-level reader writes back exactly what it read (`Verbatim`), and the total check `wfb` is
  sound for `WF`.
-/
import RumaModel.Model.ContentSchemaLeaves
import RumaModel.Spec.ContentSchema
import RumaModel.Lemmas.ContentSchema
namespace Ruma.ContentSchema
open Ruma Ruma.Canonical

theorem verbatim_str {norm : Str → Option Str} (h : ∀ a b, norm a = some b → b = a) :
    ∃ n, Schema.str norm = .scalar n ∧ Verbatim n := by
  refine ⟨_, rfl, fun a b hab => ?_⟩
  cases a with
  | str s =>
    cases hs : norm s with
    | none => simp only [hs, reduceCtorEq] at hab
    | some s' =>
      simp only [hs, Option.some.injEq] at hab
      rw [← hab, h s s' hs]
  | _ => cases hab

theorem verbatim_int (lo hi : Int) : ∃ n, Schema.int lo hi = .scalar n ∧ Verbatim n := by
  refine ⟨_, rfl, fun a b hab => ?_⟩
  cases a <;> grind

theorem verbatim_bool : ∃ n, Schema.bool = .scalar n ∧ Verbatim n := by
  refine ⟨_, rfl, fun a b hab => ?_⟩
  cases a <;> grind

theorem verbatim_voip : ∃ n, Schema.voipVersion = .scalar n ∧ Verbatim n := by
  refine ⟨_, rfl, fun a b hab => ?_⟩
  cases a <;> grind

theorem wf_of_verbatim {norm : JVal → Option JVal} (h : Verbatim norm) : WF (.scalar norm) :=
  .scalar (fun a b hab => h a b hab ▸ hab) (fun a ha => (h a _ ha).symm)

theorem wf_int (lo hi : Int) : WF (Schema.int lo hi) :=
  let ⟨_, hs, hv⟩ := verbatim_int lo hi; hs ▸ wf_of_verbatim hv

theorem wf_bool : WF Schema.bool :=
  let ⟨_, hs, hv⟩ := verbatim_bool; hs ▸ wf_of_verbatim hv

theorem wf_voipVersion : WF Schema.voipVersion :=
  let ⟨_, hs, hv⟩ := verbatim_voip; hs ▸ wf_of_verbatim hv

theorem wf_str {norm : Str → Option Str} (h : ∀ a b, norm a = some b → norm b = some b) : WF (Schema.str norm) := by
  refine .scalar (fun a b hab => ?_) (fun a ha => ?_)
  · cases a with
    | str s =>
      cases hs : norm s with
      | none => simp only [hs, reduceCtorEq] at hab
      | some s' =>
        simp only [hs, Option.some.injEq] at hab
        subst hab
        simp only [h s s' hs]
    | _ => cases hab
  · cases a with
    | str s => cases hs : norm s <;> simp only [hs, reduceCtorEq, Option.some.injEq] at ha
    | null => rfl
    | _ => cases ha

theorem wf_float : WF Schema.float := by
  refine .scalar (fun a b hab => ?_) (fun a ha => ?_)
  · cases a <;> cases hab <;> rfl
  · cases a <;> first | rfl | cases ha

theorem wf_intLax (lo hi : Int) (parse : Str → Option Int) : WF (Schema.intLax lo hi parse) := by
  have int : ∀ {i : Int} {b : JVal}, (if lo ≤ i ∧ i ≤ hi then some (JVal.int i) else none) = some b →
      b = .int i ∧ lo ≤ i ∧ i ≤ hi := by
    intro i b h
    split at h
    · next hi => exact ⟨(Option.some.inj h).symm, hi⟩
    · cases h
  refine .scalar (fun a b hab => ?_) (fun a ha => ?_)
  · cases a with
    | int i => obtain ⟨rfl, hb⟩ := int hab; exact if_pos hb
    | str s =>
      cases hp : parse s with
      | none => simp only [hp, reduceCtorEq] at hab
      | some i => simp only [hp] at hab; obtain ⟨rfl, hb⟩ := int hab; exact if_pos hb
    | _ => cases hab
  · cases a with
    | int i => cases (int ha).1
    | str s =>
      cases hp : parse s with
      | none => simp only [hp, reduceCtorEq] at ha
      | some i => simp only [hp] at ha; cases (int ha).1
    | null => rfl
    | _ => cases ha

theorem b64Sym_ne_pad (v : Nat) : b64Sym v ≠ 61 := by
  unfold b64Sym; grind

theorem b64Val_lt {c v : Nat} (h : b64Val c = some v) : v < 64 := by
  unfold b64Val at h; grind

theorem b64Val_sym {v : Nat} (h : v < 64) : b64Val (b64Sym v) = some v := by
  revert v; decide +kernel

theorem allSome_b64 {l : List Nat} (h : ∀ v ∈ l, v < 64) : allSome ((l.map b64Sym).map b64Val) = some l := by
  have : (l.map b64Sym).map b64Val = l.map some :=
    List.map_map.trans (List.map_congr_left fun v hv => b64Val_sym (h v hv))
  rw [this, allSome_map_some]

theorem allSome_b64_lt {syms vals : List Nat} (h : allSome (syms.map b64Val) = some vals) : ∀ v ∈ vals, v < 64 :=
  fun v hv => let ⟨_, _, hc⟩ := allSome_mem h v hv; b64Val_lt hc

theorem maskLast_length (m : Nat) : ∀ l : List Nat, (maskLast m l).length = l.length
  | [] => rfl
  | [_] => rfl
  | x :: y :: t => by simp only [maskLast, List.length_cons, maskLast_length m (y :: t)]

theorem maskLast_lt (m : Nat) : ∀ {l : List Nat}, (∀ v ∈ l, v < 64) → ∀ v ∈ maskLast m l, v < 64
  | [], _, v, hv => by cases hv
  | [x], h, v, hv => by
    simp only [maskLast, List.mem_cons, List.mem_nil_iff, or_false] at hv
    subst hv
    have := h x List.mem_cons_self
    exact Nat.lt_of_le_of_lt (Nat.div_mul_le_self x m) this
  | x :: y :: t, h, v, hv => by
    simp only [maskLast, List.mem_cons] at hv
    rcases hv with rfl | hv
    · exact h _ List.mem_cons_self
    · exact maskLast_lt m (l := y :: t) (fun z hz => h z (List.mem_cons_of_mem _ hz)) v (by simpa using hv)

theorem maskLast_idem {m : Nat} (hm : 0 < m) : ∀ l : List Nat, maskLast m (maskLast m l) = maskLast m l
  | [] => rfl
  | [x] => by simp only [maskLast, Nat.mul_div_cancel _ hm]
  | x :: y :: t => by
    have ih := maskLast_idem hm (y :: t)
    cases hq : maskLast m (y :: t) with
    | nil =>
      have := maskLast_length m (y :: t)
      rw [hq] at this; cases this
    | cons a b =>
      rw [hq] at ih
      simp only [maskLast, hq, ih]

theorem b64Canon_length (vals : List Nat) : (b64Canon vals).length = vals.length := by
  unfold b64Canon; split
  · exact maskLast_length _ _
  split
  · exact maskLast_length _ _
  · rfl

theorem b64Canon_lt {vals : List Nat} (h : ∀ v ∈ vals, v < 64) : ∀ v ∈ b64Canon vals, v < 64 := by
  unfold b64Canon; split
  · exact maskLast_lt _ h
  split
  · exact maskLast_lt _ h
  · exact h

theorem b64Canon_idem (vals : List Nat) : b64Canon (b64Canon vals) = b64Canon vals := by
  have hl := b64Canon_length vals
  generalize hM : b64Canon vals = M at hl
  unfold b64Canon
  rw [hl, ← hM]
  unfold b64Canon
  by_cases h2 : (vals.length % 4 == 2) = true
  · simp only [h2, if_true]; exact maskLast_idem (by decide) _
  · simp only [h2, if_false, Bool.false_eq_true]
    by_cases h3 : (vals.length % 4 == 3) = true
    · simp only [h3, if_true]; exact maskLast_idem (by decide) _
    · simp only [h3, if_false, Bool.false_eq_true]

theorem base64Norm_idem {a b : Str} (h : base64Norm a = some b) : base64Norm b = some b := by
  unfold base64Norm at h
  simp only at h
  split at h
  · cases h
  cases hv : allSome (List.map b64Val (List.takeWhile (fun x => x != 61) a)) with
  | none => rw [hv] at h; cases h
  | some vals =>
    rw [hv] at h
    simp only at h
    split at h
    · cases h
    rename_i hr
    simp only [Option.some.injEq] at h
    have hlt := b64Canon_lt (allSome_b64_lt hv)
    subst h
    have hall : ∀ x ∈ (b64Canon vals).map b64Sym, (fun x => x != 61) x = true := by
      intro x hx
      obtain ⟨v, _, rfl⟩ := List.mem_map.mp hx
      simp only [bne_iff_ne, ne_eq]
      exact b64Sym_ne_pad v
    have htd : ((b64Canon vals).map b64Sym).takeWhile (fun x => x != 61) = (b64Canon vals).map b64Sym ∧
        ((b64Canon vals).map b64Sym).dropWhile (fun x => x != 61) = [] := by
      simpa using And.intro (List.takeWhile_append_of_pos (l₂ := []) hall) (List.dropWhile_append_of_pos (l₂ := []) hall)
    have hr1 : (vals.length % 4 == 1) = false := by
      simp only [Bool.or_eq_true, not_or, Bool.not_eq_true] at hr; exact hr.1
    unfold base64Norm
    simp only [htd.1, htd.2, allSome_b64 hlt, List.all_nil, Bool.not_true, Bool.false_eq_true, if_false,
      List.length_nil, b64Canon_length, hr1, Bool.false_or, Nat.not_lt_zero,
      b64Canon_idem, gt_iff_lt, decide_false]

theorem acceptStr_idem (p : Str → Bool) : ∀ a b, acceptStr p a = some b → acceptStr p b = some b := by
  intro a b h
  unfold acceptStr at h ⊢
  split at h
  · next hp => cases h; exact if_pos hp
  · cases h

theorem acceptStr_verbatim (p : Str → Bool) : ∀ a b, acceptStr p a = some b → b = a := by
  intro a b h
  unfold acceptStr at h
  split at h <;> cases h
  rfl

theorem leaf_wf (l : Leaf) : WF l.schema := by
  cases l <;> simp only [Leaf.schema]
  case int | uint => exact wf_int _ _
  case bool => exact wf_bool
  case float => exact wf_float
  case intLax => exact wf_intLax _ _ _
  case voip => exact wf_voipVersion
  case base64 => exact wf_str fun _ _ => base64Norm_idem
  all_goals exact wf_str (acceptStr_idem _)

theorem leaf_scalar (l : Leaf) : ∃ norm, l.schema = .scalar norm := by
  cases l <;> exact ⟨_, rfl⟩

/-- Every scalar type that occurs, except `Base64` (re-encodes), `f64` (writes a float) and the
lenient power-level reader (writes the integer), writes back exactly the scalar it read. -/
theorem leaf_verbatim (l : Leaf) (h1 : l ≠ .base64) (h2 : l ≠ .float) (h3 : l ≠ .intLax) :
    ∃ norm, l.schema = .scalar norm ∧ Verbatim norm := by
  cases l <;> simp only [Leaf.schema]
  case base64 => exact absurd rfl h1
  case float => exact absurd rfl h2
  case intLax => exact absurd rfl h3
  case int | uint => exact verbatim_int _ _
  case bool => exact verbatim_bool
  case voip => exact verbatim_voip
  all_goals exact verbatim_str (acceptStr_verbatim _)

theorem toFields_eq_map : ∀ fs : List FieldD, toFields fs = fs.map toField
  | [] => rfl
  | f :: t => by simp only [toFields, List.map, toFields_eq_map t]

theorem toCases_eq_map : ∀ cs : List CaseD, toCases cs = cs.map toCase
  | [] => rfl
  | c :: t => by simp only [toCases, List.map, toCases_eq_map t]

theorem distinctB_sound : ∀ fs : List Field, distinctB fs = true → Distinct fs
  | [], _ => List.Pairwise.nil
  | f :: t, h => by
    simp only [distinctB, Bool.and_eq_true, List.all_eq_true, Bool.not_eq_true'] at h
    exact List.Pairwise.cons (fun g hg => h.1 g hg) (distinctB_sound t h.2)

theorem jval_eqL_of_beqL (a b : List JVal) (h : JVal.beqL a b = true) : a = b := Ruma.jval_eqL_of_beqL a b h
theorem jval_eqO_of_beqO (a b : List (Str × JVal)) (h : JVal.beqO a b = true) : a = b := Ruma.jval_eqO_of_beqO a b h

theorem dfltOk_sound {s : Schema} {na : Bool} {dflt : Option JVal} (h : dfltOk s na dflt = true) :
    ∀ d, dflt = some d → (na = true ∧ d = .null) ∨ project s d = some d := by
  intro d hd
  subst hd
  simp only [dfltOk, Bool.or_eq_true, Bool.and_eq_true] at h
  rcases h with h | h
  · exact Or.inl ⟨h.1, isNull_iff.mp h.2⟩
  · right
    cases hp : project s d with
    | none => rw [hp] at h; cases h
    | some d' => rw [hp] at h; simp only at h; rw [jval_eq_of_beq _ _ h]

theorem skipOf_nil (v : JVal) : skipOf [] v = false := rfl

theorem tagFieldB_sound {tag label : Str} {fd : FieldD} (h : tagFieldB tag label fd = true) :
    (toField fd).name = tag ∧ (toField fd).req = true ∧ (toField fd).ghost = false ∧
      ∃ norm, (toField fd).schema = .scalar norm ∧ ∀ a b, norm a = some b → b = .str label := by
  cases fd with
  | mk name al d req dflt na len skips ghost =>
    cases d with
    | leaf l =>
      cases l with
      | const c =>
        simp only [tagFieldB, Bool.and_eq_true, beq_iff_eq, Bool.not_eq_true'] at h
        obtain ⟨⟨⟨hn, hr⟩, hg⟩, hc⟩ := h
        refine ⟨hn, hr, hg, _, rfl, ?_⟩
        intro a b hab
        cases a <;> simp only [reduceCtorEq] at hab
        rename_i x
        simp only [acceptStr] at hab
        by_cases hx : (x == c) = true
        · rw [if_pos hx] at hab
          simp only [Option.some.injEq] at hab
          rw [← hab, ← hc]
          simp only [beq_iff_eq] at hx
          rw [hx]
        · rw [if_neg hx] at hab; cases hab
      | _ => simp [tagFieldB] at h
    | _ => simp [tagFieldB] at h

theorem tagFixedB_sound {tag label : Str} {d : Desc} (h : tagFixedB tag label d = true) :
    TagFixed tag label d.toSchema := by
  cases d with
  | obj fs keep =>
    simp only [tagFixedB, List.any_eq_true] at h
    obtain ⟨fd, hfd, hb⟩ := h
    obtain ⟨hn, hr, hg, norm, hs, hnorm⟩ := tagFieldB_sound hb
    refine ⟨toFields fs, keep, rfl, toField fd, ?_, hn, hr, hg, norm, hs, hnorm⟩
    rw [toFields_eq_map]
    exact List.mem_map.mpr ⟨fd, hfd, rfl⟩
  | _ => simp [tagFixedB] at h

mutual
theorem wfb_sound : ∀ d : Desc, wfb d = true → WF d.toSchema
  | .any, _ => WF.any
  | .leaf l, _ => leaf_wf l
  | .arr e, h => WF.arr (wfb_sound e (by simpa only [wfb] using h))
  | .map _ v, h => WF.map (wfb_sound v (by simpa only [wfb] using h))
  | .nullOr d, h => WF.nullOr (wfb_sound d (by simpa only [wfb] using h))
  | .obj fs keep, h => by
    simp only [wfb, Bool.and_eq_true] at h
    have hall := wfbFields_sound fs keep h.1
    exact WF.obj (fun f hf => (hall f hf).1) (fun f hf => (hall f hf).2.1) (distinctB_sound _ h.2)
      (fun hk f hf => (hall f hf).2.2 hk)
  | .tagged tag cs, h => by
    simp only [wfb] at h
    have hall := wfbCases_sound tag cs h
    exact WF.tagged (fun c hc => (hall c hc).1) (fun c hc => (hall c hc).2)
theorem wfbFields_sound : ∀ (fs : List FieldD) (keep : Bool), wfbFields fs keep = true →
    ∀ f, f ∈ toFields fs → WF f.schema ∧ f.Ok ∧ (keep = true → f.ghost = false)
  | [], _, _, f, hf => by simp only [toFields, List.not_mem_nil] at hf
  | fd :: t, keep, h, f, hf => by
    simp only [wfbFields, Bool.and_eq_true] at h
    simp only [toFields, List.mem_cons] at hf
    rcases hf with rfl | hf
    · exact wfbField_sound fd keep h.1
    · exact wfbFields_sound t keep h.2 f hf
theorem wfbField_sound : ∀ (fd : FieldD) (keep : Bool), wfbField fd keep = true →
    WF (toField fd).schema ∧ (toField fd).Ok ∧ (keep = true → (toField fd).ghost = false)
  | .mk name al d req dflt na len skips ghost, keep, h => by
    simp only [wfbField, Bool.and_eq_true, Bool.or_eq_true, Bool.not_eq_true', List.isEmpty_iff] at h
    obtain ⟨⟨⟨h1, h2⟩, h3⟩, h4⟩ := h
    refine ⟨wfb_sound d h1, ⟨?_, dfltOk_sound h3⟩, ?_⟩
    · intro hreq v
      simp only [toField, Field.req, Field.dflt, Field.skip] at hreq ⊢
      rcases h2 with h2 | h2
      · rcases hreq with hreq | hreq
        · rw [hreq] at h2; simp at h2
        · rw [hreq] at h2; simp at h2
      · rw [h2]; rfl
    · intro hk
      simp only [toField, Field.ghost]
      subst hk
      simpa using h4
theorem wfbCases_sound : ∀ (tag : Str) (cs : List CaseD), wfbCases tag cs = true →
    ∀ c, c ∈ toCases cs → WF c.schema ∧ TagFixed tag c.label c.schema
  | _, [], _, c, hc => by simp only [toCases, List.not_mem_nil] at hc
  | tag, .mk label d :: t, h, c, hc => by
    simp only [wfbCases, Bool.and_eq_true] at h
    simp only [toCases, List.mem_cons] at hc
    rcases hc with rfl | hc
    · exact ⟨wfb_sound d h.1.1, tagFixedB_sound h.1.2⟩
    · exact wfbCases_sound tag t h.2 c hc
end

end Ruma.ContentSchema
