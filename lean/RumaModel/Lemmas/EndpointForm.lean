/-
  The reference `application/x-www-form-urlencoded` codec of `Model/EndpointGlue.lean` reads back
  every list of pairs of arbitrary byte strings; the lossy UTF-8 decoder is the identity on
  well-formed UTF-8; hence the reference codec (`refForm`) satisfies the laws the `FormCodec`
  parameter states.
-/
import RumaModel.Model.EndpointGlue
import RumaModel.Lemmas.EndpointUrl
namespace Ruma.Glue
open Ruma Ruma.Endpoint
open Ruma.Spec.Endpoint (percentDecode isHexDigit hexVal)

theorem formUnchanged_facts (b : Nat) (h : formUnchanged b = true) :
    b ≠ 37 ∧ b ≠ 43 ∧ b ≠ 38 ∧ b ≠ 61 ∧ b ≠ 35 ∧ b ≠ 63 := by
  unfold formUnchanged at h
  simp only [Bool.or_eq_true, Bool.and_eq_true, decide_eq_true_eq] at h
  omega

theorem replacePlus_cons (b : Nat) (t : Str) :
    replacePlus (b :: t) = (if b = 43 then 32 else b) :: replacePlus t := rfl

theorem formDecode_serialize : ∀ (s : Str), IsBytes s → formDecodeBytes (formByteSerialize s) = s
  | [], _ => rfl
  | b :: t, hs => by
    obtain ⟨hb, ht⟩ := isBytes_cons.1 hs
    have ih : percentDecode (replacePlus (formByteSerialize t)) = t := formDecode_serialize t ht
    unfold formDecodeBytes formByteSerialize
    split
    · obtain ⟨h37, h43, _⟩ := formUnchanged_facts b ‹_›
      rw [replacePlus_cons, if_neg h43, percentDecode_cons_ne _ _ h37, ih]
    split
    · rw [replacePlus_cons, if_pos rfl, percentDecode_cons_ne _ _ (by decide), ih, ‹b = 32›]
    · -- the two hex digits are not `+`, so `replace_plus` leaves the escape alone
      have hx := hexUpper_spec (b / 16) (by omega)
      have hy := hexUpper_spec (b % 16) (by omega)
      have fx := hexUpper_range (b / 16)
      have fy := hexUpper_range (b % 16)
      rw [replacePlus_cons, replacePlus_cons, replacePlus_cons, if_neg (by decide), if_neg (by omega),
        if_neg (by omega), percentDecode_escape _ _ _ hx.1 hy.1, hx.2, hy.2, ih]
      congr 1
      omega

theorem formByteSerialize_clean : ∀ (s : Str), ∀ b ∈ formByteSerialize s, b ≠ 38 ∧ b ≠ 61 ∧ b ≠ 35 ∧ b ≠ 63
  | [], _, hb => by simp [formByteSerialize] at hb
  | c :: t, b, hb => by
    have ih := formByteSerialize_clean t b
    have fx := hexUpper_range (c / 16)
    have fy := hexUpper_range (c % 16)
    unfold formByteSerialize at hb
    split at hb
    · rcases List.mem_cons.1 hb with rfl | hb
      · have := formUnchanged_facts b ‹_›; omega
      · exact ih hb
    split at hb
    · rcases List.mem_cons.1 hb with rfl | hb
      · omega
      · exact ih hb
    · simp only [List.mem_cons] at hb
      rcases hb with rfl | rfl | rfl | hb
      · omega
      · omega
      · omega
      · exact ih hb

theorem splitFirst_append (sep : Nat) : ∀ (p r : Str), sep ∉ p →
    splitFirst sep (p ++ sep :: r) = (p, some r)
  | [], r, _ => by simp [splitFirst]
  | b :: p, r, h => by
    have hb : b ≠ sep := fun e => h (by simp [e])
    have hp : sep ∉ p := fun e => h (List.mem_cons_of_mem _ e)
    simp only [List.cons_append, splitFirst, hb, if_false, splitFirst_append sep p r hp]

theorem splitFirst_none (sep : Nat) : ∀ (p : Str), sep ∉ p → splitFirst sep p = (p, none)
  | [], _ => rfl
  | b :: p, h => by
    have hb : b ≠ sep := fun e => h (by simp [e])
    have hp : sep ∉ p := fun e => h (List.mem_cons_of_mem _ e)
    simp only [splitFirst, hb, if_false, splitFirst_none sep p hp]

theorem formPair_clean (p : Str × Str) : ∀ b ∈ formPair p, b ≠ 38 ∧ b ≠ 35 ∧ b ≠ 63 := by
  intro b h
  unfold formPair at h
  rcases List.mem_append.1 h with h | h
  · have := formByteSerialize_clean p.1 b h; omega
  · rcases List.mem_cons.1 h with rfl | h
    · omega
    · have := formByteSerialize_clean p.2 b h; omega

theorem formParsePair_formPair (p : Str × Str) (h1 : IsBytes p.1) (h2 : IsBytes p.2) :
    formParsePair (formPair p) = p := by
  have hno : (61 : Nat) ∉ formByteSerialize p.1 := fun h => (formByteSerialize_clean p.1 61 h).2.1 rfl
  unfold formParsePair formPair
  rw [splitFirst_append 61 _ _ hno]
  simp only [formDecode_serialize p.1 h1, formDecode_serialize p.2 h2]

theorem formSerialize_single (p : Str × Str) : formSerialize [p] = formPair p := by
  simp [formSerialize]

theorem formSerialize_cons2 (p q : Str × Str) (rest : List (Str × Str)) :
    formSerialize (p :: q :: rest) = formPair p ++ 38 :: formSerialize (q :: rest) := by
  rw [formSerialize]

theorem splitOn_formSerialize : ∀ (ps : List (Str × Str)), ps ≠ [] →
    splitOn 38 (formSerialize ps) = ps.map formPair
  | [], h => absurd rfl h
  | [p], _ => by
    have := splitAux_append 38 (formPair p) [] (fun h => (formPair_clean p 38 h).1 rfl)
    simp only [List.append_nil, splitAux] at this
    simp only [splitOn, formSerialize_single, this, List.map_cons, List.map_nil]
  | p :: q :: rest, _ => by
    have ih := splitOn_formSerialize (q :: rest) (by simp)
    unfold splitOn at ih ⊢
    rw [formSerialize_cons2, splitAux_append 38 _ _ (fun h => (formPair_clean p 38 h).1 rfl),
      splitAux_cons_sep]
    simp only [List.append_nil, List.map_cons]
    rw [ih]
    simp

/-- **All bytes.** The byte-level parser reads back every list of pairs of arbitrary byte strings
from what the serializer wrote: names and values may contain `& = + % #`, spaces, controls,
non-UTF-8 bytes, may be empty; the list may be empty. -/
theorem formParseBytes_formSerialize (ps : List (Str × Str))
    (hb : ∀ p ∈ ps, IsBytes p.1 ∧ IsBytes p.2) : formParseBytes (formSerialize ps) = ps := by
  unfold formParseBytes
  cases ps with
  | nil => simp [formSerialize, splitOn, splitAux]
  | cons p rest =>
    rw [splitOn_formSerialize (p :: rest) (by simp)]
    have hf : ((p :: rest).map formPair).filter (fun seq => seq ≠ []) = (p :: rest).map formPair := by
      apply List.filter_eq_self.2
      intro x hx
      obtain ⟨y, _, rfl⟩ := List.mem_map.1 hx
      simp [formPair]
    rw [hf, List.map_map]
    have : ∀ y ∈ (p :: rest), (formParsePair ∘ formPair) y = id y := by
      intro y hy
      exact formParsePair_formPair y (hb y hy).1 (hb y hy).2
    rw [List.map_congr_left this, List.map_id]

theorem formSerialize_delims : ∀ (ps : List (Str × Str)), ∀ b ∈ formSerialize ps, b ≠ 35 ∧ b ≠ 63
  | [], _, h => by simp [formSerialize] at h
  | [p], b, h => by
    rw [formSerialize_single] at h
    exact (formPair_clean p b h).2
  | p :: q :: rest, b, h => by
    rw [formSerialize_cons2] at h
    rcases List.mem_append.1 h with h | h
    · exact (formPair_clean p b h).2
    · rcases List.mem_cons.1 h with rfl | h
      · omega
      · exact formSerialize_delims (q :: rest) b h

theorem formSerialize_clean (ps : List (Str × Str)) (hb : ∀ p ∈ ps, IsBytes p.1 ∧ IsBytes p.2) :
    ∀ b ∈ formSerialize ps, b ≠ 35 ∧ b ≠ 63 :=
  formSerialize_delims ps

theorem utf8Lead_big (b : Nat) (h : 245 ≤ b) : utf8Lead b = (fffd, u8Start) := by
  unfold utf8Lead
  simp only [Bool.and_eq_true, Bool.or_eq_true, decide_eq_true_eq]
  repeat (rw [if_neg (by omega)])

theorem ite_eq_cases {α : Type} {c : Prop} [Decidable c] {x y r : α}
    (h : (if c then x else y) = r) : x = r ∨ y = r := by
  split at h
  · exact .inl h
  · exact .inr h

theorem utf8Lead_cases (b : Nat) :
    (b < 128 ∧ utf8Lead b = ([b], u8Start)) ∨
    (128 ≤ b ∧ utf8Lead b = (fffd, u8Start)) ∨
    (128 ≤ b ∧ b < 245 ∧ ∃ n lo hi, n ≠ 0 ∧ hi ≤ 0xBF ∧ utf8Lead b = ([], ⟨n, lo, hi, [b]⟩)) := by
  by_cases h1 : b < 128
  · exact .inl ⟨h1, if_pos h1⟩
  by_cases h2 : 245 ≤ b
  · exact .inr (.inl ⟨by omega, utf8Lead_big b h2⟩)
  generalize hr : utf8Lead b = r
  unfold utf8Lead at hr
  rw [if_neg h1] at hr
  iterate 7
    rcases ite_eq_cases hr with hr | hr
    · exact .inr (.inr ⟨by omega, by omega, _, _, _, Nat.succ_ne_zero _, Nat.le_of_ble_eq_true rfl, hr.symm⟩)
  exact .inr (.inl ⟨by omega, hr.symm⟩)

/-- In any reader state whose held bytes are consistent (`need = 0 → held = []`) and which accepts
bytes only, input the recogniser accepts consists of bytes and is copied by the lossy decoder: the
output is the held bytes followed by the input. -/
theorem utf8Go_valid : ∀ (s : Str) (st : U8St), (st.need = 0 → st.held = []) → st.hi < 256 →
    utf8ValidGo st s = true → utf8LossyGo st s = st.held ++ s ∧ IsBytes s
  | [], st, hst, _, hv => by
    unfold utf8ValidGo at hv
    have hn : st.need = 0 := by simpa using hv
    simp [utf8LossyGo, hn, hst hn, IsBytes]
  | b :: t, st, hst, hhi, hv => by
    unfold utf8ValidGo at hv
    unfold utf8LossyGo
    rw [isBytes_cons]
    by_cases hn : st.need = 0
    · simp only [hn, if_true, Bool.and_eq_true, Bool.or_eq_true, decide_eq_true_eq] at hv ⊢
      rw [hst hn]
      rcases utf8Lead_cases b with ⟨hb, h⟩ | ⟨hb, h⟩ | ⟨_, hb, n, lo, hi, hne, hhi', h⟩
      · rw [h] at hv ⊢
        obtain ⟨ih, ht⟩ := utf8Go_valid t u8Start (fun _ => rfl) (by decide) hv.2
        exact ⟨by rw [ih]; rfl, by omega, ht⟩
      · rw [h] at hv
        rcases hv.1 with h' | h'
        · omega
        · exact absurd rfl h'
      · rw [h] at hv ⊢
        obtain ⟨ih, ht⟩ := utf8Go_valid t _ (fun h => absurd h hne) (Nat.lt_of_le_of_lt hhi' (by decide)) hv.2
        exact ⟨by rw [ih]; rfl, by omega, ht⟩
    · simp only [hn, if_false] at hv ⊢
      by_cases hr : (decide (st.lo ≤ b) && decide (b ≤ st.hi)) = true
      · simp only [hr, if_true] at hv ⊢
        have hb : b < 256 := by
          simp only [Bool.and_eq_true, decide_eq_true_eq] at hr; omega
        by_cases h1 : st.need = 1
        · simp only [h1, if_true] at hv ⊢
          obtain ⟨ih, ht⟩ := utf8Go_valid t u8Start (fun _ => rfl) (by decide) hv
          exact ⟨by rw [ih]; simp [u8Start], hb, ht⟩
        · simp only [h1, if_false] at hv ⊢
          obtain ⟨ih, ht⟩ := utf8Go_valid t ⟨st.need - 1, 0x80, 0xBF, st.held ++ [b]⟩
            (fun h => by simp at h; omega) (Nat.le_of_ble_eq_true rfl) hv
          exact ⟨by rw [ih]; simp, hb, ht⟩
      · simp only [hr, Bool.false_eq_true, if_false] at hv

/-- What `serde_html_form` does below the level of struct fields, as an executable reference. -/
def refForm : FormCodec where
  ser := formSerialize
  parse := formParse
  text := fun s => utf8Valid s = true

theorem refForm_lawful : refForm.Lawful where
  law := by
    intro ps hps
    have hv : ∀ s, utf8Valid s = true → utf8Lossy s = s ∧ IsBytes s :=
      fun s h => utf8Go_valid s u8Start (fun _ => rfl) (by decide) h
    show formParse (formSerialize ps) = ps
    unfold formParse
    rw [formParseBytes_formSerialize ps (fun p hp => ⟨(hv _ (hps p hp).1).2, (hv _ (hps p hp).2).2⟩)]
    have : ∀ p ∈ ps, (fun p : Str × Str => (utf8Lossy p.1, utf8Lossy p.2)) p = id p := by
      intro p hp
      simp only [id, (hv _ (hps p hp).1).1, (hv _ (hps p hp).2).1]
    rw [List.map_congr_left this, List.map_id]
  no_hash := fun ps h => (formSerialize_delims ps 35 h).1 rfl

end Ruma.Glue
