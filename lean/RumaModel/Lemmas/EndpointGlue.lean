/-
  The macro-generated conversions, group by group: path arguments, query fields, the header map
  and the JSON body fields are read back from what the sending side wrote for them. Shared by the
  request and the response round trip.
-/
import RumaModel.Model.EndpointGlue
import RumaModel.Lemmas.EndpointForm
import RumaModel.Lemmas.EndpointNoPanic
namespace Ruma.Glue
open Ruma Ruma.Endpoint
open Ruma.Spec.Endpoint (Version AuthScheme percentDecode segmentUnsafe)

/-- Every wire form of the list is the wire form of a value of the corresponding codec. -/
def CanonAll : List (Codec W) → List W → Prop
  | [], [] => True
  | c :: cs, w :: ws => c.Canon w ∧ CanonAll cs ws
  | _, _ => False

/-- Header fields: an absent optional header is a value; a present one must be one of its codec. -/
def HeaderCanon : List HeaderField → List (Option Str) → Prop
  | [], [] => True
  | f :: fs, v :: vs =>
    (match v with | some s => f.codec.Canon s | none => f.optional = true) ∧ HeaderCanon fs vs
  | _, _ => False

theorem canonAll_nil {W : Type} {ws : List W} (h : CanonAll ([] : List (Codec W)) ws) : ws = [] := by
  cases ws with
  | nil => rfl
  | cons w ws => exact absurd h (by simp [CanonAll])

theorem canonAll_cons {W : Type} {c : Codec W} {cs : List (Codec W)} {ws : List W}
    (h : CanonAll (c :: cs) ws) : ∃ w ws', ws = w :: ws' ∧ c.norm w = some w ∧ CanonAll cs ws' := by
  cases ws with
  | nil => exact absurd h (by simp [CanonAll])
  | cons w ws => exact ⟨w, ws, rfl, h.1, h.2⟩

theorem headerCanon_zip : ∀ (fs : List HeaderField) (vs : List (Option Str)), HeaderCanon fs vs →
    fs.length = vs.length ∧ ∀ f w, (f, w) ∈ fs.zip vs →
      (∀ s, w = some s → f.codec.norm s = some s) ∧ (w = none → f.optional = true)
  | [], [], _ => ⟨rfl, fun _ _ hm => by simp at hm⟩
  | [], _ :: _, h => absurd h (by simp [HeaderCanon])
  | _ :: _, [], h => absurd h (by simp [HeaderCanon])
  | g :: fs, u :: vs, h => by
    obtain ⟨hl, hm⟩ := headerCanon_zip fs vs h.2
    refine ⟨by simp [hl], fun f w hfw => ?_⟩
    rcases List.mem_cons.1 hfw with e | hfw
    · cases e
      cases u with
      | some s => exact ⟨fun _ e => Option.some.inj e ▸ h.1, fun e => nomatch e⟩
      | none => exact ⟨fun _ e => (nomatch e), fun _ => h.1⟩
    · exact hm f w hfw

theorem head?_of_length {α : Type} {l : List α} {n : Nat} (h : l.length = n + 1) : ∃ x, l.head? = some x := by
  cases l with
  | nil => cases h
  | cons x t => exact ⟨x, rfl⟩

theorem length_le_one {α : Type} {l : List α} (h : l.length ≤ 1) : l = [] ∨ ∃ a, l = [a] := by
  match l, h with
  | [], _ => exact .inl rfl
  | [a], _ => exact .inr ⟨a, rfl⟩

/-- At most one raw or newtype body field, and then no body field: what `Request::check` and
`Response::check` leave of the three kinds of body. -/
theorem body_kinds {α β γ : Type} {raw : List α} {nt : List β} {bf : List γ}
    (h1 : nt.length + raw.length ≤ 1) (h3 : nt.length + raw.length = 1 → bf = []) :
    (raw = [] ∧ nt = []) ∨ ((∃ r, raw = [r]) ∧ nt = [] ∧ bf = [])
    ∨ (raw = [] ∧ (∃ c, nt = [c]) ∧ bf = []) := by
  rcases length_le_one (l := raw) (by omega) with hr | ⟨r, hr⟩ <;>
    rcases length_le_one (l := nt) (by omega) with hn | ⟨c, hn⟩
  · exact .inl ⟨hr, hn⟩
  · exact .inr (.inr ⟨hr, ⟨c, hn⟩, h3 (by rw [hr, hn]; rfl)⟩)
  · exact .inr (.inl ⟨⟨r, hr⟩, hn, h3 (by rw [hr, hn]; rfl)⟩)
  · rw [hr, hn] at h1; simp at h1

theorem decodePathArgs_canon : ∀ (cs : List (Codec Str)) (args : List Str), CanonAll cs args →
    decodePathArgs cs args = some args
  | [], [], _ => rfl
  | c :: cs, a :: as, h => by
    obtain ⟨h1, h2⟩ := h
    simp only [decodePathArgs, show c.norm a = some a from h1, decodePathArgs_canon cs as h2,
      Option.map_some]
  | [], _ :: _, h => absurd h (by simp [CanonAll])
  | _ :: _, [], h => absurd h (by simp [CanonAll])

theorem valuesFor_append (n : Str) (a b : List (Str × Str)) :
    valuesFor n (a ++ b) = valuesFor n a ++ valuesFor n b := by
  simp [valuesFor, List.filterMap_append]

theorem valuesFor_none (n : Str) : ∀ (ps : List (Str × Str)), (∀ p ∈ ps, p.1 ≠ n) → valuesFor n ps = []
  | [], _ => rfl
  | p :: ps, h => by
    have h1 : p.1 ≠ n := h p (by simp)
    have := valuesFor_none n ps (fun q hq => h q (List.mem_cons_of_mem _ hq))
    simp only [valuesFor, List.filterMap_cons, h1, if_false] at this ⊢
    exact this

theorem valuesFor_own (n : Str) (vs : List Str) : valuesFor n (vs.map (fun x => (n, x))) = vs := by
  induction vs with
  | nil => rfl
  | cons x xs ih =>
    simp only [valuesFor, List.map_cons, List.filterMap_cons, if_true] at ih ⊢
    rw [ih]

theorem queryPairs_keys : ∀ (fs : List (Str × Codec (List Str))) (vss : List (List Str)),
    ∀ p ∈ queryPairs fs vss, p.1 ∈ fs.map (·.1)
  | [], _, p, hp => by simp [queryPairs] at hp
  | _ :: _, [], p, hp => by simp [queryPairs] at hp
  | (n, c) :: fs, vs :: vss, p, hp => by
    simp only [queryPairs, List.mem_append, List.mem_map] at hp
    rcases hp with ⟨x, _, rfl⟩ | hp
    · simp
    · have := queryPairs_keys fs vss p hp
      simp only [List.map_cons, List.mem_cons]
      exact Or.inr this

theorem queryPairs_cons (n : Str) (c : Codec (List Str)) (fs : List (Str × Codec (List Str)))
    (vs : List Str) (vss : List (List Str)) :
    queryPairs ((n, c) :: fs) (vs :: vss) = vs.map (fun x => (n, x)) ++ queryPairs fs vss := rfl

theorem decodeQueryFields_pairs : ∀ (fs : List (Str × Codec (List Str))) (vss : List (List Str))
    (pre : List (Str × Str)),
    (fs.map (·.1)).Nodup → (∀ p ∈ pre, p.1 ∉ fs.map (·.1)) → CanonAll (fs.map (·.2)) vss →
    decodeQueryFields fs (pre ++ queryPairs fs vss) = some vss
  | [], [], _, _, _, _ => rfl
  | [], _ :: _, _, _, _, h => absurd h (by simp [CanonAll])
  | _ :: _, [], _, _, _, h => absurd h (by simp [CanonAll])
  | (n, c) :: fs, vs :: vss, pre, hnd, hpre, hc => by
    obtain ⟨hc1, hc2⟩ := hc
    have hnd' : (fs.map (·.1)).Nodup := (List.nodup_cons.1 hnd).2
    have hn : n ∉ fs.map (·.1) := (List.nodup_cons.1 hnd).1
    have hvals : valuesFor n (pre ++ queryPairs ((n, c) :: fs) (vs :: vss)) = vs := by
      rw [queryPairs_cons, valuesFor_append, valuesFor_append, valuesFor_own,
        valuesFor_none n pre (fun p hp e => hpre p hp (by simp [e])),
        valuesFor_none n (queryPairs fs vss) (fun p hp e => hn (e ▸ queryPairs_keys fs vss p hp))]
      simp
    have htail := decodeQueryFields_pairs fs vss (pre ++ vs.map (fun x => (n, x))) hnd'
      (by
        intro p hp
        rcases List.mem_append.1 hp with hp | hp
        · intro hm; exact hpre p hp (by simp [hm])
        · obtain ⟨x, _, rfl⟩ := List.mem_map.1 hp
          exact hn) hc2
    rw [decodeQueryFields, hvals, show c.norm vs = some vs from hc1]
    rw [queryPairs_cons, ← List.append_assoc, htail]
    rfl

theorem hGet_append (a b : Headers) (n : Str) :
    hGet (a ++ b) n = (hGet a n).orElse (fun _ => hGet b n) := by
  induction a with
  | nil => simp [hGet]
  | cons p t ih =>
    obtain ⟨k, v⟩ := p
    simp only [List.cons_append, hGet]
    split
    · simp
    · exact ih

/-- Dropping every value of the name `m` (`remove`, and the first half of `insert`) empties that
name and leaves the others as they were. -/
theorem hGet_filter (hs : Headers) (m n : Str) :
    hGet (hs.filter (fun p => p.1 ≠ m)) n = if m = n then none else hGet hs n := by
  induction hs with
  | nil => exact (ite_self _).symm
  | cons p t ih =>
    obtain ⟨k, v⟩ := p
    by_cases hk : k = m
    · rw [List.filter_cons_of_neg (by simpa using hk), ih, hGet]
      by_cases hn : m = n
      · rw [if_pos hn, if_pos hn]
      · rw [if_neg hn, if_neg hn, if_neg (hk ▸ hn)]
    · rw [List.filter_cons_of_pos (by simpa using hk), hGet, hGet, ih]
      by_cases hkn : k = n
      · rw [if_pos hkn, if_pos hkn, if_neg (fun e => hk (hkn.trans e.symm))]
      · rw [if_neg hkn, if_neg hkn]

theorem hGet_hInsert (hs : Headers) (m v n : Str) :
    hGet (hInsert hs m v) n = if m = n then some v else hGet hs n := by
  unfold hInsert
  rw [hGet_append, hGet_filter, hGet, hGet]
  by_cases h : m = n
  · rw [if_pos h, if_pos h, if_pos h]
    rfl
  · rw [if_neg h, if_neg h, if_neg h]
    cases hGet hs n <;> rfl

theorem hGet_of_not_mem (hs : Headers) (n : Str) (h : n ∉ hs.map (·.1)) : hGet hs n = none := by
  induction hs with
  | nil => rfl
  | cons p t ih =>
    simp only [List.map_cons, List.mem_cons, not_or] at h
    rw [hGet, if_neg (fun e => h.1 e.symm), ih h.2]

theorem hGet_putHeaderFields_other : ∀ (fs : List HeaderField) (vs : List (Option Str)) (hs hs' : Headers)
    (n : Str), putHeaderFields fs vs hs = .ok hs' → n ∉ fs.map (·.header) → hGet hs' n = hGet hs n
  | [], _, hs, hs', n, h, _ => by cases h; rfl
  | _ :: _, [], hs, hs', n, h, _ => by cases h; rfl
  | f :: fs, none :: vs, hs, hs', n, h, hn =>
    hGet_putHeaderFields_other fs vs hs hs' n h (fun e => hn (List.mem_cons_of_mem _ e))
  | f :: fs, some s :: vs, hs, hs', n, h, hn => by
    simp only [putHeaderFields] at h
    split at h
    · rw [hGet_putHeaderFields_other fs vs _ hs' n h (fun e => hn (List.mem_cons_of_mem _ e)),
        hGet_hInsert, if_neg (fun e => hn (by simp [e]))]
    · cases h

theorem hGet_putHeaderFields_own : ∀ (fs : List HeaderField) (vs : List (Option Str)) (hs hs' : Headers),
    putHeaderFields fs vs hs = .ok hs' → (fs.map (·.header)).Nodup →
    ∀ f w, (f, w) ∈ fs.zip vs → hGet hs' f.header = w.orElse (fun _ => hGet hs f.header)
  | [], _, _, _, _, _, _, _, hm => by simp at hm
  | _ :: _, [], _, _, _, _, _, _, hm => by simp at hm
  | g :: fs, u :: vs, hs, hs', h, hnd, f, w, hm => by
    have hg : g.header ∉ fs.map (·.header) := (List.nodup_cons.1 hnd).1
    have hnd' := (List.nodup_cons.1 hnd).2
    simp only [List.zip_cons_cons, List.mem_cons, Prod.mk.injEq] at hm
    rcases hm with ⟨rfl, rfl⟩ | hm
    · cases w with
      | none => exact hGet_putHeaderFields_other fs vs hs hs' _ h hg
      | some s =>
        simp only [putHeaderFields] at h
        split at h
        · rw [hGet_putHeaderFields_other fs vs _ hs' _ h hg, hGet_hInsert, if_pos rfl]; rfl
        · cases h
    · have hne : g.header ≠ f.header :=
        fun e => hg (e ▸ List.mem_map.2 ⟨f, (List.of_mem_zip hm).1, rfl⟩)
      cases u with
      | none => exact hGet_putHeaderFields_own fs vs hs hs' h hnd' f w hm
      | some s =>
        simp only [putHeaderFields] at h
        split at h
        · rw [hGet_putHeaderFields_own fs vs _ hs' h hnd' f w hm, hGet_hInsert, if_neg hne]
        · cases h

theorem bodyEntries_keys : ∀ (fs : List (Str × Codec (Option JVal))) (ws : List (Option JVal)),
    ∀ p ∈ bodyEntries fs ws, p.1 ∈ fs.map (·.1)
  | [], _, p, hp => by simp [bodyEntries] at hp
  | _ :: _, [], p, hp => by simp [bodyEntries] at hp
  | (n, c) :: fs, w :: ws, p, hp => by
    simp only [bodyEntries, List.mem_append] at hp
    rcases hp with hp | hp
    · cases w with
      | none => simp at hp
      | some j =>
        simp only [List.mem_singleton] at hp
        subst hp
        simp
    · have := bodyEntries_keys fs ws p hp
      simp only [List.map_cons, List.mem_cons]
      exact Or.inr this

theorem filter_key_none (n : Str) (o : List (Str × JVal)) (h : ∀ p ∈ o, p.1 ≠ n) :
    o.filter (fun p => p.1 = n) = [] := by
  apply List.filter_eq_nil_iff.2
  intro p hp
  simpa using h p hp

theorem bodyEntries_cons (n : Str) (c : Codec (Option JVal)) (fs : List (Str × Codec (Option JVal)))
    (w : Option JVal) (ws : List (Option JVal)) :
    bodyEntries ((n, c) :: fs) (w :: ws)
      = (match w with | some j => [(n, j)] | none => []) ++ bodyEntries fs ws := rfl

theorem fieldsFromObj_entries : ∀ (fs : List (Str × Codec (Option JVal))) (ws : List (Option JVal))
    (pre : List (Str × JVal)),
    (fs.map (·.1)).Nodup → (∀ p ∈ pre, p.1 ∉ fs.map (·.1)) → CanonAll (fs.map (·.2)) ws →
    fieldsFromObj (pre ++ bodyEntries fs ws) fs = some ws
  | [], [], _, _, _, _ => rfl
  | [], _ :: _, _, _, _, h => absurd h (by simp [CanonAll])
  | _ :: _, [], _, _, _, h => absurd h (by simp [CanonAll])
  | (n, c) :: fs, w :: ws, pre, hnd, hpre, hc => by
    obtain ⟨hc1, hc2⟩ := hc
    have hc1 : c.norm w = some w := hc1
    have hnd' : (fs.map (·.1)).Nodup := (List.nodup_cons.1 hnd).2
    have hn : n ∉ fs.map (·.1) := (List.nodup_cons.1 hnd).1
    have hpre' : pre.filter (fun p => p.1 = n) = [] :=
      filter_key_none n pre (fun p hp e => hpre p hp (by simp [e]))
    have hrest : (bodyEntries fs ws).filter (fun p => p.1 = n) = [] :=
      filter_key_none n _ (fun p hp e => hn (e ▸ bodyEntries_keys fs ws p hp))
    rw [bodyEntries_cons]
    cases w with
    | none =>
      have hfield : fieldFromObj (pre ++ ([] ++ bodyEntries fs ws)) (n, c) = some none := by
        unfold fieldFromObj
        simp only [List.nil_append, List.filter_append, hpre', hrest]
        exact hc1
      have htail := fieldsFromObj_entries fs ws pre hnd'
        (fun p hp hm => hpre p hp (by simp [hm])) hc2
      rw [fieldsFromObj, hfield]
      simp only [List.nil_append, htail, Option.map_some]
    | some j =>
      have hfield : fieldFromObj (pre ++ ([(n, j)] ++ bodyEntries fs ws)) (n, c) = some (some j) := by
        unfold fieldFromObj
        simp only [List.filter_append, hpre', hrest, List.filter_cons, List.filter_nil,
          decide_true, if_true, List.nil_append, List.append_nil]
        exact hc1
      have htail := fieldsFromObj_entries fs ws (pre ++ [(n, j)]) hnd'
        (by
          intro p hp
          rcases List.mem_append.1 hp with hp | hp
          · intro hm; exact hpre p hp (by simp [hm])
          · simp only [List.mem_singleton] at hp; subst hp; exact hn) hc2
      rw [fieldsFromObj, hfield]
      rw [← List.append_assoc, htail]
      rfl

/-- What a lawful JSON library wrote is not empty, so it is parsed as it stands. -/
theorem parse_written {J : JsonCodec} (hJ : J.Lawful) {j : JVal} {b : Str} (h : J.ser j = some b) :
    J.parse (bodyOrEmptyObject b) = some j := by
  unfold bodyOrEmptyObject
  rw [if_neg (hJ.ser_ne j b h)]
  exact hJ.law j b h

theorem nodup_filterMap_names {α β : Type} (name : α → Str) (g : α → Option (Str × β))
    (hg : ∀ a p, g a = some p → p.1 = name a) :
    ∀ (l : List α), (l.map name).Nodup → ((l.filterMap g).map (·.1)).Nodup
  | [], _ => by simp
  | a :: l, h => by
    have hl := nodup_filterMap_names name g hg l (List.nodup_cons.1 h).2
    have ha : name a ∉ l.map name := (List.nodup_cons.1 h).1
    rw [List.filterMap_cons]
    cases hga : g a with
    | none => exact hl
    | some p =>
      simp only [List.map_cons]
      refine List.nodup_cons.2 ⟨?_, hl⟩
      intro hm
      obtain ⟨q, hq, hq1⟩ := List.mem_map.1 hm
      obtain ⟨b, hb, hgb⟩ := List.mem_filterMap.1 hq
      apply ha
      rw [← hg a p hga, ← hq1, hg b q hgb]
      exact List.mem_map.2 ⟨b, hb, rfl⟩

end Ruma.Glue
