/-
  The response round trip (`response_roundtrip'`): headers read by `remove` in declaration order,
  and the body as one JSON value or as the object of the body fields.
-/
import RumaModel.Lemmas.EndpointGlueRt
namespace Ruma.Glue
open Ruma Ruma.Endpoint

/-- Every field's wire form is the wire form of a value of the field's type. -/
structure RespVal.Canon (d : RespDesc) (v : RespVal) : Prop where
  header : HeaderCanon d.headerFields v.header
  body : match d.wholeBodyCodec with
    | some c => CanonAll [c] v.whole
    | none => CanonAll (d.bodyFields.map (·.2)) v.body

theorem respShapeOk_inv (d : RespDesc) (v : RespVal) (h : v.shapeOk d = true) :
    (match d.wholeBodyCodec with
     | some _ => v.body = []
     | none => v.whole = [])
    ∧ v.raw.length = d.rawFields.length := by
  unfold RespVal.shapeOk at h
  simp only [Bool.and_eq_true, beq_iff_eq] at h
  refine ⟨?_, h.2⟩
  have h2 := h.1.2
  revert h2
  cases d.wholeBodyCodec <;> simp only [Bool.and_eq_true, List.isEmpty_iff]
  · exact fun h2 => h2.1
  · exact fun h2 => h2.2

/-- What `Response::check` leaves: at most one of a raw body and a newtype body, and then no body
field. -/
theorem respMacroAccepts_inv (d : RespDesc) (h : d.macroAccepts = true) :
    (d.rawFields = [] ∧ d.newtypeFields = [])
    ∨ ((∃ r, d.rawFields = [r]) ∧ d.newtypeFields = [] ∧ d.bodyFields = [])
    ∨ (d.rawFields = [] ∧ (∃ c, d.newtypeFields = [c]) ∧ d.bodyFields = []) := by
  unfold RespDesc.macroAccepts at h
  simp only [Bool.and_eq_true, decide_eq_true_eq, Bool.not_eq_true', Bool.and_eq_false_imp,
    Bool.not_eq_false', List.isEmpty_iff] at h
  exact body_kinds h.1.1.1 h.1.1.2

theorem tryIntoResp_ok_inv (J : JsonCodec) (d : RespDesc) (v : RespVal) (r : HttpResponse)
    (henc : tryIntoHttpResponse J d v = .ok r) :
    v.shapeOk d = true ∧ putHeaderFields d.headerFields v.header [(contentType, applicationJson)] = .ok r.headers
      ∧ r.status = d.status
      ∧ (if d.hasRawBody then v.raw.head? = some r.body
         else ∃ j, responseBodyJson d v = some j ∧ J.ser j = some r.body) := by
  unfold tryIntoHttpResponse at henc
  split at henc
  · cases henc
  split at henc
  · cases henc
  rename_i hshape _ hs hp
  split at henc
  · split at henc <;> cases henc
    refine ⟨by simpa using hshape, hp, rfl, ?_⟩
    rw [if_pos ‹_›]
    assumption
  · split at henc
    · cases henc
    split at henc <;> cases henc
    refine ⟨by simpa using hshape, hp, rfl, ?_⟩
    rw [if_neg ‹_›]
    exact ⟨_, ‹_›, ‹_›⟩

/-! ### Headers: `remove` in declaration order -/

theorem decodeRespHeaders_all : ∀ (fs : List HeaderField) (vs : List (Option Str)) (hs : Headers),
    fs.length = vs.length → (fs.map (·.header)).Nodup →
    (∀ f v, (f, v) ∈ fs.zip vs → readRespHeader (hGet hs f.header) f = some v) →
    decodeRespHeaders hs fs = some vs
  | [], [], _, _, _, _ => rfl
  | [], _ :: _, _, h, _, _ => by simp at h
  | _ :: _, [], _, h, _, _ => by simp at h
  | f :: fs, v :: vs, hs, hl, hnd, h => by
    have h1 := h f v (by simp)
    have hf : f.header ∉ fs.map (·.header) := (List.nodup_cons.1 hnd).1
    have h2 := decodeRespHeaders_all fs vs (hRemove hs f.header) (by simpa using hl)
      (List.nodup_cons.1 hnd).2
      (by
        intro g w hg
        have hmem : g.header ∈ fs.map (·.header) := List.mem_map.2 ⟨g, (List.of_mem_zip hg).1, rfl⟩
        have hne : f.header ≠ g.header := fun e => hf (e ▸ hmem)
        unfold hRemove
        rw [hGet_filter, if_neg hne]
        exact h g w (by simp only [List.zip_cons_cons]; exact List.mem_cons_of_mem _ hg))
    simp only [decodeRespHeaders, h1, h2, Option.map_some]

/-- A header field reads back its own wire form from what `remove` returned for its name. -/
theorem readRespHeader_own (f : HeaderField) (w : Option Str)
    (hc : (∀ s, w = some s → f.codec.norm s = some s) ∧ (w = none → f.optional = true))
    (hvis : ∀ s, w = some s → headerToStrOk s = true) : readRespHeader w f = some w := by
  unfold readRespHeader
  cases w with
  | some s =>
    simp only [hvis s rfl, if_true, hc.1 s rfl, Option.map_some]
    split <;> rfl
  | none => simp only [hc.2 rfl, if_true]

theorem roundtrip_respHeaders (d : RespDesc) (v : RespVal) (hs : Headers)
    (hnd : (d.headerFields.map (·.header)).Nodup)
    (hcanon : HeaderCanon d.headerFields v.header)
    (hvis : ∀ s, some s ∈ v.header → headerToStrOk s = true)
    (himp : ∀ f, (f, none) ∈ d.headerFields.zip v.header → f.header ≠ contentType)
    (h : putHeaderFields d.headerFields v.header [(contentType, applicationJson)] = .ok hs) :
    decodeRespHeaders hs d.headerFields = some v.header := by
  obtain ⟨hlen, hmem⟩ := headerCanon_zip _ _ hcanon
  refine decodeRespHeaders_all _ _ hs hlen hnd (fun f w hm => ?_)
  have hw : hGet hs f.header = w := by
    rw [hGet_putHeaderFields_own _ _ _ hs h hnd f w hm]
    cases w with
    | some s => rfl
    | none => rw [Option.orElse_none, hGet, if_neg (fun e => himp f hm e.symm)]; rfl
  rw [hw]
  exact readRespHeader_own f w (hmem f w hm) (fun s e => hvis s (e ▸ (List.of_mem_zip hm).2))

/-! ### Body -/

theorem RespField.asBody_name (f : RespField) (p : Str × Codec (Option JVal)) (h : f.asBody = some p) :
    p.1 = f.name := by
  unfold RespField.asBody at h
  split at h <;> cases h
  rfl

theorem roundtrip_respBody (J : JsonCodec) (hJ : J.Lawful) (d : RespDesc) (v : RespVal) (body : Str)
    (hmacro : d.macroAccepts = true) (hsup : d.supported = true) (hshape : v.shapeOk d = true)
    (hc : match d.wholeBodyCodec with
      | some c => CanonAll [c] v.whole
      | none => CanonAll (d.bodyFields.map (·.2)) v.body)
    (h : if d.hasRawBody then v.raw.head? = some body
         else ∃ j, responseBodyJson d v = some j ∧ J.ser j = some body) :
    decodeRespBody J d body = .ok (v.body, v.whole)
    ∧ (if d.hasRawBody then [body] else []) = v.raw := by
  obtain ⟨hl2, hl3⟩ := respShapeOk_inv d v hshape
  obtain ⟨hnames, hman⟩ : (d.fields.map (·.name)).Nodup ∧ (d.manualBody = none ∨ d.bodyFields ≠ []) := by
    simpa [RespDesc.supported] using hsup
  unfold decodeRespBody responseBodyJson at *
  unfold RespDesc.hasRawBody RespDesc.hasBodyFields at *
  have hmac := respMacroAccepts_inv d hmacro
  cases hw : d.wholeBodyCodec with
  | some c =>
    -- a newtype body or hand-written body serde: the body is one JSON value
    rw [hw] at hc hl2 h
    have ⟨hr, hbf⟩ : d.rawFields = [] ∧ (!d.bodyFields.isEmpty || !d.newtypeFields.isEmpty) = true := by
      unfold RespDesc.wholeBodyCodec at hw
      rcases hmac with ⟨hr, hn⟩ | ⟨_, hn, hb⟩ | ⟨hr, ⟨c', hn⟩, _⟩ <;> rw [hn] at hw ⊢
      · rcases hman with hm | hm
        · rw [hm] at hw; cases hw
        · exact ⟨hr, by simpa using hm⟩
      · rcases hman with hm | hm
        · rw [hm] at hw; cases hw
        · exact absurd hb hm
      · exact ⟨hr, by simp⟩
    rw [hr] at h hl3 ⊢
    simp only [List.isEmpty_nil, Bool.not_true, Bool.false_eq_true, if_false] at h ⊢
    obtain ⟨j, hj, hser⟩ := h
    obtain ⟨x, _, hv, hx, hnil⟩ := canonAll_cons hc
    cases canonAll_nil hnil
    rw [hv] at hj
    cases hj
    rw [if_pos hbf, parse_written hJ hser]
    simp only [hx, hl2, hv, List.length_eq_zero_iff.1 hl3, and_self]
  | none =>
    rw [hw] at hc hl2 h
    have hn : d.newtypeFields = [] := by
      unfold RespDesc.wholeBodyCodec at hw
      split at hw
      · cases hw
      · assumption
    rw [hn, hl2]
    rcases hmac with ⟨hr, _⟩ | ⟨⟨r, hr⟩, _, hb⟩ | ⟨_, ⟨c, hn'⟩, _⟩
    · -- the body fields as one JSON object, or no body at all
      rw [hr] at h hl3 ⊢
      simp only [List.isEmpty_nil, Bool.not_true, Bool.false_eq_true, if_false, Option.some.injEq,
        Bool.or_false, and_true, List.length_eq_zero_iff.1 hl3] at h ⊢
      obtain ⟨j, hj, hser⟩ := h
      cases hj
      by_cases hbf : (!d.bodyFields.isEmpty) = true
      · have := fieldsFromObj_entries d.bodyFields v.body []
          (nodup_filterMap_names (·.name) RespField.asBody RespField.asBody_name d.fields hnames)
          (by simp) hc
        rw [List.nil_append] at this
        simp only [if_pos hbf, parse_written hJ hser, this]
      · rw [if_neg hbf]
        have : d.bodyFields = [] := by simpa using hbf
        rw [this] at hc
        rw [canonAll_nil hc]
    · -- raw body: the bytes are the field
      rw [hr] at h hl3 ⊢
      rw [hb] at hc ⊢
      simp only [List.isEmpty_cons, List.isEmpty_nil, Bool.not_false, Bool.not_true, if_true,
        Bool.or_self, Bool.false_eq_true, if_false] at h ⊢
      obtain ⟨x, hx⟩ : ∃ x, v.raw = [x] := by
        match hv : v.raw, hl3 with
        | [x], _ => exact ⟨x, rfl⟩
      rw [hx] at h
      cases h
      rw [canonAll_nil hc, hx]
      exact ⟨rfl, rfl⟩
    · rw [hn'] at hn; cases hn

/-! ### The response round trip -/

theorem response_roundtrip' (J : JsonCodec) (hJ : J.Lawful) (d : RespDesc) (v : RespVal) (r : HttpResponse)
    (hmacro : d.macroAccepts = true) (hsup : d.supported = true) (hstatus : d.status < 400)
    (hhn : (d.headerFields.map (·.header)).Nodup)
    (hcanon : v.Canon d)
    (hvis : ∀ s, some s ∈ v.header → headerToStrOk s = true)
    (himp : ∀ f, (f, none) ∈ d.headerFields.zip v.header → f.header ≠ contentType)
    (henc : tryIntoHttpResponse J d v = .ok r) : tryFromHttpResponse J d r = .ok v := by
  obtain ⟨hshape, hput, hst, hbody⟩ := tryIntoResp_ok_inv J d v r henc
  obtain ⟨hb, hr⟩ := roundtrip_respBody J hJ d v r.body hmacro hsup hshape hcanon.body hbody
  unfold tryFromHttpResponse
  rw [hst, if_pos hstatus, hb, roundtrip_respHeaders d v r.headers hhn hcanon.header hvis himp hput]
  simp only [hr]

end Ruma.Glue
