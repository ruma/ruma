/-
  `make_endpoint_url` as a whole never panics: the selected path is one of the history's paths,
  all of which have the placeholders of the reference path. Also `historyOk`, the form in which
  `newOk` is decided for the tables of extracted histories.
-/
import RumaModel.Lemmas.Endpoint
import RumaModel.Lemmas.EndpointUrl
namespace Ruma.Endpoint
open Ruma.Spec.Endpoint

/-- Every path of a history: unstable ones, then stable ones. -/
def allPaths (h : VersionHistory) : List Str := h.unstable ++ h.stable.map (·.2)

/-- A byte that is `/` or may stand in a path segment is visible ASCII. -/
theorem pathValid_of_safe (p : Str) (h : p.all (fun b => b == 47 || !segmentUnsafe b) = true) :
    pathValid p = true := by
  unfold pathValid
  rw [List.all_eq_true] at h ⊢
  intro b hb
  have := h b hb
  simp only [segmentUnsafe, Bool.or_eq_true, beq_iff_eq, Bool.not_eq_true', Bool.or_eq_false_iff,
    decide_eq_false_iff_not, Bool.and_eq_true, decide_eq_true_eq] at this ⊢
  omega

/-- `newOk` together with: every path starts with `/` and consists of `/` and segment-safe bytes.
Such bytes are visible ASCII, so `check_path_is_valid` is not evaluated on top of that walk. The
tables of extracted histories are decided in this form. -/
def historyOk (h : VersionHistory) : Bool :=
  match refPath h with
  | none => false
  | some r =>
    (allPaths h).all (fun p => p.head? == some 47 && p.all (fun b => b == 47 || !segmentUnsafe b)
      && pathArgNames r == pathArgNames p)
    && ascending h.stable && deprecatedOk h && removedOk h

theorem historyOk_sound (h : VersionHistory) (hk : historyOk h = true) :
    newOk h = true ∧ ∀ p ∈ allPaths h,
      (p.head? == some 47 && p.all (fun b => b == 47 || !segmentUnsafe b)) = true := by
  unfold historyOk at hk
  unfold newOk
  split at hk
  · cases hk
  rename_i r hr
  rw [hr]
  simp only [Bool.and_eq_true, List.all_eq_true] at hk ⊢
  obtain ⟨⟨⟨hp, ha⟩, hd⟩, hrm⟩ := hk
  have hv : ∀ p ∈ allPaths h, pathValid p = true ∧ (pathArgNames r == pathArgNames p) = true :=
    fun p hm => ⟨pathValid_of_safe p (List.all_eq_true.2 (hp p hm).1.2), (hp p hm).2⟩
  refine ⟨⟨⟨⟨?_, ha⟩, hd⟩, hrm⟩, fun p hm => (hp p hm).1⟩
  unfold pathsOk
  simp only [Bool.and_eq_true, List.all_eq_true]
  exact ⟨fun p hm => hv p (List.mem_append_left _ hm),
    fun e he => hv e.2 (List.mem_append_right _ (List.mem_map.2 ⟨e, he, rfl⟩))⟩

theorem makeEndpointUrl_ok_inv (h : VersionHistory) (vs : List Version) (base query : Str)
    (args : List Str) (url : Str) (hu : makeEndpointUrl h vs base args query = .ok url) :
    ∃ tmpl p, selectPath h vs = .ok tmpl ∧ substPath tmpl args = some p ∧
      url = stripSlashSuffix base ++ p ++ (if query = [] then [] else 63 :: query) := by
  unfold makeEndpointUrl at hu
  split at hu <;> try cases hu
  split at hu <;> cases hu
  exact ⟨_, _, ‹_›, ‹_›, rfl⟩

theorem selectPath_mem (h : VersionHistory) (vs : List Version) (hinv : Inv h) (p : Str)
    (hp : selectPath h vs = .ok p) : p ∈ allPaths h := by
  obtain ⟨s, hs, hsel⟩ := selectPath_spec' h vs hinv
  rw [hp] at hs
  simp only [Out.toSelection?, Option.some.injEq] at hs
  subst hs
  unfold allPaths
  cases hsel with
  | stable a _ _ hm _ _ =>
    exact List.mem_append_right _ (List.mem_map.2 ⟨(a, p), hm, rfl⟩)
  | unstable _ _ _ hu =>
    exact List.mem_append_left _ (List.mem_of_getLast? hu)

theorem newOk_argNames (h : VersionHistory) (hn : newOk h = true) :
    ∃ r, refPath h = some r ∧ ∀ p ∈ allPaths h, pathArgNames p = pathArgNames r := by
  unfold newOk at hn
  cases hr : refPath h with
  | none => rw [hr] at hn; simp at hn
  | some r =>
    rw [hr] at hn
    simp only [Bool.and_eq_true] at hn
    obtain ⟨⟨⟨hpaths, _⟩, _⟩, _⟩ := hn
    unfold pathsOk at hpaths
    simp only [Bool.and_eq_true, List.all_eq_true, beq_iff_eq] at hpaths
    refine ⟨r, rfl, ?_⟩
    intro p hp
    unfold allPaths at hp
    rcases List.mem_append.1 hp with h1 | h2
    · exact ((hpaths.1 p h1).2).symm
    · obtain ⟨e, he, rfl⟩ := List.mem_map.1 h2
      exact ((hpaths.2 e he).2).symm

/-- No panic site of `make_endpoint_url` is reachable for a history `VersionHistory::new`
accepted whose paths all start with `/`, when at least as many arguments as the paths have
placeholders are supplied. -/
theorem makeEndpointUrl_no_panic' (h : VersionHistory) (vs : List Version) (base query : Str)
    (args : List Str) (hnew : newOk h = true)
    (hslash : ∀ p ∈ allPaths h, p.head? = some 47)
    (hlen : ∀ r, refPath h = some r → (pathArgNames r).length ≤ args.length) :
    makeEndpointUrl h vs base args query ≠ .panic := by
  have hinv := newOk_inv h hnew
  obtain ⟨r, hr, hnames⟩ := newOk_argNames h hnew
  unfold makeEndpointUrl
  cases hsel : selectPath h vs with
  | ok tmpl =>
    have hm := selectPath_mem h vs hinv tmpl hsel
    obtain ⟨p, hp⟩ := substPath_some tmpl args (hslash tmpl hm) (by rw [hnames tmpl hm]; exact hlen r hr)
    simp [hp]
  | errRemoved v => simp
  | errNoUnstable => simp
  | panic =>
    obtain ⟨s, hs, _⟩ := selectPath_spec' h vs hinv
    rw [hsel] at hs
    cases hs

end Ruma.Endpoint
