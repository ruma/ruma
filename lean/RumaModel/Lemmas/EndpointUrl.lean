/-
  Path arguments on the wire: percent-decoding undoes percent-encoding when `%` is in the encode
  set; a server that splits the path `make_endpoint_url` built on `/` and decodes the placeholder
  segments gets the arguments back; the built path holds no byte unsafe in a URI path segment.
-/
import RumaModel.Model.Endpoint
namespace Ruma.Endpoint
open Ruma.Spec.Endpoint

/-- Every element is a byte. -/
def IsBytes (s : Str) : Prop := ∀ b ∈ s, b < 256

theorem isBytes_cons {b : Nat} {t : Str} : IsBytes (b :: t) ↔ b < 256 ∧ IsBytes t :=
  List.forall_mem_cons

theorem hexUpper_spec : ∀ n, n < 16 → isHexDigit (hexUpper n) = true ∧ hexVal (hexUpper n) = n := by
  decide

theorem hexUpper_range (n : Nat) : (48 ≤ hexUpper n ∧ hexUpper n ≤ 57) ∨ 65 ≤ hexUpper n := by
  unfold hexUpper
  split <;> omega

theorem percentDecode_cons_ne (b : Nat) (t : Str) (hb : b ≠ 37) :
    percentDecode (b :: t) = b :: percentDecode t := by
  rw [percentDecode.eq_def]
  simp [hb]

theorem percentDecode_escape (x y : Nat) (t : Str) (hx : isHexDigit x = true) (hy : isHexDigit y = true) :
    percentDecode (37 :: x :: y :: t) = (16 * hexVal x + hexVal y) :: percentDecode t := by
  rw [percentDecode.eq_2]
  simp [hx, hy]

theorem percentDecode_encode (set : Nat → Bool) (hpct : set 37 = true) :
    ∀ (s : Str), IsBytes s → percentDecode (percentEncode set s) = s
  | [], _ => rfl
  | b :: t, hs => by
    obtain ⟨hb, ht⟩ := isBytes_cons.1 hs
    have ih := percentDecode_encode set hpct t ht
    unfold percentEncode
    split
    · have h1 := hexUpper_spec (b / 16) (by omega)
      have h2 := hexUpper_spec (b % 16) (by omega)
      rw [percentDecode_escape _ _ _ h1.1 h2.1, h1.2, h2.2, ih]
      congr 1
      omega
    · rename_i hne
      have : b ≠ 37 := by
        intro h; subst h; simp [hpct] at hne
      rw [percentDecode_cons_ne _ _ this, ih]

/-- The two character tables agree on ASCII: what `PATH_PERCENT_ENCODE_SET` leaves alone may stand
in a path segment. -/
theorem pathSet_safe : ∀ b, b < 128 → pathSet b = false → segmentUnsafe b = false := by decide +kernel

theorem hexUpper_safe : ∀ n, n < 16 → segmentUnsafe (hexUpper n) = false := by decide +kernel

theorem percentEncode_safe : ∀ (s : Str), IsBytes s → ∀ b ∈ percentEncode pathSet s, segmentUnsafe b = false
  | [], _, b, hb => by simp [percentEncode] at hb
  | c :: t, hs, b, hb => by
    obtain ⟨hc, ht⟩ := isBytes_cons.1 hs
    unfold percentEncode at hb
    split at hb
    · simp only [List.mem_cons] at hb
      rcases hb with rfl | rfl | rfl | hb
      · decide
      · exact hexUpper_safe _ (by omega)
      · exact hexUpper_safe _ (by omega)
      · exact percentEncode_safe t ht b hb
    · rename_i hne
      simp only [Bool.or_eq_true, decide_eq_true_eq, not_or, Nat.not_le, Bool.not_eq_true] at hne
      rcases List.mem_cons.1 hb with rfl | hb
      · exact pathSet_safe _ hne.1 hne.2
      · exact percentEncode_safe t ht b hb

theorem splitAux_pieces (sep : Nat) : ∀ (s : Str),
    (∀ b ∈ (splitAux sep s).1, b ∈ s ∧ b ≠ sep)
    ∧ ∀ x ∈ (splitAux sep s).2, ∀ b ∈ x, b ∈ s ∧ b ≠ sep
  | [] => by simp [splitAux]
  | c :: t => by
    obtain ⟨ih1, ih2⟩ := splitAux_pieces sep t
    have ih1' : ∀ b ∈ (splitAux sep t).1, b ∈ c :: t ∧ b ≠ sep :=
      fun b hb => ⟨List.mem_cons_of_mem _ (ih1 b hb).1, (ih1 b hb).2⟩
    have ih2' : ∀ x ∈ (splitAux sep t).2, ∀ b ∈ x, b ∈ c :: t ∧ b ≠ sep :=
      fun x hx b hb => ⟨List.mem_cons_of_mem _ (ih2 x hx b hb).1, (ih2 x hx b hb).2⟩
    unfold splitAux
    by_cases hc : c = sep
    · simp only [if_pos hc]
      refine ⟨by simp, fun x hx => ?_⟩
      rcases List.mem_cons.1 hx with rfl | hx
      · exact ih1'
      · exact ih2' x hx
    · simp only [if_neg hc]
      refine ⟨fun b hb => ?_, ih2'⟩
      rcases List.mem_cons.1 hb with rfl | hb
      · exact ⟨List.mem_cons_self, hc⟩
      · exact ih1' b hb

theorem splitAux_append (sep : Nat) : ∀ (p r : Str), sep ∉ p →
    splitAux sep (p ++ r) = (p ++ (splitAux sep r).1, (splitAux sep r).2)
  | [], r, _ => by simp
  | b :: p, r, h => by
    have hb : b ≠ sep := fun e => h (by simp [e])
    have hp : sep ∉ p := fun e => h (List.mem_cons_of_mem _ e)
    simp only [List.cons_append, splitAux, hb, if_false, splitAux_append sep p r hp]

theorem splitAux_cons_sep (sep : Nat) (t : Str) :
    splitAux sep (sep :: t) = ([], (splitAux sep t).1 :: (splitAux sep t).2) := by
  rw [splitAux]; simp

theorem percentEncode_noSlash (s : Str) (hs : IsBytes s) : 47 ∉ percentEncode pathSet s := by
  intro h
  have := percentEncode_safe s hs 47 h
  simp [segmentUnsafe] at this

/-- The heart of `path_args_roundtrip`, on the segment lists. -/
theorem route_subst : ∀ (segs : List Str) (args : List Str) (p : Str),
    (∀ s ∈ segs, 47 ∉ s) → (∀ a ∈ args, IsBytes a) →
    args.length = (segs.filterMap stripColon).length →
    substSegments pathSet segs args = some p →
    ∃ pieces, splitAux 47 p = ([], pieces) ∧ pieces.length = segs.length ∧
      routeSegments segs pieces = some args
  | [], args, p, _, _, hlen, h => by
    simp only [substSegments, Option.some.injEq] at h
    subst h
    simp only [List.filterMap_nil, List.length_nil, List.length_eq_zero_iff] at hlen
    subst hlen
    exact ⟨[], rfl, rfl, rfl⟩
  | seg :: segs, args, p, hseg, hargs, hlen, h => by
    have hsegs : ∀ s ∈ segs, 47 ∉ s := fun s hs => hseg s (List.mem_cons_of_mem _ hs)
    unfold substSegments at h
    split at h
    · -- placeholder
      rename_i tl
      have hstrip : stripColon (58 :: tl) = some tl := rfl
      cases args with
      | nil => simp at h
      | cons a args' =>
        simp only [Option.map_eq_some_iff] at h
        obtain ⟨r, hr, hp⟩ := h
        subst hp
        have hlen' : args'.length = (segs.filterMap stripColon).length := by
          simp only [List.filterMap_cons, hstrip, List.length_cons] at hlen
          omega
        obtain ⟨pieces, hsp, hl, hroute⟩ := route_subst segs args' r hsegs
          (fun x hx => hargs x (List.mem_cons_of_mem _ hx)) hlen' hr
        have ha : IsBytes a := hargs a (by simp)
        refine ⟨percentEncode pathSet a :: pieces, ?_, by simp [hl], ?_⟩
        · rw [List.cons_append, splitAux_cons_sep, splitAux_append 47 _ r (percentEncode_noSlash a ha), hsp]
          simp
        · simp only [routeSegments, hroute, Option.map_some,
            percentDecode_encode pathSet (by decide) a ha]
    · -- literal segment
      rename_i hnot
      simp only [Option.map_eq_some_iff] at h
      obtain ⟨r, hr, hp⟩ := h
      subst hp
      have hnone : stripColon seg = none := stripColon.eq_2 seg hnot
      have hlen' : args.length = (segs.filterMap stripColon).length := by
        simpa [List.filterMap_cons, hnone] using hlen
      obtain ⟨pieces, hsp, hl, hroute⟩ := route_subst segs args r hsegs hargs hlen' hr
      refine ⟨seg :: pieces, ?_, by simp [hl], ?_⟩
      · rw [List.cons_append, splitAux_cons_sep, splitAux_append 47 _ r (hseg seg (by simp)), hsp]
        simp
      · unfold routeSegments
        split
        · rename_i tl; exact absurd rfl (hnot tl)
        · simp [hroute]

theorem pathArgNames_eq (tmpl : Str) (h1 : (splitAux 47 tmpl).1 = []) :
    pathArgNames tmpl = (splitAux 47 tmpl).2.filterMap stripColon := by
  unfold pathArgNames splitOn
  rw [h1]
  rfl

theorem path_args_roundtrip' (tmpl : Str) (args : List Str) (p : Str)
    (hargs : ∀ a ∈ args, IsBytes a) (hlen : args.length = (pathArgNames tmpl).length)
    (h : substPath tmpl args = some p) :
    routeArgs tmpl p = some args ∧ (splitOn 47 p).length = (splitOn 47 tmpl).length := by
  unfold substPath substPathWith at h
  simp only at h
  split at h
  · cases h
  · rename_i h1
    simp only [ne_eq, Decidable.not_not] at h1
    rw [pathArgNames_eq tmpl h1] at hlen
    obtain ⟨pieces, hsp, hl, hroute⟩ := route_subst _ args p
      (fun s hs h47 => ((splitAux_pieces 47 tmpl).2 s hs 47 h47).2 rfl) hargs hlen h
    unfold routeArgs splitOn
    rw [hsp, h1]
    refine ⟨?_, by simp [hl]⟩
    simp only [routeSegments]
    simp [hroute]

theorem substSegments_some (set : Nat → Bool) : ∀ (segs : List Str) (args : List Str),
    (segs.filterMap stripColon).length ≤ args.length → ∃ p, substSegments set segs args = some p
  | [], _, _ => ⟨[], rfl⟩
  | seg :: segs, args, h => by
    unfold substSegments
    split
    · rename_i tl
      have hstrip : stripColon (58 :: tl) = some tl := rfl
      cases args with
      | nil => simp [hstrip] at h
      | cons a args' =>
        simp only [List.filterMap_cons, hstrip, List.length_cons] at h
        obtain ⟨r, hr⟩ := substSegments_some set segs args' (by omega)
        exact ⟨47 :: percentEncode set a ++ r, by simp [hr]⟩
    · rename_i hnot
      rw [List.filterMap_cons, stripColon.eq_2 seg hnot] at h
      obtain ⟨r, hr⟩ := substSegments_some set segs args h
      exact ⟨47 :: seg ++ r, by simp [hr]⟩

/-- Neither `assert!`/`expect` of the substitution loop fires for a path that starts with `/` when
at least as many arguments as placeholders are supplied. -/
theorem substPath_some (tmpl : Str) (args : List Str) (hslash : tmpl.head? = some 47)
    (hlen : (pathArgNames tmpl).length ≤ args.length) : ∃ p, substPath tmpl args = some p := by
  cases tmpl with
  | nil => simp at hslash
  | cons c t =>
    simp only [List.head?_cons, Option.some.injEq] at hslash
    subst hslash
    have h1 : (splitAux 47 (47 :: t)).1 = [] := by rw [splitAux_cons_sep]
    unfold substPath substPathWith
    simp only [h1, ne_eq, not_true_eq_false, if_false]
    rw [pathArgNames_eq _ h1] at hlen
    exact substSegments_some pathSet _ args hlen

theorem substSegments_safe : ∀ (segs : List Str) (args : List Str) (p : Str),
    (∀ seg ∈ segs, ∀ b ∈ seg, b = 47 ∨ segmentUnsafe b = false) → (∀ a ∈ args, IsBytes a) →
    substSegments pathSet segs args = some p → ∀ b ∈ p, b = 47 ∨ segmentUnsafe b = false
  | [], _, p, _, _, h, b, hb => by
    simp only [substSegments, Option.some.injEq] at h
    subst h; simp at hb
  | seg :: segs, args, p, hsegs, hargs, h, b, hb => by
    have hsegs' : ∀ s ∈ segs, ∀ b ∈ s, b = 47 ∨ segmentUnsafe b = false :=
      fun s hs => hsegs s (List.mem_cons_of_mem _ hs)
    unfold substSegments at h
    split at h
    · cases args with
      | nil => simp at h
      | cons a args' =>
        simp only [Option.map_eq_some_iff] at h
        obtain ⟨r, hr, rfl⟩ := h
        simp only [List.cons_append, List.mem_cons, List.mem_append] at hb
        rcases hb with rfl | hb | hb
        · exact Or.inl rfl
        · exact Or.inr (percentEncode_safe a (hargs a (by simp)) b hb)
        · exact substSegments_safe segs args' r hsegs'
            (fun x hx => hargs x (List.mem_cons_of_mem _ hx)) hr b hb
    · simp only [Option.map_eq_some_iff] at h
      obtain ⟨r, hr, rfl⟩ := h
      simp only [List.cons_append, List.mem_cons, List.mem_append] at hb
      rcases hb with rfl | hb | hb
      · exact Or.inl rfl
      · exact hsegs seg (by simp) b hb
      · exact substSegments_safe segs args r hsegs' hargs hr b hb

theorem url_no_stray_delims' (tmpl : Str) (args : List Str) (p : Str)
    (htmpl : ∀ b ∈ tmpl, b = 47 ∨ segmentUnsafe b = false) (hargs : ∀ a ∈ args, IsBytes a)
    (h : substPath tmpl args = some p) : ∀ b ∈ p, b = 47 ∨ segmentUnsafe b = false := by
  unfold substPath substPathWith at h
  simp only at h
  split at h
  · cases h
  · exact substSegments_safe _ args p
      (fun s hs b hb => htmpl b ((splitAux_pieces 47 tmpl).2 s hs b hb).1) hargs h

end Ruma.Endpoint
