/-
  The `X-Matrix` header: the challenge parser sub-machine, run over what `Display` writes, records
  the four fields in their escaped form (`parseChallenge_format`), and unescaping gives the fields
  back.
-/
import RumaModel.Model.Endpoint
import RumaModel.Lemmas.Json
namespace Ruma.Endpoint

/-- `is_ascii_string_quotable`: what may stand inside a quoted string (tab, space, visible ASCII). -/
def isQuotable (b : Nat) : Bool := b = 9 || (32 ≤ b && b ≤ 126)

theorem run_append (st : PState) (a b : Str) : st.run (a ++ b) = (st.run a).run b := by
  simp [PState.run, List.foldl_append]

theorem run_nil (st : PState) : st.run [] = st := rfl
theorem run_cons (st : PState) (b : Nat) (t : Str) : st.run (b :: t) = (st.step b).run t := rfl

/-- The character tables of the grammar, compared on ASCII: a token character is none of the
delimiters `" \ , =` or space, and may stand in a quoted string. -/
theorem tchar_facts : ∀ b, b < 128 → isTchar b = true →
    b ≠ 34 ∧ b ≠ 92 ∧ b ≠ 44 ∧ b ≠ 61 ∧ b ≠ 32 ∧ isQuotable b = true := by decide +kernel

theorem isTchar_lt (b : Nat) (h : isTchar b = true) : b < 128 := by
  unfold isTchar isAlnum at h
  simp only [Bool.or_eq_true, Bool.and_eq_true, decide_eq_true_eq] at h
  omega

/-- In a mode that collects a token, token characters are appended to what was collected. -/
theorem run_tchars (mk : Str → PMode)
    (hstep : ∀ sch ps acc b, isTchar b = true → PState.step ⟨sch, ps, mk acc⟩ b = ⟨sch, ps, mk (acc ++ [b])⟩)
    (sch : Str) (ps : List (Str × Str)) : ∀ (tok acc : Str), tok.all isTchar = true →
    PState.run ⟨sch, ps, mk acc⟩ tok = ⟨sch, ps, mk (acc ++ tok)⟩
  | [], acc, _ => by simp [run_nil]
  | b :: t, acc, h => by
    simp only [List.all_cons, Bool.and_eq_true] at h
    rw [run_cons, hstep _ _ _ _ h.1, run_tchars mk hstep sch ps t (acc ++ [b]) h.2]
    simp

theorem run_scheme (sch : Str) (ps : List (Str × Str)) : ∀ (tok acc : Str), tok.all isTchar = true →
    PState.run ⟨sch, ps, .scheme acc⟩ tok = ⟨sch, ps, .scheme (acc ++ tok)⟩ :=
  run_tchars .scheme (fun _ _ _ _ h => by simp only [PState.step, h, if_true]) sch ps

theorem run_key (sch : Str) (ps : List (Str × Str)) : ∀ (tok acc : Str), tok.all isTchar = true →
    PState.run ⟨sch, ps, .key acc⟩ tok = ⟨sch, ps, .key (acc ++ tok)⟩ :=
  run_tchars .key (fun _ _ _ _ h => by simp only [PState.step, h, if_true]) sch ps

theorem run_unquoted (sch : Str) (ps : List (Str × Str)) (k : Str) : ∀ (tok acc : Str),
    tok.all isTchar = true →
    PState.run ⟨sch, ps, .unquoted k acc⟩ tok = ⟨sch, ps, .unquoted k (acc ++ tok)⟩ :=
  run_tchars (.unquoted k) (fun _ _ _ _ h => by simp only [PState.step, h, if_true]) sch ps

theorem quotable_facts : ∀ b, b < 128 → isQuotable b = true →
    (b = 34 ∨ b = 92 → isEscapable b = true) ∧ (b ≠ 34 → b ≠ 92 → isQdtext b = true) := by
  decide +kernel

theorem isQuotable_lt (b : Nat) (h : isQuotable b = true) : b < 128 := by
  unfold isQuotable at h
  simp only [Bool.or_eq_true, Bool.and_eq_true, decide_eq_true_eq] at h
  omega

theorem run_quoted (sch : Str) (ps : List (Str × Str)) (k : Str) : ∀ (v acc : Str),
    v.all isQuotable = true →
    PState.run ⟨sch, ps, .quoted k acc false⟩ (escapeQuoted v)
      = ⟨sch, ps, .quoted k (acc ++ escapeQuoted v) false⟩
  | [], acc, _ => by simp [escapeQuoted, run_nil]
  | b :: t, acc, h => by
    simp only [List.all_cons, Bool.and_eq_true] at h
    have hf := quotable_facts b (isQuotable_lt b h.1) h.1
    unfold escapeQuoted
    split
    · rename_i hb
      simp only [Bool.or_eq_true, decide_eq_true_eq] at hb
      have hesc := hf.1 (by omega)
      rw [run_cons, run_cons]
      simp only [PState.step, Bool.false_eq_true, if_false, if_true, hesc]
      rw [run_quoted sch ps k t _ h.2]
      simp
    · rename_i hb
      simp only [Bool.or_eq_true, decide_eq_true_eq, not_or] at hb
      have hqd := hf.2 hb.2 hb.1
      rw [run_cons]
      simp only [PState.step, Bool.false_eq_true, if_false, hb.1, hb.2, hqd, if_true]
      rw [run_quoted sch ps k t _ h.2]
      simp

theorem unescape_cons_ne (b : Nat) (t : Str) (hb : b ≠ 92) : unescape (b :: t) = b :: unescape t :=
  unescape.eq_3 b t (fun _ _ h _ => hb h)

theorem unescape_escape : ∀ (v : Str), unescape (escapeQuoted v) = v
  | [] => rfl
  | b :: t => by
    unfold escapeQuoted
    split
    · simp [unescape, unescape_escape t]
    · rename_i hb
      simp only [Bool.or_eq_true, decide_eq_true_eq, not_or] at hb
      rw [unescape_cons_ne _ _ hb.1, unescape_escape t]

theorem unescape_token : ∀ (v : Str), v.all isTchar = true → unescape v = v
  | [], _ => rfl
  | b :: t, h => by
    simp only [List.all_cons, Bool.and_eq_true] at h
    have hb := (tchar_facts b (isTchar_lt b h.1) h.1).2.1
    rw [unescape_cons_ne _ _ hb, unescape_token t h.2]

/-- The raw (still escaped) parameter value the parser records for a formatted field. -/
def rawOf (v : Str) : Str := if v ≠ [] && v.all isTchar then v else escapeQuoted v

theorem unescape_rawOf (v : Str) : unescape (rawOf v) = v := by
  unfold rawOf
  split
  · rename_i h
    simp only [Bool.and_eq_true] at h
    exact unescape_token v h.2
  · exact unescape_escape v

/-- Reading one formatted value leaves a state in which a comma opens the next parameter and the
end of the input completes the challenge, either way with the value recorded in its escaped form. -/
theorem run_value (sch : Str) (ps : List (Str × Str)) (k v : Str) (hv : v.all isQuotable = true) :
    (PState.run ⟨sch, ps, .postEq k⟩ (quoteIfRequired v)).step 44
      = ⟨sch, ps ++ [(k, rawOf v)], .key []⟩
    ∧ (PState.run ⟨sch, ps, .postEq k⟩ (quoteIfRequired v)).finish
      = some (sch, ps ++ [(k, rawOf v)]) := by
  unfold quoteIfRequired rawOf
  split
  · -- a token: read in `unquoted` mode, still open
    rename_i h
    simp only [Bool.and_eq_true, decide_eq_true_eq] at h
    cases v with
    | nil => exact absurd rfl h.1
    | cons b t =>
      have hall := h.2
      simp only [List.all_cons, Bool.and_eq_true] at hall
      have hb := tchar_facts b (isTchar_lt b hall.1) hall.1
      have hst : PState.run ⟨sch, ps, .postEq k⟩ (b :: t) = ⟨sch, ps, .unquoted k (b :: t)⟩ := by
        rw [run_cons]
        simp only [PState.step, hb.1, if_false, hall.1, if_true]
        rw [run_unquoted sch ps k t [b] hall.2]
        rfl
      rw [hst]
      simp [PState.step, PState.finish, (by decide : isTchar 44 = false)]
  · -- a quoted string: recorded when the closing quote is read
    have hst : PState.run ⟨sch, ps, .postEq k⟩ (34 :: escapeQuoted v ++ [34])
        = ⟨sch, ps ++ [(k, escapeQuoted v)], .afterQuoted⟩ := by
      rw [List.cons_append, run_cons]
      simp only [PState.step, if_true]
      rw [run_append, run_quoted sch ps k v [] hv]
      simp [run_cons, run_nil, PState.step]
    rw [hst]
    simp [PState.step, PState.finish]

/-- Reading `name=`. -/
theorem run_name_eq (sch : Str) (ps : List (Str × Str)) (name : Str) (hn : name.all isTchar = true)
    (hne : name ≠ []) :
    PState.run ⟨sch, ps, .key []⟩ (name ++ [61]) = ⟨sch, ps, .postEq name⟩ := by
  rw [run_append, run_key sch ps name [] hn, run_cons, run_nil]
  simp [PState.step, hne, (by decide : isTchar 61 = false)]

def nScheme : Str := [88, 45, 77, 97, 116, 114, 105, 120]          -- "X-Matrix"
def nDestination : Str := [100, 101, 115, 116, 105, 110, 97, 116, 105, 111, 110]
def nKey : Str := [107, 101, 121]
def nOrigin : Str := [111, 114, 105, 103, 105, 110]
def nSig : Str := [115, 105, 103]

/-- One `name=value,` element read from the start-of-parameter state. -/
theorem run_param_comma (sch : Str) (ps : List (Str × Str)) (name v rest : Str)
    (hn : name.all isTchar = true) (hne : name ≠ []) (hv : v.all isQuotable = true) :
    PState.run ⟨sch, ps, .key []⟩ (name ++ [61] ++ (quoteIfRequired v ++ [44]) ++ rest)
      = PState.run ⟨sch, ps ++ [(name, rawOf v)], .key []⟩ rest := by
  rw [run_append, run_append, run_name_eq sch ps name hn hne, run_append, run_cons, run_nil,
    (run_value sch ps name v hv).1]

theorem run_param_end (sch : Str) (ps : List (Str × Str)) (name v : Str)
    (hn : name.all isTchar = true) (hne : name ≠ []) (hv : v.all isQuotable = true) :
    (PState.run ⟨sch, ps, .key []⟩ (name ++ [61] ++ quoteIfRequired v)).finish
      = some (sch, ps ++ [(name, rawOf v)]) := by
  rw [run_append, run_name_eq sch ps name hn hne, (run_value sch ps name v hv).2]

/-- `xmatrixFormat` re-associated element by element. -/
theorem xmatrixFormat_eq (x : XMatrix) :
    xmatrixFormat x = nScheme ++ [32] ++
      ((match x.destination with
        | some d => nDestination ++ [61] ++ (quoteIfRequired d ++ [44])
        | none => []) ++
       (nKey ++ [61] ++ (quoteIfRequired x.key ++ [44]) ++
        (nOrigin ++ [61] ++ (quoteIfRequired x.origin ++ [44]) ++
         (nSig ++ [61] ++ quoteIfRequired x.sig)))) := by
  have e1 : bs "X-Matrix " = nScheme ++ [32] := by rw [bs_ofList]; decide +kernel
  have e2 : bs "destination=" = nDestination ++ [61] := by rw [bs_ofList]; decide +kernel
  have e3 : bs "key=" = nKey ++ [61] := by rw [bs_ofList]; decide +kernel
  have e4 : bs ",origin=" = [44] ++ (nOrigin ++ [61]) := by rw [bs_ofList]; decide +kernel
  have e5 : bs ",sig=" = [44] ++ (nSig ++ [61]) := by rw [bs_ofList]; decide +kernel
  unfold xmatrixFormat
  rw [e1, e2, e3, e4, e5]
  cases x.destination <;> simp only [List.append_assoc, List.cons_append, List.nil_append]

theorem parseChallenge_format (x : XMatrix) (ho : x.origin.all isQuotable = true)
    (hd : ∀ d, x.destination = some d → d.all isQuotable = true)
    (hk : x.key.all isQuotable = true) (hs : x.sig.all isQuotable = true) :
    parseChallenge (xmatrixFormat x) = some (nScheme,
      (match x.destination with | some d => [(nDestination, rawOf d)] | none => []) ++
      [(nKey, rawOf x.key), (nOrigin, rawOf x.origin), (nSig, rawOf x.sig)]) := by
  unfold parseChallenge
  have hsch : PState.run ⟨[], [], .scheme []⟩ (nScheme ++ [32]) = ⟨nScheme, [], .key []⟩ := by
    decide
  rw [xmatrixFormat_eq, run_append _ (nScheme ++ [32]), hsch]
  cases hdest : x.destination with
  | none =>
    simp only [List.nil_append]
    rw [run_param_comma nScheme [] nKey x.key _ (by decide) (by decide) hk,
      run_param_comma nScheme _ nOrigin x.origin _ (by decide) (by decide) ho,
      run_param_end nScheme _ nSig x.sig (by decide) (by decide) hs]
    simp
  | some d =>
    simp only
    rw [run_param_comma nScheme [] nDestination d _ (by decide) (by decide) (hd d hdest),
      run_param_comma nScheme _ nKey x.key _ (by decide) (by decide) hk,
      run_param_comma nScheme _ nOrigin x.origin _ (by decide) (by decide) ho,
      run_param_end nScheme _ nSig x.sig (by decide) (by decide) hs]
    simp

end Ruma.Endpoint
