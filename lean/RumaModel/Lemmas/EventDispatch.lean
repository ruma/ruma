/-
  Helper lemmas for C18 (`Model/EventDispatch.lean`). Core Lean only.
-/
import RumaModel.Model.EventDispatch
import RumaModel.Lemmas.Json
namespace Ruma.EventDispatch
open Ruma

/-- The case analysis `field1` makes on the filtered entry list. -/
def pick1 : List (Str × JVal) → Except Err (Option JVal)
  | [] => .ok none
  | [e] => .ok (some e.2)
  | _ :: _ :: _ => .error .duplicateField

theorem field1_eq (o : Obj) (k : Str) : field1 o k = pick1 (o.filter (fun e => e.1 == k)) := by
  unfold field1
  generalize o.filter (fun e => e.1 == k) = l
  match l with
  | [] => rfl
  | [_] => rfl
  | _ :: _ :: _ => rfl

theorem pick1_perm {l l' : List (Str × JVal)} (h : l.Perm l') : pick1 l = pick1 l' := by
  match l, l', h with
  | [], l', h => rw [h.symm.eq_nil]
  | [e], l', h => rw [List.perm_singleton.mp h.symm]
  | a :: b :: t, l', h =>
    have hl := h.length_eq
    match l', hl with
    | [], hl => simp at hl
    | [_], hl => simp at hl
    | _ :: _ :: _, _ => rfl

theorem field1_perm {o o' : Obj} (h : o.Perm o') (k : Str) : field1 o k = field1 o' k := by
  rw [field1_eq, field1_eq]
  exact pick1_perm (h.filter _)

theorem typeHelper_perm {o o' : Obj} (h : o.Perm o') : typeHelper o = typeHelper o' := by
  unfold typeHelper; rw [field1_perm h]

theorem redactionHelper_perm {o o' : Obj} (h : o.Perm o') : redactionHelper o = redactionHelper o' := by
  unfold redactionHelper; rw [field1_perm h]

theorem dispatchKind_perm (tbl : Kind → Table) (k : Kind) (mr : Bool) {o o' : Obj} (h : o.Perm o') :
    dispatchKind tbl k mr o = dispatchKind tbl k mr o' := by
  unfold dispatchKind; rw [typeHelper_perm h, redactionHelper_perm h]

theorem dispatchTimeline_perm (tbl : Kind → Table) {o o' : Obj} (h : o.Perm o') :
    dispatchTimeline tbl o = dispatchTimeline tbl o' := by
  unfold dispatchTimeline
  rw [field1_perm h, dispatchKind_perm tbl .state true h, dispatchKind_perm tbl .messageLike true h]

theorem unsignedHelper_perm {u u' : Obj} (h : u.Perm u') :
    unsignedHelper (.obj u) = unsignedHelper (.obj u') := by
  simp only [unsignedHelper]; rw [field1_perm h]

theorem filter_mid (pre post : Obj) (k k' : Str) (v : JVal) :
    (pre ++ (k', v) :: post).filter (fun e => e.1 == k)
      = pre.filter (fun e => e.1 == k) ++ (if k' == k then [(k', v)] else [])
        ++ post.filter (fun e => e.1 == k) := by
  rw [List.filter_append, List.filter_cons]
  by_cases h : (k' == k) = true <;> simp [h]

theorem field1_mid_ne (pre post : Obj) (k k' : Str) (v v' : JVal) (hk : (k' == k) = false) :
    field1 (pre ++ (k', v) :: post) k = field1 (pre ++ (k', v') :: post) k := by
  rw [field1_eq, field1_eq, filter_mid, filter_mid]; simp [hk]

theorem redactionHelper_mid (pre post : Obj) (v v' : JVal)
    (hn : isNull v = isNull v') (hu : unsignedHelper v = unsignedHelper v') :
    redactionHelper (pre ++ (bs "unsigned", v) :: post)
      = redactionHelper (pre ++ (bs "unsigned", v') :: post) := by
  unfold redactionHelper
  rw [field1_eq, field1_eq, filter_mid, filter_mid]
  simp only [beq_self_eq_true, if_true]
  generalize pre.filter (fun e => e.1 == bs "unsigned") = a
  generalize post.filter (fun e => e.1 == bs "unsigned") = b
  match a, b with
  | [], [] => simp [pick1, hn, hu]
  | [], _ :: _ => simp [pick1]
  | [_], _ => simp [pick1]
  | _ :: _ :: _, _ => simp [pick1]

theorem field1_some_mem {o : Obj} {k : Str} {v : JVal} (h : field1 o k = .ok (some v)) :
    (k, v) ∈ o ∧ ∀ v', (k, v') ∈ o → v' = v := by
  rw [field1_eq] at h
  have hf : ∀ e, e ∈ o.filter (fun e => e.1 == k) ↔ e ∈ o ∧ e.1 = k := by
    intro e; simp [List.mem_filter]
  generalize hl : o.filter (fun e => e.1 == k) = l at h hf
  match l, h with
  | [e], h =>
    cases h
    have he := (hf e).mp (List.mem_singleton.mpr rfl)
    exact ⟨he.2 ▸ he.1, fun v' hv' => congrArg Prod.snd (List.mem_singleton.mp ((hf _).mpr ⟨hv', rfl⟩))⟩
  | [], h => simp [pick1] at h
  | _ :: _ :: _, h => simp [pick1] at h

theorem field1_none_not_mem {o : Obj} {k : Str} (h : field1 o k = .ok none) :
    ∀ v, (k, v) ∉ o := by
  rw [field1_eq] at h
  intro v hv
  have hm : (k, v) ∈ o.filter (fun e => e.1 == k) := by simp [List.mem_filter, hv]
  generalize o.filter (fun e => e.1 == k) = l at h hm
  match l, h with
  | [], _ => cases hm
  | [_], h => simp [pick1] at h
  | _ :: _ :: _, h => simp [pick1] at h

/-- `Option<IgnoredAny>::is_some()` of a field that was read: some entry has the key and is not `null`. -/
theorem optSome_field1 {o : Obj} {k : Str} {sk : Option JVal} (h : field1 o k = .ok sk) :
    optSome sk = true ↔ ∃ v, (k, v) ∈ o ∧ isNull v = false := by
  cases sk with
  | none =>
    simp only [optSome, Bool.false_eq_true, false_iff]
    rintro ⟨v, hv, _⟩; exact field1_none_not_mem h v hv
  | some v =>
    obtain ⟨hmem, huniq⟩ := field1_some_mem h
    simp only [optSome, Bool.not_eq_true']
    exact ⟨fun hn => ⟨v, hmem, hn⟩, fun ⟨v', hv', hn⟩ => huniq v' hv' ▸ hn⟩

theorem selectRow_none {tbl : Table} {t : Str} :
    selectRow tbl t = none ↔ ∀ r ∈ tbl, r.select t = none := by
  induction tbl with
  | nil => simp [selectRow]
  | cons r rest ih =>
    simp only [selectRow]
    cases hr : r.select t with
    | none => simp [ih, hr]
    | some rt => simp [hr]

theorem selectRow_some_mem {tbl : Table} {t : Str} {r : Row} {rt : Str}
    (h : selectRow tbl t = some (r, rt)) : r ∈ tbl ∧ r.select t = some rt := by
  induction tbl with
  | nil => simp [selectRow] at h
  | cons r0 rest ih =>
    simp only [selectRow] at h
    cases hr : r0.select t with
    | none => rw [hr] at h; have := ih h; exact ⟨List.mem_cons_of_mem _ this.1, this.2⟩
    | some rt0 =>
      rw [hr] at h
      injection h with h; injection h with h1 h2
      subst h1; subst h2
      exact ⟨List.mem_cons_self, hr⟩

/-- Syntactic disjointness of two arms: no string can be accepted by both. -/
def patDisjoint (f1 : Bool) (p1 : Str) (f2 : Bool) (p2 : Str) : Bool :=
  match f1, f2 with
  | false, false => !(p1 == p2)
  | true, false => !((stripStar p1).isPrefixOf p2)
  | false, true => !((stripStar p2).isPrefixOf p1)
  | true, true => !((stripStar p1).isPrefixOf (stripStar p2)) && !((stripStar p2).isPrefixOf (stripStar p1))

def Row.disjoint (a b : Row) : Bool :=
  a.patterns.all (fun p => b.patterns.all (fun q => patDisjoint a.hasFragment p b.hasFragment q))

/-- Well-formed table: arms pairwise disjoint (then arm order is irrelevant). -/
def Table.wf : Table → Bool
  | [] => true
  | r :: rest => rest.all (fun r' => r.disjoint r') && Table.wf rest

theorem select_some_pattern {r : Row} {t rt : Str} (h : r.select t = some rt) :
    ∃ p ∈ r.patterns, if r.hasFragment then (stripStar p).isPrefixOf t = true else p = t := by
  unfold Row.select at h
  by_cases hf : r.hasFragment = true
  · simp only [hf, if_true] at h
    cases hfind : r.patterns.find? (fun p => (stripStar p).isPrefixOf t) with
    | none => rw [hfind] at h; cases h
    | some p =>
      refine ⟨p, List.mem_of_find?_eq_some hfind, ?_⟩
      simp only [hf, if_true]
      exact List.find?_some (p := fun p => (stripStar p).isPrefixOf t) hfind
  · simp only [hf] at h
    by_cases hc : r.patterns.contains t = true
    · refine ⟨t, by simpa using hc, ?_⟩
      simp [hf]
    · rw [if_neg hc] at h; cases h

theorem patDisjoint_sound {f1 f2 : Bool} {p1 p2 t : Str}
    (h1 : if f1 then (stripStar p1).isPrefixOf t = true else p1 = t)
    (h2 : if f2 then (stripStar p2).isPrefixOf t = true else p2 = t) :
    patDisjoint f1 p1 f2 p2 = false := by
  cases f1 <;> cases f2 <;> simp only [patDisjoint, if_true, Bool.false_eq_true, if_false] at *
  · subst h1; subst h2; simp
  · subst h1; simp [h2]
  · subst h2; simp [h1]
  · have a := List.isPrefixOf_iff_prefix.mp h1
    have b := List.isPrefixOf_iff_prefix.mp h2
    rcases List.prefix_or_prefix_of_prefix a b with c | c
    · simp [List.isPrefixOf_iff_prefix.mpr c]
    · simp [List.isPrefixOf_iff_prefix.mpr c]

theorem disjoint_sound {a b : Row} {t ra rb : Str} (ha : a.select t = some ra)
    (hb : b.select t = some rb) : a.disjoint b = false := by
  obtain ⟨p, hp, hpa⟩ := select_some_pattern ha
  obtain ⟨q, hq, hqb⟩ := select_some_pattern hb
  have := patDisjoint_sound hpa hqb
  unfold Row.disjoint
  cases hall : a.patterns.all (fun p => b.patterns.all (fun q => patDisjoint a.hasFragment p b.hasFragment q)) with
  | false => rfl
  | true =>
    rw [List.all_eq_true] at hall
    have h1 := hall p hp
    rw [List.all_eq_true] at h1
    have h2 := h1 q hq
    rw [this] at h2; cases h2

theorem selectRow_of_wf {tbl : Table} (hwf : Table.wf tbl = true) {r : Row} {t rt : Str}
    (hr : r ∈ tbl) (hs : r.select t = some rt) : selectRow tbl t = some (r, rt) := by
  induction tbl with
  | nil => cases hr
  | cons r0 rest ih =>
    simp only [Table.wf, Bool.and_eq_true] at hwf
    simp only [selectRow]
    rcases List.mem_cons.mp hr with rfl | hmem
    · rw [hs]
    · cases h0 : r0.select t with
      | none => exact ih hwf.2 hmem
      | some rt0 =>
        have hd := disjoint_sound h0 hs
        have := (List.all_eq_true.mp hwf.1) r hmem
        rw [hd] at this; cases this

theorem get_insert_self (acc : Obj) (k : Str) (v : JVal) : Obj.get (Obj.insert acc k v) k = some v := by
  induction acc with
  | nil => simp [Obj.insert, Obj.get]
  | cons e t ih =>
    obtain ⟨k', v'⟩ := e
    simp only [Obj.insert]
    by_cases h1 : k' = k
    · simp [h1, Obj.get]
    · simp only [h1, if_false]
      by_cases h2 : k < k'
      · simp [h2, Obj.get]
      · simp [h2, Obj.get, h1, ih]

theorem get_insert_ne (acc : Obj) (k k2 : Str) (v : JVal) (h : k ≠ k2) :
    Obj.get (Obj.insert acc k v) k2 = Obj.get acc k2 := by
  induction acc with
  | nil => simp [Obj.insert, Obj.get, h]
  | cons e t ih =>
    obtain ⟨k', v'⟩ := e
    simp only [Obj.insert]
    by_cases h1 : k' = k
    · subst h1; simp [Obj.get, h]
    · simp only [h1, if_false]
      by_cases h2 : k < k'
      · simp [h2, Obj.get, h]
      · simp only [h2, if_false, Obj.get]
        by_cases h3 : k' = k2
        · simp [h3]
        · simp [h3, ih]

/-- `getField` as a fold with an explicit start value. -/
def getFieldFrom (init : Option JVal) (o : Obj) (k : Str) : Option JVal :=
  o.foldl (fun res e => if e.1 == k then some e.2 else res) init

theorem getField_eq_from (o : Obj) (k : Str) : getField o k = getFieldFrom none o k := rfl

theorem fullParseO_get (acc : Obj) (o : Obj) (k : Str) :
    Obj.get (fullParseO acc o) k = getFieldFrom (Obj.get acc k) (o.map (fun e => (e.1, fullParse e.2))) k := by
  induction o generalizing acc with
  | nil => simp [fullParseO, getFieldFrom]
  | cons e t ih =>
    obtain ⟨k', v⟩ := e
    rw [fullParseO, ih]
    simp only [getFieldFrom, List.map_cons, List.foldl_cons]
    by_cases h : k' = k
    · subst h; simp [get_insert_self]
    · have hb : (k' == k) = false := by simp [h]
      simp [hb, get_insert_ne _ _ _ _ h]

theorem getFieldFrom_map (init : Option JVal) (o : Obj) (k : Str) (f : JVal → JVal) :
    getFieldFrom (init.map f) (o.map (fun e => (e.1, f e.2))) k = (getFieldFrom init o k).map f := by
  induction o generalizing init with
  | nil => simp [getFieldFrom]
  | cons e t ih =>
    simp only [getFieldFrom, List.map_cons, List.foldl_cons] at *
    by_cases h : (e.1 == k) = true
    · simp only [h, if_true]; exact ih (some e.2)
    · simp only [h]; exact ih init

theorem getFieldFrom_append (init : Option JVal) (a b : Obj) (k : Str) :
    getFieldFrom init (a ++ b) k = getFieldFrom (getFieldFrom init a k) b k := by
  simp [getFieldFrom, List.foldl_append]

theorem getFieldFrom_no_key (init : Option JVal) (o : Obj) (k : Str) (h : ∀ e ∈ o, e.1 ≠ k) :
    getFieldFrom init o k = init := by
  induction o generalizing init with
  | nil => rfl
  | cons e t ih =>
    simp only [getFieldFrom, List.foldl_cons]
    have he : (e.1 == k) = false := by simpa using h e List.mem_cons_self
    simp only [he]
    exact ih init (fun e' he' => h e' (List.mem_cons_of_mem _ he'))

theorem getFieldFrom_eq_none (init : Option JVal) (o : Obj) (k : Str) :
    getFieldFrom init o k = none ↔ init = none ∧ ∀ e ∈ o, e.1 ≠ k := by
  induction o generalizing init with
  | nil => simp [getFieldFrom]
  | cons e t ih =>
    simp only [getFieldFrom, List.foldl_cons] at ih ⊢
    rw [ih]
    by_cases h : e.1 = k <;> simp [h]

theorem dropWhile_suffix (p : Nat → Bool) (l : List Nat) :
    ∃ pre, l = pre ++ l.dropWhile p ∧ ∀ b ∈ pre, p b = true := by
  induction l with
  | nil => exact ⟨[], rfl, by simp⟩
  | cons a t ih =>
    by_cases h : p a = true
    · obtain ⟨pre, h1, h2⟩ := ih
      refine ⟨a :: pre, ?_, ?_⟩
      · simp only [List.dropWhile_cons, h, if_true, List.cons_append]; rw [← h1]
      · intro b hb
        rcases List.mem_cons.mp hb with rfl | hb
        · exact h
        · exact h2 b hb
    · refine ⟨[], ?_, by simp⟩
      simp [h]

theorem dropWhile_id_of_head (p : Nat → Bool) (l : List Nat) (h : ∀ a, l.head? = some a → p a = false) :
    l.dropWhile p = l := by
  cases l with
  | nil => rfl
  | cons a t => simp [h a rfl]

end Ruma.EventDispatch
