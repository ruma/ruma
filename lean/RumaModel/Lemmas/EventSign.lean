/-
  Helper lemmas for C03 (event signing / verification / required servers).
-/
import RumaModel.Model.EventSign
import RumaModel.Spec.EventSign
import RumaModel.Lemmas.Hash
import RumaModel.Props.C05
import RumaModel.Lemmas.Sign
namespace Ruma.EventSign
open Ruma Ruma.Sign Ruma.Redact Ruma.Spec.EventSign

theorem keys_map_unit (l : List Str) : Obj.keys (l.map (·, ())) = l := by
  rw [Obj.keys, List.map_map]
  exact List.map_id l

/-- As in Rust's `std`, a `BTreeSet<T>` is a `BTreeMap<T, ()>`: `insertSet` is `Obj.insert` on unit
values. -/
theorem insertSet_eq_keys_insert (l : List Str) (s : Str) :
    insertSet l s = Obj.keys (Obj.insert (l.map (·, ())) s ()) := by
  induction l with
  | nil => rfl
  | cons a t ih =>
    rw [insertSet, List.map_cons, Obj.insert]
    split
    · next h => subst h; exact congrArg (a :: ·) (keys_map_unit t).symm
    split
    · exact congrArg (s :: a :: ·) (keys_map_unit t).symm
    · exact congrArg (a :: ·) ih

theorem mem_insertSet (l : List Str) (a s : Str) : s ∈ insertSet l a ↔ s = a ∨ s ∈ l := by
  rw [insertSet_eq_keys_insert, Obj.mem_keys_insert, keys_map_unit]

theorem insertSet_sorted (l : List Str) (a : Str) (h : l.Pairwise (· < ·)) :
    (insertSet l a).Pairwise (· < ·) := by
  rw [insertSet_eq_keys_insert]
  exact Obj.sorted_insert _ a () (by rwa [Obj.Sorted, keys_map_unit])

theorem serverPart_of_find (s : Str) (i : Nat) (h : Ids.find 58 s = some i) :
    serverPart s = some (s.drop (i + 1)) := by
  induction s generalizing i with
  | nil => simp [Ids.find] at h
  | cons c t ih =>
    simp only [Ids.find] at h
    simp only [serverPart]
    by_cases hc : c = 58
    · simp only [hc, if_true, Option.some.injEq] at h ⊢
      subst h; rfl
    · simp only [hc, if_false, Option.map_eq_some_iff] at h ⊢
      obtain ⟨j, hj, rfl⟩ := h
      rw [ih j hj]; rfl

/-- `&s[colon_idx + 1..]`, when it does not panic, is the specification's server part. -/
theorem serverPart_of_sliceFrom (s srv : Str) (i : Nat) (hf : Ids.find 58 s = some i)
    (h : Ids.sliceFrom s (i + 1) = .ok srv) : serverPart s = some srv := by
  rw [serverPart_of_find s i hf]
  unfold Ids.sliceFrom at h
  split at h <;> cases h
  rfl

theorem userServer_ok (x : Ids.Ext) (field raw srv : Str) (h : userServer x field raw = .ok srv) :
    serverPart raw = some srv := by
  unfold userServer at h
  split at h
  · cases h
  · cases h
  · split at h <;> cases h
    rename_i hs
    unfold Ids.serverNameOf Ids.colonIdx at hs
    cases hf : Ids.find 58 raw with
    | none => rw [hf] at hs; cases hs
    | some ci => rw [hf] at hs; exact serverPart_of_sliceFrom raw srv ci hf hs

theorem eventIdServer_ok (x : Ids.Ext) (raw srv : Str) (h : eventIdServer x raw = .ok srv) :
    serverPart raw = some srv := by
  unfold eventIdServer at h
  split at h
  · cases h
  · cases h
  · split at h <;> cases h
    rename_i hs
    unfold Ids.eventServerName at hs
    cases hf : Ids.find 58 raw with
    | none => rw [hf] at hs; cases hs
    | some ci =>
      rw [hf] at hs
      dsimp only at hs
      split at hs <;> cases hs
      exact serverPart_of_sliceFrom raw srv ci hf ‹_›

/-- "An `m.room.member` invite created from a third-party invite", as four look-ups. -/
def IsTpi (o : Obj) : Prop :=
  ∃ c t, Obj.get o (bs "type") = some (.str (bs "m.room.member")) ∧
    Obj.get o (bs "content") = some (.obj c) ∧
    Obj.get c (bs "membership") = some (.str (bs "invite")) ∧
    Obj.get c (bs "third_party_invite") = some (.obj t)

theorem isInvite_true_iff (o : Obj) : isInviteViaThirdPartyId o = .ok true ↔ IsTpi o := by
  constructor
  · intro h
    unfold isInviteViaThirdPartyId at h
    split at h
    · next ty hty =>
      split at h
      · cases h
      next hmember =>
      split at h
      · next c hc =>
        split at h
        · next m hm =>
          split at h
          · cases h
          next hinvite =>
          split at h
          · next t ht =>
            exact ⟨c, t, by rw [hty, Decidable.of_not_not hmember], hc,
              by rw [hm, Decidable.of_not_not hinvite], ht⟩
          · cases h
          · cases h
        · cases h
      · cases h
    · cases h
  · rintro ⟨c, t, hty, hc, hm, ht⟩
    simp only [isInviteViaThirdPartyId, hty, hc, hm, ht, ne_eq, not_true_eq_false, ↓reduceIte]

theorem isThirdPartyInvite_iff (o : Obj) : isThirdPartyInvite o = true ↔ IsTpi o := by
  constructor
  · intro h
    unfold isThirdPartyInvite at h
    split at h
    · next ty c hty hc =>
      rw [Bool.and_eq_true, decide_eq_true_eq] at h
      obtain ⟨hmember, h⟩ := h
      split at h
      · next m t hm ht =>
        exact ⟨c, t, by rw [hty, hmember], hc, by rw [hm, of_decide_eq_true h], ht⟩
      · cases h
    · cases h
  · rintro ⟨c, t, hty, hc, hm, ht⟩
    simp only [isThirdPartyInvite, hty, hc, hm, ht, decide_true, Bool.and_self]

theorem isInvite_spec (o : Obj) (b : Bool) (h : isInviteViaThirdPartyId o = .ok b) :
    isThirdPartyInvite o = b := by
  cases b with
  | true => exact (isThirdPartyInvite_iff o).mpr ((isInvite_true_iff o).mp h)
  | false =>
    cases hs : isThirdPartyInvite o with
    | false => rfl
    | true =>
      rw [(isInvite_true_iff o).mpr ((isThirdPartyInvite_iff o).mp hs)] at h
      cases h

/-- The spec's two per-version flags as the model's `SigRules`. -/
def sigRulesOf (v : Nat) : SigRules := ⟨checkEventIdServer v, checkJoinAuthorised v⟩

/-- What one block of `servers_to_check_signatures` does to the set: the servers satisfying `P`
join it, and it stays strictly ascending. -/
def Adds (P : Str → Prop) (acc out : List Str) : Prop :=
  (∀ s, s ∈ out ↔ s ∈ acc ∨ P s) ∧ (acc.Pairwise (· < ·) → out.Pairwise (· < ·))

theorem adds_none {P : Str → Prop} (acc : List Str) (hP : ∀ s, ¬ P s) : Adds P acc acc :=
  ⟨fun s => ⟨.inl, fun h => h.elim id fun h => absurd h (hP s)⟩, id⟩

theorem adds_insert {P : Str → Prop} (acc : List Str) (srv : Str) (hP : ∀ s, P s ↔ s = srv) :
    Adds P acc (insertSet acc srv) :=
  ⟨fun s => by rw [mem_insertSet, hP, or_comm], insertSet_sorted acc srv⟩

theorem senderStep_ok (x : Ids.Ext) (o : Obj) (acc out : List Str) (h : senderStep x o acc = .ok out) :
    Adds (fun s => isThirdPartyInvite o = false ∧
      ∃ u, Obj.get o (bs "sender") = some (.str u) ∧ serverPart u = some s) acc out := by
  unfold senderStep at h
  split at h
  · cases h
  · rename_i hi
    cases h
    exact adds_none _ fun s h => by rw [isInvite_spec o true hi] at h; cases h.1
  · rename_i hi
    split at h
    · rename_i u hu
      split at h <;> cases h
      rename_i srv hsrv
      refine adds_insert _ srv fun s => ⟨?_, fun hs => ?_⟩
      · rintro ⟨_, u', hu', hs⟩
        rw [hu] at hu'
        cases hu'
        rw [userServer_ok x _ u srv hsrv] at hs
        cases hs
        rfl
      · exact ⟨isInvite_spec o false hi, u, hu, hs ▸ userServer_ok x _ u srv hsrv⟩
    · cases h

theorem eventIdStep_ok (x : Ids.Ext) (o : Obj) (sr : SigRules) (acc out : List Str)
    (h : eventIdStep x o sr acc = .ok out) :
    Adds (fun s => sr.checkEventIdServer = true ∧
      ∃ i, Obj.get o (bs "event_id") = some (.str i) ∧ serverPart i = some s) acc out := by
  unfold eventIdStep at h
  split at h
  · split at h
    · rename_i i hi
      split at h <;> cases h
      rename_i srv hsrv
      refine adds_insert _ srv fun s => ⟨?_, fun hs => ?_⟩
      · rintro ⟨_, i', hi', hs⟩
        rw [hi] at hi'
        cases hi'
        rw [eventIdServer_ok x i srv hsrv] at hs
        cases hs
        rfl
      · exact ⟨‹_›, i, hi, hs ▸ eventIdServer_ok x i srv hsrv⟩
    · cases h
  · cases h
    exact adds_none _ fun s h => absurd h.1 ‹_›

theorem authorisedField_some (o : Obj) (a : JVal) :
    authorisedField o = some a ↔ ∃ c, Obj.get o (bs "content") = some (.obj c) ∧
      Obj.get c (bs "join_authorised_via_users_server") = some a := by
  unfold authorisedField
  split
  · rename_i c hc
    rw [hc]
    exact ⟨fun h => ⟨c, rfl, h⟩, fun ⟨c', hc', h⟩ => by cases hc'; exact h⟩
  · rename_i hno
    exact ⟨nofun, fun ⟨c, hc, _⟩ => (hno c hc).elim⟩

theorem authorisedStep_ok (x : Ids.Ext) (o : Obj) (sr : SigRules) (acc out : List Str)
    (h : authorisedStep x o sr acc = .ok out) :
    Adds (fun s => sr.checkJoinAuthorised = true ∧ ∃ c a, Obj.get o (bs "content") = some (.obj c) ∧
      Obj.get c (bs "join_authorised_via_users_server") = some (.str a) ∧ serverPart a = some s)
      acc out := by
  unfold authorisedStep at h
  split at h
  · split at h
    · rename_i hnone
      cases h
      refine adds_none _ fun s ⟨_, c, a, hc, ha, _⟩ => ?_
      rw [(authorisedField_some o _).mpr ⟨c, hc, ha⟩] at hnone
      cases hnone
    · rename_i a ha
      split at h <;> cases h
      rename_i srv hsrv
      obtain ⟨c, hc, hac⟩ := (authorisedField_some o _).mp ha
      refine adds_insert _ srv fun s => ⟨?_, fun hs => ?_⟩
      · rintro ⟨_, c', a', hc', ha', hs⟩
        rw [hc] at hc'
        cases hc'
        rw [hac] at ha'
        cases ha'
        rw [userServer_ok x _ a srv hsrv] at hs
        cases hs
        rfl
      · exact ⟨‹_›, c, a, hc, hac, hs ▸ userServer_ok x _ a srv hsrv⟩
    · cases h
  · cases h
    exact adds_none _ fun s h => absurd h.1 ‹_›

theorem get_redact_always (rr : Rules) (o res : Obj) (h : redact rr o none = .ok res) (k : Str)
    (hk : k ∈ topAlwaysKeys) (hc : k ≠ bs "content") : Obj.get res k = Obj.get o k := by
  obtain ⟨ty, _, hcase⟩ := Props.C04.redact_ok_shape _ _ _ h
  rcases hcase with ⟨_, rfl⟩ | ⟨c, c', _, _, rfl⟩
  · rw [get_filter, isEventKeyRetained_of_mem rr hk, if_pos rfl]
  · rw [get_filter, isEventKeyRetained_of_mem rr hk, if_pos rfl, get_setVal_ne _ _ _ _ hc]

/-- The fields other than `content` that `verify_event` reads from the redacted event: every rules
value keeps them. -/
theorem alwaysKept : ∀ k ∈ [bs "type", bs "sender", bs "event_id", hashesKey, sigKey],
    k ∈ topAlwaysKeys ∧ k ≠ bs "content" := by decide +kernel

theorem serversToCheck_redact_fields (rr : Rules) (o red : Obj) (h : redact rr o none = .ok red) :
    Obj.get red (bs "type") = Obj.get o (bs "type") ∧
    Obj.get red (bs "sender") = Obj.get o (bs "sender") ∧
    Obj.get red (bs "event_id") = Obj.get o (bs "event_id") ∧
    Obj.get red hashesKey = Obj.get o hashesKey ∧ Obj.get red sigKey = Obj.get o sigKey := by
  have hk : ∀ k ∈ [bs "type", bs "sender", bs "event_id", hashesKey, sigKey],
      Obj.get red k = Obj.get o k :=
    fun k hk => get_redact_always rr o red h k (alwaysKept k hk).1 (alwaysKept k hk).2
  exact ⟨hk _ (by simp), hk _ (by simp), hk _ (by simp), hk _ (by simp), hk _ (by simp)⟩

theorem redact_erase (rr : Rules) (o : Obj) (k : Str) (h1 : k ≠ bs "type") (h2 : k ≠ bs "content") :
    redact rr (Obj.erase o k) none = (redact rr o none).map (fun r => Obj.erase r k) := by
  have := Hash.redact_filter rr o (fun k' => decide (k' ≠ k))
    (by simpa using fun h => h1 h.symm) (by simpa using fun h => h2 h.symm)
  simpa [Obj.erase] using this

theorem canonicalJson_erase_sig (o : Obj) : canonicalJson (Obj.erase o sigKey) = canonicalJson o := by
  unfold canonicalJson; rw [Obj.erase_erase_self]

/-- The bytes that are signed for an event: canonical JSON of the redacted event. -/
def signedBytesOf (rr : Rules) (o : Obj) : Except Redact.Err (List Nat) :=
  (redact rr o none).map canonicalJson

theorem signedBytesOf_erase (rr : Rules) (o : Obj) (k : Str) (hk : k = sigKey ∨ k = unsKey) :
    signedBytesOf rr (Obj.erase o k) = signedBytesOf rr o := by
  have hne : ∀ k ∈ [sigKey, unsKey], k ≠ bs "type" ∧ k ≠ bs "content" := by decide +kernel
  have hcj : ∀ r, canonicalJson (Obj.erase r k) = canonicalJson r := by
    rcases hk with rfl | rfl
    · exact canonicalJson_erase_sig
    · exact canonicalJson_erase_unsigned
  have hk' := hne k (by rcases hk with rfl | rfl <;> simp)
  rw [signedBytesOf, redact_erase rr o k hk'.1 hk'.2, signedBytesOf]
  cases redact rr o none with
  | error e => rfl
  | ok r => exact congrArg Except.ok (hcj r)

theorem signedBytesOf_insert (rr : Rules) (o : Obj) (k : Str) (v : JVal) (hk : k = sigKey ∨ k = unsKey) :
    signedBytesOf rr (Obj.insert o k v) = signedBytesOf rr o := by
  rw [← signedBytesOf_erase rr (Obj.insert o k v) k hk, Obj.erase_insert_self,
    signedBytesOf_erase rr o k hk]

theorem verifyEvent_ok_iff (S : SigScheme) (sha256 : List Nat → List Nat) (x : Ids.Ext) (keys : KeyMap)
    (o : Obj) (rr : Rules) (sr : SigRules) (r : Verified) :
    verifyEvent S sha256 x keys o rr sr = .ok r ↔
      ∃ red hash sigs servers calcd,
        redact rr o none = .ok red ∧ storedHash o = .ok hash ∧
        Obj.get o sigKey = some (.obj sigs) ∧ serversToCheck x o sr = .ok servers ∧
        (∀ s ∈ servers, EntityOk S keys sigs (canonicalJson red) s) ∧
        Hash.contentHash sha256 o = .ok calcd ∧
        r = (if unb64 hash = some calcd then Verified.all else Verified.signatures) := by
  unfold verifyEvent
  constructor
  · intro h
    split at h
    · cases h
    rename_i red hred
    split at h
    · cases h
    rename_i hash hst
    split at h
    · rename_i sigs hsig
      split at h
      · cases h
      rename_i servers hsrv
      split at h
      · cases h
      rename_i hver
      split at h
      · cases h
      rename_i calcd hch
      refine ⟨red, hash, sigs, servers, calcd, hred, hst, hsig, hsrv,
        (verifyEntities_ok_iff S keys sigs _ servers).mp hver, hch, ?_⟩
      split at h
      · rename_i d hd
        split at h <;> cases h
        · exact (if_pos (hd.trans (congrArg some ‹_›))).symm
        · exact (if_neg fun e => ‹¬d = calcd› (Option.some.inj (hd.symm.trans e))).symm
      · rename_i hd
        cases h
        rw [hd, if_neg nofun]
    · cases h
    · cases h
  · rintro ⟨red, hash, sigs, servers, calcd, h1, h2, h3, h4, h5, h6, rfl⟩
    simp only [h1, h2, h3, h4, (verifyEntities_ok_iff S keys sigs _ servers).mpr h5, h6]
    cases unb64 hash with
    | none => rfl
    | some d => simp only [Option.some.injEq]; split <;> rfl

/-- The object after the `hashes.sha256` insertion of `hash_and_sign_event`. -/
def withHash (o : Obj) (hashes : Obj) (hash : List Nat) : Obj :=
  Obj.insert o hashesKey (.obj (Obj.insert hashes sha256Key (.str (b64 hash))))

theorem hashAndSign_ok (S : SigScheme) (sha256 : List Nat → List Nat) (entity : Str) (kp : KeyPair)
    (e e' : Obj) (rr : Rules) (h : hashAndSignEvent S sha256 entity kp e rr = (.ok (), e')) :
    ∃ hash hashes red, Hash.contentHash sha256 e = .ok hash ∧
      ((Obj.get e hashesKey = none ∧ hashes = []) ∨ Obj.get e hashesKey = some (.obj hashes)) ∧
      redact rr (withHash e hashes hash) none = .ok red ∧ Spec.Sign.Signable red entity ∧
      e' = Obj.insert (withHash e hashes hash) sigKey (.obj (newSignatures S entity kp red)) := by
  unfold hashAndSignEvent at h
  split at h
  · cases h
  rename_i hash hch
  dsimp only at h
  split at h
  · rename_i hashes hhv
    split at h
    · cases h
    rename_i red hred
    split at h
    · cases h
    rename_i signed hsj
    obtain ⟨hsg, rfl⟩ := signJson_ok S entity kp red signed hsj
    rw [get_signResult_sig] at h
    cases h
    refine ⟨hash, hashes, red, hch, ?_, hred, hsg, rfl⟩
    split at hhv
    · exact .inr (by rw [‹Obj.get e hashesKey = _›, hhv])
    · cases hhv
      exact .inl ⟨‹_›, rfl⟩
  · cases h

theorem hashAndSign_signer (S : SigScheme) (sha256 : List Nat → List Nat) (entity : Str) (kp : KeyPair)
    (e e' : Obj) (rr : Rules) (h : hashAndSignEvent S sha256 entity kp e rr = (.ok (), e')) :
    ∃ sigs, Obj.get e' sigKey = some (.obj sigs) ∧ entity ∈ Obj.keys sigs := by
  obtain ⟨_, _, red, _, _, _, _, rfl⟩ := hashAndSign_ok S sha256 entity kp e e' rr h
  exact ⟨_, Obj.get_insert_self _ _ _, Obj.mem_keys_of_get _ _ _ (Obj.get_insert_self _ _ _)⟩

/-- The `unwrap()` in `hash_and_sign_event` cannot fail: `sign_json` returned `Ok`, so `signatures`
is present. -/
theorem hashAndSign_no_panic (S : SigScheme) (sha256 : List Nat → List Nat) (entity : Str)
    (kp : KeyPair) (e : Obj) (rr : Rules) :
    (hashAndSignEvent S sha256 entity kp e rr).1 ≠ .error .panic := by
  intro h
  unfold hashAndSignEvent at h
  split at h
  · cases h
  dsimp only at h
  split at h
  · split at h
    · cases h
    split at h
    · cases h
    rename_i signed hsj
    rw [(signJson_ok S entity kp _ signed hsj).2, get_signResult_sig] at h
    cases h
  · cases h

/-- The state `hash_and_sign_event` establishes: `hashes.sha256` is the base64 content hash, the
event redacts, and *every* entity named in `signatures` passes the per-entity check over the
canonical JSON of the redacted event. -/
def Valid (S : SigScheme) (sha256 : List Nat → List Nat) (keys : KeyMap) (rr : Rules) (o : Obj) : Prop :=
  ∃ hash hashes red sigs,
    Hash.contentHash sha256 o = .ok hash ∧
    Obj.get o hashesKey = some (.obj hashes) ∧ Obj.get hashes sha256Key = some (.str (b64 hash)) ∧
    redact rr o none = .ok red ∧ Obj.get o sigKey = some (.obj sigs) ∧
    ∀ s ∈ Obj.keys sigs, EntityOk S keys sigs (canonicalJson red) s

theorem hashesKey_ne_sigKey : hashesKey ≠ sigKey := by decide +kernel
theorem hashesKey_mem_always : hashesKey ∈ topAlwaysKeys := (alwaysKept _ (by simp)).1

theorem contentHash_insert_hashes_sig (sha256 : List Nat → List Nat) (o : Obj) (a b : JVal) :
    Hash.contentHash sha256 (Obj.insert (Obj.insert o hashesKey a) sigKey b) = Hash.contentHash sha256 o := by
  have r := Redact.Rules.mk false false false false false false false false
  rw [((Props.C05.hash_ignores_set_or_delete sha256 r .v1 _ sigKey b).1 (.tail _ (.head _))).1,
      ((Props.C05.hash_ignores_set_or_delete sha256 r .v1 _ hashesKey a).1
        (.tail _ (.tail _ (.head _)))).1]

theorem redact_insert_sig (rr : Rules) (o red : Obj) (v : JVal) (h : redact rr o none = .ok red) :
    ∃ red', redact rr (Obj.insert o sigKey v) none = .ok red' ∧ canonicalJson red' = canonicalJson red := by
  have := signedBytesOf_insert rr o sigKey v (Or.inl rfl)
  unfold signedBytesOf at this
  rw [h] at this
  cases hr : redact rr (Obj.insert o sigKey v) none with
  | error e => rw [hr] at this; cases this
  | ok red' =>
    rw [hr] at this
    simp only [Except.map, Except.ok.injEq] at this
    exact ⟨red', rfl, this⟩

theorem valid_after_sign (S : SigScheme) (hS : S.Lawful) (sha256 : List Nat → List Nat)
    (keys : KeyMap) (entity : Str) (kp : KeyPair) (e e' : Obj) (rr : Rules)
    (hsign : hashAndSignEvent S sha256 entity kp e rr = (.ok (), e'))
    (hk : HasKey S keys entity kp)
    (h0 : Obj.get e sigKey = none ∨
      ∀ hashes hash red, redact rr (withHash e hashes hash) none = .ok red →
        Hash.contentHash sha256 e = .ok hash →
        ((Obj.get e hashesKey = none ∧ hashes = []) ∨ Obj.get e hashesKey = some (.obj hashes)) →
        verifyJson S keys red = .ok ()) :
    Valid S sha256 keys rr e' ∧
      ∃ red, Obj.get e' sigKey = some (.obj (newSignatures S entity kp red)) ∧
        Obj.get red sigKey = Obj.get e sigKey := by
  obtain ⟨hash, hashes, red, hch, hhs, hred, hsg, rfl⟩ := hashAndSign_ok S sha256 entity kp e e' rr hsign
  obtain ⟨red', hred', hcj⟩ := redact_insert_sig rr _ red (.obj (newSignatures S entity kp red)) hred
  have hsigred : Obj.get red sigKey = Obj.get e sigKey := by
    rw [(serversToCheck_redact_fields rr _ red hred).2.2.2.2, withHash,
      Obj.get_insert_ne _ _ _ _ hashesKey_ne_sigKey.symm]
  have h0' : Obj.get red sigKey = none ∨ verifyJson S keys red = .ok () := by
    rcases h0 with h | h
    · exact Or.inl (by rw [hsigred, h])
    · exact Or.inr (h hashes hash red hred hch hhs)
  have hver := verify_signResult S hS keys entity kp red h0' hk
  obtain ⟨sigs, hs1, hs2⟩ := (verifyJson_ok_iff S keys _).mp hver
  rw [get_signResult_sig] at hs1
  injection hs1 with hs1; injection hs1 with hs1; subst hs1
  rw [canonicalJson_signResult] at hs2
  refine ⟨⟨hash, Obj.insert hashes sha256Key (.str (b64 hash)), red', newSignatures S entity kp red,
    ?_, ?_, Obj.get_insert_self _ _ _, hred', Obj.get_insert_self _ _ _, ?_⟩,
    red, Obj.get_insert_self _ _ _, hsigred⟩
  · rw [withHash, contentHash_insert_hashes_sig, hch]
  · rw [Obj.get_insert_ne _ _ _ _ hashesKey_ne_sigKey, withHash, Obj.get_insert_self]
  · rw [hcj]; exact hs2

theorem contentHash_ok (sha256 : List Nat → List Nat) (o : Obj) (hash : List Nat)
    (h : Hash.contentHash sha256 o = .ok hash) : hash = sha256 (Spec.Hash.contentPreimage o) := by
  rw [Props.C05.content_hash_def] at h
  split at h <;> cases h
  rfl

/-- `verify_event` on an event `o'` that redacts to the same event as a valid event `o`, when the
servers demanded of `o'` are named in `o`'s `signatures`: the signature checks are those `o` passes,
and the verdict is decided by comparing `o`'s stored hash with the content hash of `o'`. -/
theorem verifyEvent_of_valid (S : SigScheme) (sha256 : List Nat → List Nat) (x : Ids.Ext)
    (keys : KeyMap) (o o' : Obj) (rr : Rules) (sr : SigRules) (hv : Valid S sha256 keys rr o)
    (hash : List Nat) (hch : Hash.contentHash sha256 o = .ok hash)
    (hsame : redact rr o' none = redact rr o none)
    (servers : List Str) (hsrv : serversToCheck x o' sr = .ok servers)
    (hcov : ∀ s ∈ servers, ∃ sigs, Obj.get o sigKey = some (.obj sigs) ∧ s ∈ Obj.keys sigs)
    (calcd : List Nat) (hcalc : Hash.contentHash sha256 o' = .ok calcd) :
    verifyEvent S sha256 x keys o' rr sr
      = .ok (if unb64 (b64 hash) = some calcd then .all else .signatures) := by
  obtain ⟨hash0, hashes, red, sigs, hch0, hh1, hh2, hred, hsig, hall⟩ := hv
  rw [hch] at hch0
  cases hch0
  obtain ⟨_, _, _, hgh, hgs⟩ := serversToCheck_redact_fields rr o red hred
  obtain ⟨_, _, _, hgh', hgs'⟩ := serversToCheck_redact_fields rr o' red (hsame.trans hred)
  refine (verifyEvent_ok_iff S sha256 x keys o' rr sr _).mpr
    ⟨red, b64 hash, sigs, servers, calcd, hsame.trans hred, ?_, ?_, hsrv, fun s hs => ?_, hcalc, rfl⟩
  · simp only [storedHash, ← hgh', hgh, hh1, hh2]
  · rw [← hgs', hgs, hsig]
  · obtain ⟨sigs', h1, h2⟩ := hcov s hs
    rw [hsig] at h1
    cases h1
    exact hall s h2

theorem valid_verifies (S : SigScheme) (sha256 : List Nat → List Nat)
    (hsha : ∀ m, ∀ b ∈ sha256 m, b < 256) (x : Ids.Ext) (keys : KeyMap) (o : Obj) (rr : Rules)
    (sr : SigRules) (hv : Valid S sha256 keys rr o) (servers : List Str)
    (hsrv : serversToCheck x o sr = .ok servers)
    (hcov : ∀ s ∈ servers, ∃ sigs, Obj.get o sigKey = some (.obj sigs) ∧ s ∈ Obj.keys sigs) :
    verifyEvent S sha256 x keys o rr sr = .ok .all := by
  have ⟨hash, _, _, _, hch, _⟩ := hv
  rw [verifyEvent_of_valid S sha256 x keys o o rr sr hv hash hch rfl servers hsrv hcov hash hch,
    unb64_b64 hash (contentHash_ok sha256 o hash hch ▸ hsha _), if_pos rfl]

/-- The top-level fields `verify_event` looks up itself; the rest of the event it sees only through
the redacted bytes and the content hash. -/
def readFields : List Str :=
  [hashesKey, sigKey, bs "type", bs "content", bs "sender", bs "event_id"]

theorem verifyEvent_congr (S : SigScheme) (sha256 : List Nat → List Nat) (x : Ids.Ext) (keys : KeyMap)
    (rr : Rules) (sr : SigRules) (o o' : Obj)
    (hsb : signedBytesOf rr o = signedBytesOf rr o')
    (hget : ∀ k ∈ readFields, Obj.get o k = Obj.get o' k)
    (hch : Hash.contentHash sha256 o = Hash.contentHash sha256 o') :
    verifyEvent S sha256 x keys o rr sr = verifyEvent S sha256 x keys o' rr sr := by
  simp only [readFields, List.forall_mem_cons] at hget
  obtain ⟨hh, hsig, hty, hc, hse, hei, _⟩ := hget
  have hsrv : serversToCheck x o sr = serversToCheck x o' sr := by
    unfold serversToCheck senderStep isInviteViaThirdPartyId eventIdStep authorisedStep
      authorisedField
    rw [hty, hc, hse, hei]
  unfold verifyEvent storedHash
  rw [hh, hsig, hsrv, hch]
  unfold signedBytesOf at hsb
  cases h1 : redact rr o none <;> cases h2 : redact rr o' none <;> rw [h1, h2] at hsb
  · injection hsb with hsb; rw [hsb]
  · cases hsb
  · cases hsb
  · injection hsb with hsb; dsimp only; rw [hsb]

end Ruma.EventSign
