/-
  C03 helper lemmas: several servers hashing and signing the same event one after the other.
-/
import RumaModel.Lemmas.EventSignCopy
namespace Ruma.EventSign
open Ruma Ruma.Sign Ruma.Redact

/-- `Valid` together with the `BTreeMap` invariant of the event and of its `hashes` object. -/
def ValidSorted (S : SigScheme) (sha256 : List Nat → List Nat) (keys : KeyMap) (rr : Rules) (o : Obj) : Prop :=
  Valid S sha256 keys rr o ∧ Obj.Sorted o ∧ ∀ hs, Obj.get o hashesKey = some (.obj hs) → Obj.Sorted hs

/-- A fresh sorted event whose `hashes` (if any) is sorted. -/
def FreshSorted (o : Obj) : Prop :=
  Obj.get o sigKey = none ∧ Obj.Sorted o ∧ ∀ hs, Obj.get o hashesKey = some (.obj hs) → Obj.Sorted hs

/-- The condition under which `valid_after_sign` accepts an event that already carries signatures
holds for a `ValidSorted` one: on it the `hashes.sha256` insertion changes nothing. -/
theorem ValidSorted.prior {S : SigScheme} {sha256 : List Nat → List Nat} {keys : KeyMap} {rr : Rules}
    {e : Obj} (h : ValidSorted S sha256 keys rr e) (hashes : Obj) (hash : List Nat) (red : Obj)
    (hred : redact rr (withHash e hashes hash) none = .ok red)
    (hch : Hash.contentHash sha256 e = .ok hash)
    (hcase : (Obj.get e hashesKey = none ∧ hashes = []) ∨ Obj.get e hashesKey = some (.obj hashes)) :
    verifyJson S keys red = .ok () := by
  obtain ⟨⟨hash0, hashes0, red0, sigs0, hch0, hh1, hh2, hred0, hsig0, hall0⟩, hs1, hs2⟩ := h
  rw [hch0] at hch
  cases hch
  rcases hcase with ⟨hnone, _⟩ | hsome
  · rw [hh1] at hnone; cases hnone
  · rw [hh1] at hsome
    cases hsome
    have hid : withHash e hashes hash = e := by
      unfold withHash
      rw [Obj.insert_of_get hashes sha256Key _ (hs2 hashes hh1) hh2,
        Obj.insert_of_get e hashesKey _ hs1 hh1]
    rw [hid, hred0] at hred
    cases hred
    rw [verifyJson_ok_iff]
    refine ⟨sigs0, ?_, hall0⟩
    rw [(serversToCheck_redact_fields rr e red hred0).2.2.2.2, hsig0]

theorem validSorted_step (S : SigScheme) (hS : S.Lawful) (sha256 : List Nat → List Nat)
    (keys : KeyMap) (entity : Str) (kp : KeyPair) (e e' : Obj) (rr : Rules)
    (hsign : hashAndSignEvent S sha256 entity kp e rr = (.ok (), e'))
    (hk : HasKey S keys entity kp)
    (h0 : FreshSorted e ∨ ValidSorted S sha256 keys rr e) :
    ValidSorted S sha256 keys rr e' ∧
    ∃ sigs', Obj.get e' sigKey = some (.obj sigs') ∧ entity ∈ Obj.keys sigs' ∧
      ∀ sigs, Obj.get e sigKey = some (.obj sigs) → ∀ s ∈ Obj.keys sigs, s ∈ Obj.keys sigs' := by
  have hsorted : Obj.Sorted e ∧ ∀ hs, Obj.get e hashesKey = some (.obj hs) → Obj.Sorted hs := by
    rcases h0 with ⟨_, h1, h2⟩ | ⟨_, h1, h2⟩ <;> exact ⟨h1, h2⟩
  have hprior : Obj.get e sigKey = none ∨
      ∀ hashes hash red, redact rr (withHash e hashes hash) none = .ok red →
        Hash.contentHash sha256 e = .ok hash →
        ((Obj.get e hashesKey = none ∧ hashes = []) ∨ Obj.get e hashesKey = some (.obj hashes)) →
        verifyJson S keys red = .ok () :=
    h0.imp (·.1) (·.prior)
  obtain ⟨hv, red, hsig, hredsig⟩ := valid_after_sign S hS sha256 keys entity kp e e' rr hsign hk hprior
  obtain ⟨hash, hashes, red1, _, hhs, hred1, _, he'⟩ := hashAndSign_ok S sha256 entity kp e e' rr hsign
  have hsortedH : Obj.Sorted hashes := by
    rcases hhs with ⟨_, rfl⟩ | h
    · exact List.Pairwise.nil
    · exact hsorted.2 hashes h
  refine ⟨⟨hv, ?_, ?_⟩, newSignatures S entity kp red, hsig, ?_, ?_⟩
  · rw [he']
    exact Obj.sorted_insert _ _ _ (Obj.sorted_insert _ _ _ hsorted.1)
  · intro hs hget
    rw [he', Obj.get_insert_ne _ _ _ _ hashesKey_ne_sigKey, withHash, Obj.get_insert_self] at hget
    injection hget with hget; injection hget with hget; subst hget
    exact Obj.sorted_insert _ _ _ hsortedH
  · rw [newSignatures, Obj.mem_keys_insert]; exact Or.inl rfl
  · intro sigs hgs s hs
    rw [newSignatures, Obj.mem_keys_insert]
    refine Or.inr ?_
    have : Spec.Sign.signaturesOf red = sigs := signaturesOf_of_get red sigs (by rw [hredsig, hgs])
    rw [this]; exact hs

/-- The signing steps in order; stops at the first error (`Result` and the object after it). -/
def signAllEvents (S : SigScheme) (sha256 : List Nat → List Nat) (rr : Rules) :
    List (Str × KeyPair) → Obj → Except Err Unit × Obj
  | [], o => (.ok (), o)
  | (entity, kp) :: rest, o =>
    match hashAndSignEvent S sha256 entity kp o rr with
    | (.ok (), o') => signAllEvents S sha256 rr rest o'
    | (.error err, o') => (.error err, o')

theorem signAll_validSorted (S : SigScheme) (hS : S.Lawful) (sha256 : List Nat → List Nat)
    (keys : KeyMap) (rr : Rules) (steps : List (Str × KeyPair)) (e e' : Obj)
    (hk : ∀ st ∈ steps, HasKey S keys st.1 st.2)
    (h0 : (FreshSorted e ∧ steps ≠ []) ∨ ValidSorted S sha256 keys rr e)
    (hrun : signAllEvents S sha256 rr steps e = (.ok (), e')) :
    ValidSorted S sha256 keys rr e' ∧
    ∃ sigs', Obj.get e' sigKey = some (.obj sigs') ∧ (∀ st ∈ steps, st.1 ∈ Obj.keys sigs') ∧
      ∀ sigs, Obj.get e sigKey = some (.obj sigs) → ∀ s ∈ Obj.keys sigs, s ∈ Obj.keys sigs' := by
  induction steps generalizing e with
  | nil =>
    cases hrun
    rcases h0 with ⟨_, hne⟩ | h0
    · exact absurd rfl hne
    · obtain ⟨_, _, _, sigs, _, _, _, _, hsig, _⟩ := h0.1
      exact ⟨h0, sigs, hsig, nofun, fun sigs' h s hs => by rw [hsig] at h; cases h; exact hs⟩
  | cons st rest ih =>
    obtain ⟨entity, kp⟩ := st
    rw [signAllEvents] at hrun
    split at hrun
    · rename_i o1 hstep
      obtain ⟨hv1, sigs1, hs1, hm1, hold1⟩ := validSorted_step S hS sha256 keys entity kp e o1 rr hstep
        (hk _ (.head _)) (h0.imp (·.1) id)
      obtain ⟨hv2, sigs2, hs2, hm2, hold2⟩ := ih o1 (fun st hst => hk st (.tail _ hst)) (.inr hv1) hrun
      exact ⟨hv2, sigs2, hs2, List.forall_mem_cons.mpr ⟨hold2 sigs1 hs1 _ hm1, hm2⟩,
        fun sigs hgs s hs => hold2 sigs1 hs1 s (hold1 sigs hgs s hs)⟩
    · cases hrun

end Ruma.EventSign
