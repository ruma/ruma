/-
  C03 helper lemmas: what server selection sees of the redacted copy of an event — its `content`,
  whether it still is an invite via a third-party invite, and `join_authorised_via_users_server`.
-/
import RumaModel.Lemmas.EventSignSize
namespace Ruma.EventSign
open Ruma Ruma.Sign Ruma.Redact Ruma.Spec.EventSign

theorem redact_content_cases (rr : Rules) (o red : Obj) (h : redact rr o none = .ok red) :
    (∀ c', Obj.get red (bs "content") ≠ some (.obj c')) ∨
    ∃ ty c c', Obj.get o (bs "type") = some (.str ty) ∧ Obj.get o (bs "content") = some (.obj c) ∧
      redactContent rr ty c = .ok c' ∧ Obj.get red (bs "content") = some (.obj c') := by
  obtain ⟨ty, hty, hcase⟩ := Props.C04.redact_ok_shape _ _ _ h
  rcases hcase with ⟨hnone, rfl⟩ | ⟨c, _, hc, _, _⟩
  · refine .inl fun c' hc' => ?_
    rw [get_filter, hnone, ite_self] at hc'
    cases hc'
  · obtain ⟨c', hrc, hgc⟩ := Props.C04.entry_points_agree rr o red ty c h hty hc
    exact .inr ⟨ty, c, c', hty, hc, hrc, hgc⟩

theorem redact_member_content (rr : Rules) (o red c : Obj) (h : redact rr o none = .ok red)
    (hty : Obj.get o (bs "type") = some (.str (bs "m.room.member")))
    (hc : Obj.get o (bs "content") = some (.obj c)) :
    ∃ c', Obj.get red (bs "content") = some (.obj c') ∧ applySome (memberKey rr) c = .ok c' ∧
      Obj.get c' (bs "membership") = Obj.get c (bs "membership") := by
  obtain ⟨c', hrc, hgc⟩ := Props.C04.entry_points_agree rr o red _ c h hty hc
  rw [redactContent, retainedContentKeys, if_pos rfl] at hrc
  exact ⟨c', hgc, hrc, applySome_get_kept (memberKey rr) _ (fun v => if_pos rfl) c c' hrc⟩

theorem isInvite_redacted (rr : Rules) (o red : Obj) (h : redact rr o none = .ok red)
    (hi : isInviteViaThirdPartyId o = .ok false) : isInviteViaThirdPartyId red = .ok false := by
  obtain ⟨hgt, _, _, _, _⟩ := serversToCheck_redact_fields rr o red h
  unfold isInviteViaThirdPartyId at hi ⊢
  rw [hgt]
  split at hi
  · rename_i ty hty
    by_cases hm : ty = bs "m.room.member"
    · subst hm
      rw [if_neg (not_not_intro rfl)] at hi ⊢
      split at hi
      · rename_i c hc
        obtain ⟨c', hgc, hrc, hmem⟩ := redact_member_content rr o red c h hty hc
        rw [hgc]
        dsimp only
        rw [hmem]
        split at hi
        · rename_i m hmv
          by_cases hinv : m = bs "invite"
          · subst hinv
            rw [if_neg (not_not_intro rfl)] at hi ⊢
            split at hi
            · cases hi
            · rename_i htp
              rw [applySome_get_none (memberKey rr) _ c c' hrc htp]
            · cases hi
          · rw [if_pos hinv]
        · cases hi
      · cases hi
    · rw [if_pos hm]
  · cases hi

theorem authorisedField_redacted (rr : Rules) (o red : Obj) (h : redact rr o none = .ok red) :
    authorisedField red = none ∨ authorisedField red = authorisedField o := by
  cases ha : authorisedField red with
  | none => exact .inl rfl
  | some a =>
    obtain ⟨c', hc', hac'⟩ := (authorisedField_some red a).mp ha
    rcases redact_content_cases rr o red h with hn | ⟨ty, c, c'', _, hc, hrc, hgc⟩
    · exact absurd hc' (hn c')
    · rw [hc'] at hgc
      cases hgc
      exact .inr ((authorisedField_some o a).mpr
        ⟨c, hc, content_get_of_redacted rr ty c c' hrc _ (by rw [bs_ofList, bs_ofList]; decide +kernel) a hac'⟩).symm

/-- The third block of `servers_to_check_signatures` does not fail on the copy if it does not fail
on the event. -/
theorem authorisedStep_redacted_ok (x : Ids.Ext) (rr : Rules) (sr : SigRules) (o red : Obj)
    (acc l : List Str) (h : redact rr o none = .ok red) (hl : authorisedStep x o sr acc = .ok l) :
    ∃ l', authorisedStep x red sr acc = .ok l' := by
  unfold authorisedStep at hl ⊢
  split
  · rw [if_pos ‹_›] at hl
    rcases authorisedField_redacted rr o red h with ha | ha
    · rw [ha]; exact ⟨_, rfl⟩
    · rw [ha]; exact ⟨_, hl⟩
  · exact ⟨_, rfl⟩

end Ruma.EventSign
