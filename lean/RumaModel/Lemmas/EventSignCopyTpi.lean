/-
  C03 helper lemmas: server selection on the redacted copy when the copy is an invite created from
  a third-party invite exactly when the original is one (in particular: room version 11, where
  redaction keeps `content.third_party_invite.signed`).
-/
import RumaModel.Lemmas.EventSignCopy
namespace Ruma.EventSign
open Ruma Ruma.Sign Ruma.Redact Ruma.Spec.EventSign

theorem filter_key_ne_nil (o : Obj) (k : Str) (v : JVal) (h : Obj.get o k = some v) :
    (o.filter (fun p => p.1 = k)).isEmpty = false := by
  induction o with
  | nil => cases h
  | cons e t ih =>
    rw [Obj.get] at h
    rw [List.filter_cons]
    split at h
    · rw [if_pos (decide_eq_true ‹_›)]; rfl
    · rw [if_neg (by rw [decide_eq_true_eq]; assumption)]; exact ih h

/-- **Room version 11** (any rules with `keep_room_member_third_party_invite_signed`): the redacted
copy of an invite created from a third-party invite whose `third_party_invite` has a `signed` member
is still such an invite. -/
theorem isThirdPartyInvite_redacted_keep (rr : Rules) (o red : Obj) (c tpi : Obj) (sg : JVal)
    (h : redact rr o none = .ok red) (hk : rr.keepMemberTpiSigned = true)
    (h3 : isThirdPartyInvite o = true)
    (hc : Obj.get o (bs "content") = some (.obj c))
    (ht : Obj.get c (bs "third_party_invite") = some (.obj tpi))
    (hs : Obj.get tpi (bs "signed") = some sg) :
    isThirdPartyInvite red = true := by
  obtain ⟨c0, _, hty, hc0, hm, _⟩ := (isThirdPartyInvite_iff o).mp h3
  rw [hc] at hc0
  cases hc0
  obtain ⟨hgt, _⟩ := serversToCheck_redact_fields rr o red h
  obtain ⟨c', hgc, hrc, hmem⟩ := redact_member_content rr o red c h hty hc
  refine (isThirdPartyInvite_iff red).mpr
    ⟨c', tpi.filter (fun p => p.1 = bs "signed"), hgt.trans hty, hgc, hmem.trans hm, ?_⟩
  refine applySome_get_mapped (memberKey rr) _ c c' _ _ hrc ht ?_
  rw [memberKey, if_neg (by rw [bs_ofList, bs_ofList]; decide +kernel),
    if_neg (by rw [bs_ofList, bs_ofList]; decide +kernel), if_pos ⟨rfl, hk⟩]
  dsimp only
  rw [filter_key_ne_nil tpi _ sg hs]
  rfl

theorem serversToCheck_redacted_ok_same (x : Ids.Ext) (rr : Rules) (sr : SigRules) (o red : Obj) (l : List Str)
    (h : redact rr o none = .ok red) (h3 : isThirdPartyInvite red = isThirdPartyInvite o)
    (hl : serversToCheck x o sr = .ok l) : ∃ l', serversToCheck x red sr = .ok l' := by
  obtain ⟨_, hgs, hge, _, _⟩ := serversToCheck_redact_fields rr o red h
  unfold serversToCheck at hl ⊢
  -- the first two blocks are the same computation on the copy
  have hsender : senderStep x red [] = senderStep x o [] := by
    unfold senderStep at hl ⊢
    cases hi : isInviteViaThirdPartyId o with
    | error e => rw [hi] at hl; cases hl
    | ok b =>
      have hi' : isInviteViaThirdPartyId red = .ok b := by
        cases b with
        | false => exact isInvite_redacted rr o red h hi
        | true =>
          exact (isInvite_true_iff red).mpr
            ((isThirdPartyInvite_iff red).mp (h3.trans (isInvite_spec o true hi)))
      rw [hi', hgs]
  have hevent : ∀ acc, eventIdStep x red sr acc = eventIdStep x o sr acc := fun acc => by
    rw [eventIdStep, eventIdStep, hge]
  rw [hsender]
  split at hl
  · cases hl
  · rw [hevent]
    split at hl
    · cases hl
    · exact authorisedStep_redacted_ok x rr sr o red _ l h hl

theorem isThirdPartyInvite_redacted_false (x : Ids.Ext) (rr : Rules) (sr : SigRules) (o red : Obj)
    (l : List Str) (h : redact rr o none = .ok red) (h3 : isThirdPartyInvite o = false)
    (hl : serversToCheck x o sr = .ok l) : isThirdPartyInvite red = false := by
  unfold serversToCheck senderStep at hl
  cases hi : isInviteViaThirdPartyId o with
  | error e => rw [hi] at hl; cases hl
  | ok b =>
    rw [(isInvite_spec o b hi).symm.trans h3] at hi
    exact isInvite_spec red false (isInvite_redacted rr o red h hi)

end Ruma.EventSign
