/-
  Concrete objects for the non-vacuity examples and the negation witness of C03
  (a toy signature scheme — C02's `toy`, lawful but not secure — and a toy digest).
-/
import RumaModel.Lemmas.EventSignChain
import RumaModel.Props.C02
namespace Ruma.EventSign.Ex
open Ruma Ruma.Sign Ruma.EventSign Ruma.Spec.Redaction

def ext : Ids.Ext := ⟨fun _ => false, fun _ => false, fun _ => true⟩

/-- A two-byte toy digest (length and byte sum), standing in for SHA-256 in computed examples. -/
def sha (m : List Nat) : List Nat := [m.length % 256, m.sum % 256]

theorem sha_bytes : ∀ m, ∀ b ∈ sha m, b < 256 := by
  intro m b hb
  simp only [sha, List.mem_cons, List.not_mem_nil, or_false] at hb
  rcases hb with rfl | rfl <;> exact Nat.mod_lt _ (by decide)

def kp : KeyPair := ⟨[1, 2, 3], bs "1"⟩

/-- A message event sent by `@a:s`, to be signed by server `s`. -/
def message : Obj :=
  [(bs "content", .obj [(bs "body", .str (bs "hi"))]), (bs "sender", .str (bs "@a:s")),
   (bs "type", .str (bs "m.room.message")), (bs "unsigned", .obj [(bs "age", .int 1)])]

def keysS : KeyMap := [(bs "s", [(bs "ed25519:1", Props.C02.toy.pub [1, 2, 3])])]

/-- An invite created from a third-party invite: sender `@a:a`, signed only by the invited user's
server `b` — which is all the specification demands of it. -/
def thirdPartyInvite : Obj :=
  [(bs "content", .obj [(bs "membership", .str (bs "invite")),
      (bs "third_party_invite", .obj [(bs "display_name", .str (bs "n")),
        (bs "signed", .obj [(bs "mxid", .str (bs "@c:b")), (bs "token", .str (bs "t"))])])]),
   (bs "sender", .str (bs "@a:a")), (bs "state_key", .str (bs "@c:b")),
   (bs "type", .str (bs "m.room.member"))]

def keysB : KeyMap := [(bs "b", [(bs "ed25519:1", Props.C02.toy.pub [1, 2, 3])])]

/-- The message event hashed and signed by server `s` under the version 10 rules (toy scheme). -/
def signedByS : Obj :=
  (hashAndSignEvent Props.C02.toy sha (bs "s") kp message (rulesOf 10)).2

/-- The message event hashed and signed by another server `t` (which the version does not demand). -/
def signedByT : Obj :=
  (hashAndSignEvent Props.C02.toy sha (bs "t") kp message (rulesOf 10)).2

/-- Keys of both `s` and `t`. -/
def keysST : KeyMap := keysS ++ [(bs "t", [(bs "ed25519:1", Props.C02.toy.pub [1, 2, 3])])]

/-! The examples of `Props/C03.lean` need many closed facts about the same few signed events. They are
stated here as two conjunctions, each proved by one kernel evaluation, so that the signing, the
redaction and the decoding of the string literals inside the model are evaluated once. -/

/-- The value of a successful run (`[]` for an error; only used on runs shown to succeed). -/
def okOr {ε : Type} (x : Except ε Obj) : Obj :=
  match x with
  | .ok r => r
  | .error _ => []

/-- The object stored under `k` (`[]` if there is none). -/
def objAt (o : Obj) (k : Str) : Obj :=
  match Obj.get o k with
  | some (.obj c) => c
  | _ => []

open Ruma.Redact Ruma.Spec.EventSign

def redactedS : Obj := okOr (redact (rulesOf 10) signedByS none)

/-- `signedByS` with another `content.body`: a change redaction strips. -/
def bodyChanged : Obj := setVal signedByS (bs "content") (.obj [(bs "body", .str (bs "ho"))])

/-- `signedByS` with another `sender`: a change redaction keeps. -/
def senderChanged : Obj := setVal signedByS (bs "sender") (.str (bs "@b:s"))

def senderChangedRedacted : Obj := okOr (redact (rulesOf 10) senderChanged none)

/-- `signedByT` signed by `s` as well. -/
def signedByTthenS : Obj :=
  (hashAndSignEvent Props.C02.toy sha (bs "s") kp signedByT (rulesOf 10)).2

/- One instance per result type: without them, synthesising `Decidable` for the two long conjunctions
of such equations below exceeds the default size limit of instance synthesis. -/
local instance : DecidableEq (Except Err Unit × Obj) := inferInstance
local instance : DecidableEq (Except Err (List Str)) := inferInstance
local instance : DecidableEq (Except Err Verified) := inferInstance
local instance : DecidableEq (Except Redact.Err Obj) := inferInstance

theorem message_computed :
    -- signed by `s`
    (hashAndSignEvent Props.C02.toy sha (bs "s") kp message (rulesOf 10) = (.ok (), signedByS) ∧
      Obj.get message sigKey = none ∧ HasKey Props.C02.toy keysS (bs "s") kp ∧
      isThirdPartyInvite signedByS = false ∧
      serversToCheck ext signedByS (sigRulesOf 10) = .ok [bs "s"] ∧
      verifyEvent Props.C02.toy sha ext keysS signedByS (rulesOf 10) (sigRulesOf 10) = .ok .all ∧
      redact (rulesOf 10) signedByS none = .ok redactedS ∧
      serversToCheck ext redactedS (sigRulesOf 10) = .ok [bs "s"] ∧
      verifyEvent Props.C02.toy sha ext keysS redactedS (rulesOf 10) (sigRulesOf 10)
        = .ok .signatures ∧
      Obj.get keysB (bs "s") = none ∧
      verifyEvent Props.C02.toy sha ext keysB signedByS (rulesOf 10) (sigRulesOf 10)
        = .error (.sign .noPublicKeysForEntity)) ∧
    -- `content.body` changed afterwards
    (redact (rulesOf 10) bodyChanged none = redact (rulesOf 10) signedByS none ∧
      serversToCheck ext bodyChanged (sigRulesOf 10) = .ok [bs "s"] ∧
      Spec.Hash.contentPreimage bodyChanged ≠ Spec.Hash.contentPreimage signedByS ∧
      (Spec.Hash.contentPreimage bodyChanged).length ≤ 65535 ∧
      (sha (Spec.Hash.contentPreimage bodyChanged) = sha (Spec.Hash.contentPreimage signedByS) →
        Spec.Hash.contentPreimage bodyChanged = Spec.Hash.contentPreimage signedByS) ∧
      verifyEvent Props.C02.toy sha ext keysS bodyChanged (rulesOf 10) (sigRulesOf 10)
        = .ok .signatures) ∧
    -- `sender` changed afterwards
    (Obj.get senderChanged sigKey = Obj.get signedByS sigKey ∧
      redact (rulesOf 10) senderChanged none = .ok senderChangedRedacted ∧
      serversToCheck ext senderChanged (sigRulesOf 10) = .ok [bs "s"] ∧
      Props.C02.toy.verify (Props.C02.toy.pub kp.secret) (canonicalJson senderChangedRedacted)
        (Props.C02.toy.sign kp.secret (canonicalJson redactedS)) = false ∧
      verifyEvent Props.C02.toy sha ext keysS senderChanged (rulesOf 10) (sigRulesOf 10)
        = .error (.sign .signatureInvalid)) ∧
    -- signed by `t`, then by `s` (separately, and in one run of `signAllEvents`)
    (Obj.Sorted message ∧ Obj.get message hashesKey = none ∧
      hashAndSignEvent Props.C02.toy sha (bs "t") kp message (rulesOf 10) = (.ok (), signedByT) ∧
      Obj.get signedByT sigKey ≠ none ∧ HasKey Props.C02.toy keysST (bs "t") kp ∧
      hashAndSignEvent Props.C02.toy sha (bs "s") kp signedByT (rulesOf 10)
        = (.ok (), signedByTthenS) ∧
      signAllEvents Props.C02.toy sha (rulesOf 10) [(bs "t", kp), (bs "s", kp)] message
        = (.ok (), signedByTthenS) ∧
      serversToCheck ext signedByTthenS (sigRulesOf 10) = .ok [bs "s"] ∧
      verifyEvent Props.C02.toy sha ext keysST signedByTthenS (rulesOf 10) (sigRulesOf 10)
        = .ok .all) := by
  decide +kernel

theorem freshSorted_message : FreshSorted message :=
  have ⟨hsorted, hnone, _⟩ := message_computed.2.2.2
  ⟨message_computed.1.2.1, hsorted, fun hs h => by rw [hnone] at h; cases h⟩

/-- The third-party invite hashed and signed by `b` under the rules of version `v`. -/
def inviteSigned (v : Nat) : Obj :=
  (hashAndSignEvent Props.C02.toy sha (bs "b") kp thirdPartyInvite (rulesOf v)).2

def inviteRedacted (v : Nat) : Obj := okOr (redact (rulesOf v) (inviteSigned v) none)

/-- `inviteSigned 11` with another `state_key`: a change redaction keeps. -/
def stateKeyChanged : Obj := setVal (inviteSigned 11) (bs "state_key") (.str (bs "@d:b"))

def stateKeyChangedRedacted : Obj := okOr (redact (rulesOf 11) stateKeyChanged none)

theorem invite_computed :
    Obj.get thirdPartyInvite sigKey = none ∧ HasKey Props.C02.toy keysB (bs "b") kp ∧
    -- version 10: the redacted copy loses `content.third_party_invite`
    (hashAndSignEvent Props.C02.toy sha (bs "b") kp thirdPartyInvite (rulesOf 10)
        = (.ok (), inviteSigned 10) ∧
      Obj.Sorted (inviteSigned 10) ∧
      verifyEvent Props.C02.toy sha ext keysB (inviteSigned 10) (rulesOf 10) (sigRulesOf 10)
        = .ok .all ∧
      redact (rulesOf 10) (inviteSigned 10) none = .ok (inviteRedacted 10) ∧
      verifyEvent Props.C02.toy sha ext keysB (inviteRedacted 10) (rulesOf 10) (sigRulesOf 10)
        = .error (.sign .noSignaturesForEntity)) ∧
    -- version 11: it keeps `third_party_invite.signed`
    (hashAndSignEvent Props.C02.toy sha (bs "b") kp thirdPartyInvite (rulesOf 11)
        = (.ok (), inviteSigned 11) ∧
      Obj.Sorted (inviteSigned 11) ∧ (rulesOf 11).keepMemberTpiSigned = true ∧
      isThirdPartyInvite (inviteSigned 11) = true ∧
      Obj.get (inviteSigned 11) (bs "content")
        = some (.obj (objAt (inviteSigned 11) (bs "content"))) ∧
      Obj.get (objAt (inviteSigned 11) (bs "content")) (bs "third_party_invite")
        = some (.obj (objAt (objAt (inviteSigned 11) (bs "content")) (bs "third_party_invite"))) ∧
      Obj.get (objAt (objAt (inviteSigned 11) (bs "content")) (bs "third_party_invite")) (bs "signed")
        ≠ none ∧
      serversToCheck ext (inviteSigned 11) (sigRulesOf 11) = .ok [] ∧
      verifyEvent Props.C02.toy sha ext keysB (inviteSigned 11) (rulesOf 11) (sigRulesOf 11)
        = .ok .all ∧
      redact (rulesOf 11) (inviteSigned 11) none = .ok (inviteRedacted 11) ∧
      isThirdPartyInvite (inviteRedacted 11) = true ∧
      verifyEvent Props.C02.toy sha ext keysB (inviteRedacted 11) (rulesOf 11) (sigRulesOf 11)
        = .ok .signatures) ∧
    -- version 11, `state_key` changed afterwards
    (Obj.get stateKeyChanged sigKey = Obj.get (inviteSigned 11) sigKey ∧
      redact (rulesOf 11) stateKeyChanged none = .ok stateKeyChangedRedacted ∧
      Props.C02.toy.verify (Props.C02.toy.pub kp.secret) (canonicalJson stateKeyChangedRedacted)
        (Props.C02.toy.sign kp.secret (canonicalJson (inviteRedacted 11))) = false ∧
      verifyEvent Props.C02.toy sha ext keysB stateKeyChanged (rulesOf 11) (sigRulesOf 11)
        = .ok .signatures) := by
  decide +kernel

end Ruma.EventSign.Ex
