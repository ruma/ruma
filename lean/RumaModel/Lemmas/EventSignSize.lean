/-
  C03 helper lemmas about what redaction does to sizes and to content entries:
  the canonical form of a redacted copy is never longer than the original's (so `content_hash` of a
  redacted copy cannot fail with `PduSize` when the original's did not), and a content entry of the
  redacted event other than `third_party_invite` is an entry of the original with the same value.
-/
import RumaModel.Lemmas.EventSign
namespace Ruma.EventSign
open Ruma Ruma.Sign Ruma.Redact Ruma.Canonical

theorem memberKey_some (r : Rules) (k : Str) (v v' : JVal) (h : memberKey r k v = .ok (.some v')) :
    v' = v ∨ ∃ tpi, v = .obj tpi ∧ v' = .obj (tpi.filter (fun p => p.1 = bs "signed")) := by
  unfold memberKey at h
  by_cases h1 : k = bs "membership"
  · rw [if_pos h1] at h
    cases h
    exact .inl rfl
  rw [if_neg h1] at h
  by_cases h2 : k = bs "join_authorised_via_users_server"
  · rw [if_pos h2] at h
    split at h <;> cases h
    exact .inl rfl
  rw [if_neg h2] at h
  by_cases h3 : k = bs "third_party_invite" ∧ r.keepMemberTpiSigned = true
  · rw [if_pos h3] at h
    split at h
    · dsimp only at h
      split at h <;> cases h
      exact .inr ⟨_, rfl, rfl⟩
    · cases h
  · rw [if_neg h3] at h
    cases h

/-- On key `k` the function keeps every value unchanged (`b = true`) or drops every value. -/
def KeyOnly (f : RetainFn) (k : Str) : Prop :=
  ∃ b : Bool, ∀ v, f k v = .ok (if b then .some v else .none)

theorem byKey_keyOnly (p : Str → Bool) (k : Str) : KeyOnly (byKey p) k := ⟨p k, fun _ => rfl⟩

theorem memberKey_keyOnly (r : Rules) (k : Str) (hk : k ≠ bs "third_party_invite") :
    KeyOnly (memberKey r) k := by
  unfold KeyOnly memberKey
  by_cases h1 : k = bs "membership"
  · exact ⟨true, fun v => by rw [if_pos h1]; rfl⟩
  by_cases h2 : k = bs "join_authorised_via_users_server"
  · exact ⟨r.keepMemberAuthorised, fun v => by rw [if_neg h1, if_pos h2]⟩
  · exact ⟨false, fun v => by rw [if_neg h1, if_neg h2, if_neg (fun h => hk h.1)]; rfl⟩

/-- Bytes one entry contributes, its trailing separator included. -/
def entrySize (p : Str × JVal) : Nat := (encodeStr p.1).length + 1 + (encode p.2).length + 1

def objSize (l : Obj) : Nat := (l.map entrySize).sum

theorem objSize_cons (p : Str × JVal) (l : Obj) : objSize (p :: l) = entrySize p + objSize l := rfl

theorem encodeO_length (l : Obj) : (encodeO l).length = objSize l - 1 := by
  induction l with
  | nil => rfl
  | cons e t ih =>
    obtain ⟨k, v⟩ := e
    cases t with
    | nil =>
      simp only [encodeO, objSize, entrySize, List.map_cons, List.map_nil, List.sum_cons,
        List.sum_nil, List.length_append, List.length_cons]
      omega
    | cons e2 t2 =>
      have hpos : 1 ≤ objSize (e2 :: t2) := by simp only [objSize_cons, entrySize]; omega
      simp only [encodeO, List.length_append, List.length_cons, ih, objSize_cons (k, v), entrySize]
      omega

theorem encode_obj_length (l : Obj) : (encode (.obj l)).length = objSize l - 1 + 2 := by
  simp only [encode, List.length_cons, List.length_append, encodeO_length, List.length_nil]

theorem objSize_filter_le (l : Obj) (p : Str × JVal → Bool) : objSize (l.filter p) ≤ objSize l := by
  induction l with
  | nil => exact Nat.le_refl _
  | cons e t ih =>
    rw [List.filter_cons]
    split
    · rw [objSize_cons, objSize_cons]; omega
    · rw [objSize_cons]; omega

/-- A retain function never makes a value's encoding longer. -/
def Shrinking (f : RetainFn) : Prop :=
  ∀ k v v', f k v = .ok (.some v') → (encode v').length ≤ (encode v).length

theorem applySome_size (f : RetainFn) (hf : Shrinking f) (c c' : Obj) (h : applySome f c = .ok c') :
    objSize c' ≤ objSize c := by
  induction c generalizing c' with
  | nil => cases h; exact Nat.le_refl _
  | cons e t ih =>
    rcases applySome_cons_ok h with ⟨_, ht⟩ | ⟨v', t', hfe, ht, rfl⟩
    · exact Nat.le_trans (ih c' ht) (Nat.le_add_left _ _)
    · have h1 := ih t' ht
      have h2 := hf e.1 e.2 v' hfe
      simp only [objSize_cons, entrySize]
      omega

theorem byKey_shrinking (p : Str → Bool) : Shrinking (byKey p) := by
  intro k v v' h
  obtain ⟨b, hb⟩ := byKey_keyOnly p k
  rw [hb] at h
  cases b <;> cases h
  exact Nat.le_refl _

theorem memberKey_shrinking (r : Rules) : Shrinking (memberKey r) := by
  intro k v v' h
  rcases memberKey_some r k v v' h with rfl | ⟨tpi, rfl, rfl⟩
  · exact Nat.le_refl _
  · rw [encode_obj_length, encode_obj_length]
    have := objSize_filter_le tpi (fun p => decide (p.1 = bs "signed"))
    omega

theorem redactContent_size (r : Rules) (ty : Str) (c c' : Obj) (h : redactContent r ty c = .ok c') :
    objSize c' ≤ objSize c := by
  unfold redactContent at h
  cases hR : retainedContentKeys ty r with
  | all => rw [hR] at h; cases h; exact Nat.le_refl _
  | none => rw [hR] at h; cases h; exact Nat.zero_le _
  | some f =>
    rw [hR] at h
    exact applySome_size f
      (retained_some_ind Shrinking ty r (memberKey_shrinking r) byKey_shrinking f hR) c c' h

theorem objSize_setVal_le (o : Obj) (k : Str) (v : JVal)
    (h : ∀ p ∈ o, p.1 = k → (encode v).length ≤ (encode p.2).length) :
    objSize (setVal o k v) ≤ objSize o := by
  induction o with
  | nil => exact Nat.le_refl _
  | cons e t ih =>
    have iht := ih (fun p hp => h p (List.mem_cons_of_mem _ hp))
    rw [setVal, List.map_cons, objSize_cons, objSize_cons]
    rw [setVal] at iht
    split
    · rename_i hk
      have := h e List.mem_cons_self hk
      simp only [entrySize]; omega
    · omega

theorem filter_comm {α} (l : List α) (p q : α → Bool) :
    (l.filter p).filter q = (l.filter q).filter p := by
  rw [List.filter_filter, List.filter_filter]
  exact List.filter_congr fun x _ => Bool.and_comm _ _

theorem contentPreimage_redacted_le (rr : Rules) (e red : Obj) (hs : Obj.Sorted e)
    (hred : redact rr e none = .ok red) :
    (Spec.Hash.contentPreimage red).length ≤ (Spec.Hash.contentPreimage e).length := by
  obtain ⟨ty, _, hcase⟩ := Props.C04.redact_ok_shape _ _ _ hred
  simp only [Spec.Hash.contentPreimage, encodeObj, encode_obj_length, Spec.Hash.without]
  apply Nat.add_le_add_right
  apply Nat.sub_le_sub_right
  rcases hcase with ⟨_, rfl⟩ | ⟨c, c', hc, hrc, rfl⟩
  · rw [filter_comm]
    exact objSize_filter_le _ _
  · rw [filter_comm]
    refine Nat.le_trans (objSize_filter_le _ _) ?_
    rw [← setVal_filter (p := fun k => !([bs "unsigned", bs "signatures", bs "hashes"].contains k))]
    apply objSize_setVal_le
    intro p hp hk
    have hpe := (List.mem_filter.mp hp).1
    rw [Hash.sorted_unique e hs _ _ hc p hpe hk, encode_obj_length, encode_obj_length]
    have := redactContent_size rr ty c c' hrc
    omega

theorem contentHash_redacted_ok (sha256 : List Nat → List Nat) (rr : Rules) (e red : Obj)
    (hash : List Nat) (hs : Obj.Sorted e) (hred : redact rr e none = .ok red)
    (hch : Hash.contentHash sha256 e = .ok hash) :
    ∃ calcd, Hash.contentHash sha256 red = .ok calcd := by
  have hle := contentPreimage_redacted_le rr e red hs hred
  rw [Props.C05.content_hash_def] at hch ⊢
  split at hch
  · cases hch
  · rename_i hlen
    rw [if_neg (by omega)]
    exact ⟨_, rfl⟩

theorem applySome_get_mapped (f : RetainFn) (k : Str) (c c' : Obj) (v v' : JVal)
    (h : applySome f c = .ok c') (hg : Obj.get c k = some v) (hf : f k v = .ok (.some v')) :
    Obj.get c' k = some v' := by
  induction c generalizing c' with
  | nil => cases hg
  | cons e t ih =>
    obtain ⟨a, b⟩ := e
    rw [Obj.get] at hg
    split at hg
    · next hak =>
      subst hak
      cases hg
      rcases applySome_cons_ok h with ⟨hfa, _⟩ | ⟨w, t', hfa, _, rfl⟩
      · rw [hf] at hfa; cases hfa
      · rw [hf] at hfa; cases hfa; exact if_pos rfl
    · next hak =>
      rcases applySome_cons_ok h with ⟨_, ht⟩ | ⟨w, t', _, ht, rfl⟩
      · exact ih c' ht hg
      · rw [Obj.get, if_neg hak]; exact ih t' ht hg

theorem applySome_get_none (f : RetainFn) (k : Str) (c c' : Obj) (h : applySome f c = .ok c')
    (hn : Obj.get c k = none) : Obj.get c' k = none := by
  cases hg : Obj.get c' k with
  | none => rfl
  | some v =>
    obtain ⟨v0, hmem, _⟩ := applySome_mem f c c' h (k, v) (Obj.get_mem c' k v hg)
    exact absurd hn ((get_mem_keys c k).mpr (List.mem_map.mpr ⟨_, hmem, rfl⟩))

theorem applySome_get_kept (f : RetainFn) (k : Str) (hk : ∀ v, f k v = .ok (.some v))
    (c c' : Obj) (h : applySome f c = .ok c') : Obj.get c' k = Obj.get c k := by
  cases hg : Obj.get c k with
  | none => exact applySome_get_none f k c c' h hg
  | some v => exact applySome_get_mapped f k c c' v v h hg (hk v)

theorem applySome_get (f : RetainFn) (k : Str) (hk : KeyOnly f k)
    (c c' : Obj) (h : applySome f c = .ok c') (v : JVal) (hg : Obj.get c' k = some v) :
    Obj.get c k = some v := by
  obtain ⟨b, hb⟩ := hk
  cases b with
  | true => rw [← applySome_get_kept f k hb c c' h, hg]
  | false =>
    obtain ⟨v0, _, hf⟩ := applySome_mem f c c' h (k, v) (Obj.get_mem c' k v hg)
    rw [hb] at hf
    cases hf

theorem content_get_of_redacted (r : Rules) (ty : Str) (c c' : Obj)
    (h : redactContent r ty c = .ok c') (k : Str) (hk : k ≠ bs "third_party_invite") (v : JVal)
    (hg : Obj.get c' k = some v) : Obj.get c k = some v := by
  unfold redactContent at h
  cases hR : retainedContentKeys ty r with
  | all => rw [hR] at h; cases h; exact hg
  | none => rw [hR] at h; cases h; cases hg
  | some f =>
    rw [hR] at h
    exact applySome_get f k
      (retained_some_ind (KeyOnly · k) ty r (memberKey_keyOnly r k hk) (byKey_keyOnly · k) f hR)
      c c' h v hg

end Ruma.EventSign
