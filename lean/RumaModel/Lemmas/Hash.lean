/-
  Helper lemmas for C05 (content hash / reference hash / base64).
-/
import RumaModel.Model.Hash
import RumaModel.Spec.Hash
import RumaModel.Spec.RedactionRules
import RumaModel.Props.C04
import RumaModel.Lemmas.Canonical
namespace Ruma.Hash
open Ruma Ruma.Redact Ruma.Canonical Ruma.Spec.Redaction

theorem exists_ok_of_isOk {ε α} {x : Except ε α} (h : x.isOk = true) : ∃ a, x = .ok a := by
  cases x
  · cases h
  · exact ⟨_, rfl⟩

theorem removeFields_eq_filter (o : Obj) (fs : List Str) :
    removeFields o fs = o.filter (fun p => !fs.contains p.1) := by
  induction fs generalizing o with
  | nil =>
    simp only [removeFields, List.foldl_nil, List.contains_nil, Bool.not_false]
    exact (List.filter_eq_self.mpr (fun _ _ => rfl)).symm
  | cons f fs ih =>
    have : removeFields o (f :: fs) = removeFields (Obj.erase o f) fs := rfl
    rw [this, ih, Obj.erase, List.filter_filter]
    apply List.filter_congr
    intro p _
    by_cases h : p.1 = f <;> simp [h, Bool.and_comm]

theorem removeFields_content (o : Obj) :
    removeFields o contentHashFields
      = Spec.Hash.without o [bs "unsigned", bs "signatures", bs "hashes"] := by
  rw [removeFields_eq_filter, Spec.Hash.without]
  apply List.filter_congr
  intro p _
  simp only [contentHashFields, List.contains_cons, List.contains_nil, Bool.or_false]
  cases (p.1 == bs "hashes") <;> cases (p.1 == bs "signatures") <;> cases (p.1 == bs "unsigned") <;> rfl

theorem removeFields_reference (o : Obj) :
    removeFields o referenceHashFields = Spec.Hash.without o [bs "signatures", bs "unsigned"] := by
  rw [removeFields_eq_filter, Spec.Hash.without]; rfl

theorem filter_insert_dropped {α} (o : List (Str × α)) (k : Str) (v : α) (q : Str → Bool)
    (hq : q k = false) :
    (Obj.insert o k v).filter (fun p => q p.1) = o.filter (fun p => q p.1) := by
  induction o with
  | nil => simp [Obj.insert, hq]
  | cons e t ih =>
    obtain ⟨a, b⟩ := e
    simp only [Obj.insert]
    by_cases h1 : a = k
    · subst h1; simp [hq]
    · simp only [h1, if_false]
      by_cases h2 : k < a
      · simp [h2, hq]
      · simp only [h2, if_false, List.filter_cons, ih]

theorem filter_erase_dropped {α} (o : List (Str × α)) (k : Str) (q : Str → Bool)
    (hq : q k = false) :
    (Obj.erase o k).filter (fun p => q p.1) = o.filter (fun p => q p.1) := by
  rw [Obj.erase, List.filter_filter]
  apply List.filter_congr
  intro p _
  by_cases h : p.1 = k
  · simp [h, hq]
  · simp [h]

theorem filter_setVal_dropped (o : Obj) (k : Str) (v : JVal) (q : Str → Bool) (hq : q k = false) :
    (setVal o k v).filter (fun p => q p.1) = o.filter (fun p => q p.1) := by
  rw [← setVal_filter]
  simp only [setVal]
  conv => rhs; rw [← List.map_id (o.filter (fun p => q p.1))]
  apply List.map_congr_left
  intro p hp
  have := (List.mem_filter.mp hp).2
  by_cases h : p.1 = k
  · rw [h, hq] at this; cases this
  · simp [h]

theorem redact_filter (r : Rules) (o : Obj) (q : Str → Bool)
    (hT : q (bs "type") = true) (hC : q (bs "content") = true) :
    redact r (o.filter (fun e => q e.1)) none
      = (redact r o none).map (fun res => res.filter (fun e => q e.1)) := by
  unfold redact redactContentField
  rw [get_filter, hT, if_pos rfl, get_filter, hC, if_pos rfl]
  cases Obj.get o (bs "type") with
  | none => rfl
  | some x =>
    cases x <;> try rfl
    cases Obj.get o (bs "content") with
    | none => simp [finish, Except.map, List.filter_filter, Bool.and_comm]
    | some y =>
      cases y <;> try rfl
      dsimp only
      cases redactContent r _ _ <;>
        simp [finish, Except.map, setVal_filter, List.filter_filter, Bool.and_comm]

theorem sorted_unique {α : Type} (o : List (Str × α)) (hs : Obj.Sorted o) (k : Str) (x : α)
    (hg : Obj.get o k = some x) : ∀ p ∈ o, p.1 = k → p.2 = x := by
  rintro ⟨_, y⟩ hp rfl
  have hy := (get_eq_some_iff o (sorted_keys_nodup hs) _ y).mpr hp
  exact Option.some.inj (hy.symm.trans hg)

theorem redact_eq_spec (v : Nat) (o res : Obj) (hs : Obj.Sorted o)
    (h : redact (rulesOf v) o none = .ok res) :
    ∃ ty, Obj.get o (bs "type") = some (.str ty) ∧ res = Spec.Hash.redacted v ty o := by
  obtain ⟨ty, hty, hcase⟩ := Props.C04.redact_ok_shape _ _ _ h
  refine ⟨ty, hty, ?_⟩
  have hpred : (fun e : Str × JVal => isEventKeyRetained (rulesOf v) e.1)
      = (fun e : Str × JVal => topKept v e.1) := by
    funext e; exact Props.C04.top_key_eq_spec v e.1
  rcases hcase with ⟨hnone, rfl⟩ | ⟨c, c', hc, hred, rfl⟩
  · rw [hpred, Spec.Hash.redacted]
    conv => lhs; rw [← List.map_id (o.filter (fun e => topKept v e.1))]
    apply List.map_congr_left
    intro p hp
    have hne : p.1 ≠ bs "content" := fun hk =>
      (get_mem_keys o _).mpr (List.mem_map.mpr ⟨p, (List.mem_filter.mp hp).1, hk⟩) hnone
    simp [hne]
  · rw [hpred, ← setVal_filter, Spec.Hash.redacted, setVal]
    apply List.map_congr_left
    intro p hp
    have hpo := (List.mem_filter.mp hp).1
    by_cases hk : p.1 = bs "content"
    · have := sorted_unique o hs _ _ hc p hpo hk
      rw [Props.C04.redactContent_eq_spec v ty c c' hred]
      simp only [hk, if_true, this]
    · simp [hk]

theorem valOf_charOf (a : Alphabet) : ∀ i, i < 64 → valOf a (charOf a i) = some i := by
  cases a <;> decide +kernel

/-- Three bytes and the four sextets `b64` cuts them into: each sextet is below 64, and the
decoder's arithmetic gives the bytes back. A final group of two bytes or one is the case `z = 0`,
`y = z = 0`. -/
theorem sextets (x y z : Nat) (hx : x < 256) (hy : y < 256) (hz : z < 256) :
    x / 4 < 64 ∧ x % 4 * 16 + y / 16 < 64 ∧ y % 16 * 4 + z / 64 < 64 ∧ z % 64 < 64 ∧
    x / 4 * 4 + (x % 4 * 16 + y / 16) / 16 = x ∧
    (x % 4 * 16 + y / 16) % 16 * 16 + (y % 16 * 4 + z / 64) / 4 = y ∧
    (y % 16 * 4 + z / 64) % 4 * 64 + z % 64 = z := by omega

theorem unb64_b64 (a : Alphabet) (x : List Nat) (hx : ∀ b ∈ x, b < 256) :
    unb64 a (b64 a x) = some x := by
  fun_induction b64 a x with
  | case1 x y z rest ih =>
    obtain ⟨h0, h1, h2, h3, e0, e1, e2⟩ :=
      sextets x y z (hx x (by simp)) (hx y (by simp)) (hx z (by simp))
    simp only [unb64, valOf_charOf a _ h0, valOf_charOf a _ h1, valOf_charOf a _ h2,
      valOf_charOf a _ h3, ih fun b hb => hx b (by simp [hb]), e0, e1, e2]
  | case2 x y =>
    obtain ⟨h0, h1, h2, _, e0, e1, _⟩ := sextets x y 0 (hx x (by simp)) (hx y (by simp)) (by omega)
    simp only [Nat.zero_div, Nat.add_zero] at h2 e1
    simp only [unb64, valOf_charOf a _ h0, valOf_charOf a _ h1, valOf_charOf a _ h2, e0, e1,
      Nat.mul_mod_left, if_true]
  | case3 x =>
    obtain ⟨h0, h1, _, _, e0, _, _⟩ := sextets x 0 0 (hx x (by simp)) (by omega) (by omega)
    simp only [Nat.zero_div, Nat.add_zero] at h1 e0
    simp only [unb64, valOf_charOf a _ h0, valOf_charOf a _ h1, e0, Nat.mul_mod_left, if_true]
  | case4 => rfl

theorem b64_injective (a : Alphabet) (x y : List Nat) (hx : ∀ b ∈ x, b < 256)
    (hy : ∀ b ∈ y, b < 256) (h : b64 a x = b64 a y) : x = y :=
  Option.some.inj ((unb64_b64 a x hx).symm.trans ((congrArg (unb64 a) h).trans (unb64_b64 a y hy)))

theorem b64_length (a : Alphabet) (x : List Nat) : (b64 a x).length = (4 * x.length + 2) / 3 := by
  fun_induction b64 a x with
  | case1 x y z rest ih => simp only [List.length_cons, ih]; omega
  | case2 x y => simp
  | case3 x => simp
  | case4 => rfl

/-- The characters of an alphabet, sextet 0 first. -/
def alphabetChars (a : Alphabet) : List Nat := (List.range 64).map (charOf a)

theorem charOf_mem (a : Alphabet) : ∀ i, i < 64 → charOf a i ∈ alphabetChars a := by
  intro i hi
  exact List.mem_map.mpr ⟨i, List.mem_range.mpr hi, rfl⟩

theorem b64_chars (a : Alphabet) (x : List Nat) (hx : ∀ b ∈ x, b < 256) :
    ∀ c ∈ b64 a x, c ∈ alphabetChars a := by
  fun_induction b64 a x with
  | case1 x y z rest ih =>
    obtain ⟨h0, h1, h2, h3, _⟩ := sextets x y z (hx x (by simp)) (hx y (by simp)) (hx z (by simp))
    simp only [List.forall_mem_cons]
    exact ⟨charOf_mem a _ h0, charOf_mem a _ h1, charOf_mem a _ h2, charOf_mem a _ h3,
      ih fun b hb => hx b (by simp [hb])⟩
  | case2 x y =>
    obtain ⟨h0, h1, h2, _⟩ := sextets x y 0 (hx x (by simp)) (hx y (by simp)) (by omega)
    simp only [List.forall_mem_cons]
    exact ⟨charOf_mem a _ h0, charOf_mem a _ h1, charOf_mem a _ h2, nofun⟩
  | case3 x =>
    obtain ⟨h0, h1, _⟩ := sextets x 0 0 (hx x (by simp)) (by omega) (by omega)
    simp only [List.forall_mem_cons]
    exact ⟨charOf_mem a _ h0, charOf_mem a _ h1, nofun⟩
  | case4 => nofun

/-- The spec's event-ID format generation as the model's `EventIdFormat`. -/
def specFormat (v : Nat) : EventIdFormat :=
  if Spec.Hash.eventIdFormat v = 1 then .v1 else if Spec.Hash.eventIdFormat v = 2 then .v2 else .v3

/-- The spec's reference-hash alphabet for a room version. -/
def specAlphabet (v : Nat) : Alphabet := if Spec.Hash.urlSafeFrom v then .urlSafe else .standard

/-- The part of `reference_hash` after redaction and field removal. -/
def refTail (sha256 : List Nat → List Nat) (fmt : EventIdFormat) :
    Except Redact.Err Obj → Except Err (List Nat)
  | .error e => .error (.redact e)
  | .ok w =>
    if (encodeObj w).length > maxPduBytes then .error .pduSize
    else .ok (b64 (alphabetOf fmt) (sha256 (encodeObj w)))

theorem referenceHash_eq_refTail (sha256 : List Nat → List Nat) (r : Rules) (fmt : EventIdFormat)
    (o : Obj) :
    referenceHash sha256 r fmt o
      = refTail sha256 fmt ((redact r o none).map
          (fun res => Spec.Hash.without res [bs "signatures", bs "unsigned"])) := by
  unfold referenceHash
  cases redact r o none with
  | error e => rfl
  | ok res => simp only [Except.map, refTail, canonicalWithout, removeFields_reference]

theorem referenceHash_strip (sha256 : List Nat → List Nat) (r : Rules) (fmt : EventIdFormat)
    (o : Obj) :
    referenceHash sha256 r fmt o
      = refTail sha256 fmt
          (redact r (Spec.Hash.without o [bs "signatures", bs "unsigned"]) none) := by
  rw [referenceHash_eq_refTail]
  have := redact_filter r o (fun k => ![bs "signatures", bs "unsigned"].contains k)
    (by decide +kernel) (by decide +kernel)
  simp only [Spec.Hash.without] at this ⊢
  rw [this]

theorem get_without (o : Obj) (ks : List Str) (k : Str) :
    Obj.get (Spec.Hash.without o ks) k = if ks.contains k then none else Obj.get o k := by
  rw [Spec.Hash.without, get_filter (p := fun k => !ks.contains k)]
  cases ks.contains k <;> rfl

theorem without_without (o : Obj) {ks ks' : List Str} (h : ∀ k ∈ ks, k ∈ ks') :
    Spec.Hash.without (Spec.Hash.without o ks) ks' = Spec.Hash.without o ks' := by
  simp only [Spec.Hash.without, List.filter_filter]
  apply List.filter_congr
  intro p _
  cases hc : ks.contains p.1
  · simp
  · simpa using h _ (List.contains_iff_mem.mp hc)

theorem encode_without_ne (a b : Obj) (ks : List Str) (k : Str) (hk : k ∉ ks)
    (hne : Obj.get a k ≠ Obj.get b k)
    (hinj : encodeObj (Spec.Hash.without a ks) = encodeObj (Spec.Hash.without b ks) →
      Spec.Hash.without a ks = Spec.Hash.without b ks) :
    encodeObj (Spec.Hash.without a ks) ≠ encodeObj (Spec.Hash.without b ks) := by
  intro heq
  have := congrArg (Obj.get · k) (hinj heq)
  simp only [get_without, List.contains_iff_mem, hk, if_false] at this
  exact hne this

theorem referencePreimage_eq (v : Nat) (e res : Obj) (ty : Str) (hs : Obj.Sorted e)
    (hred : redact (rulesOf v) e none = .ok res) (hty : Obj.get e (bs "type") = some (.str ty)) :
    Spec.Hash.referencePreimage v ty e
      = encodeObj (Spec.Hash.without res [bs "signatures", bs "unsigned"]) := by
  obtain ⟨t, ht, rfl⟩ := redact_eq_spec v e res hs hred
  cases hty.symm.trans ht
  rfl

theorem get_redactedContent (v : Nat) (ty k : Str) (c : Obj)
    (hk : contentKept v ty k = true) (hn : ¬ (ty = bs "m.room.member" ∧ k = bs "third_party_invite")) :
    Obj.get (redactedContent v ty c) k = Obj.get c k := by
  induction c with
  | nil => rfl
  | cons e t ih =>
    obtain ⟨a, b⟩ := e
    simp only [redactedContent, List.filterMap_cons] at ih ⊢
    by_cases hak : a = k
    · subst hak
      simp [contentEntry, hk, hn, Obj.get]
    · cases hce : contentEntry v ty a b with
      | none => simp only [Option.map_none, Obj.get, hak, if_false]; exact ih
      | some v' => simp only [Option.map_some, Obj.get, hak, if_false]; exact ih

theorem content_not_stripped : bs "content" ∉ [bs "signatures", bs "unsigned"] := by
  simp [bs_inj]

end Ruma.Hash
