/-
  C05 helper lemmas: the objects whose canonical JSON is hashed (`without …`, the spec's redacted
  event) are canonical values whenever the event is one, so that C01's injectivity of `encode`
  applies to them and `EncInj` need not be assumed.
-/
import RumaModel.Lemmas.Hash
import RumaModel.Props.C01
namespace Ruma.Hash
open Ruma Ruma.Redact Ruma.Canonical Ruma.Spec.Redaction Ruma.Spec.CanonicalJson
open Ruma.Spec.Hash (without redacted)

theorem isCanonical_obj_filter (o : Obj) (p : Str × JVal → Bool) (h : IsCanonical (.obj o)) :
    IsCanonical (.obj (o.filter p)) := by
  obtain ⟨hs, hv⟩ := h
  refine ⟨List.Pairwise.sublist (List.filter_sublist.map _) hs, ?_⟩
  rw [isCanonicalO_iff] at hv ⊢
  exact fun e he => hv e (List.mem_filter.mp he).1

theorem isCanonical_without (o : Obj) (ks : List Str) (h : IsCanonical (.obj o)) :
    IsCanonical (.obj (without o ks)) :=
  isCanonical_obj_filter o _ h

theorem keys_filterMap_sublist (c : Obj) (g : Str → JVal → Option JVal) :
    (Obj.keys (c.filterMap (fun e => (g e.1 e.2).map (fun v' => (e.1, v'))))).Sublist (Obj.keys c) := by
  induction c with
  | nil => exact List.Sublist.slnil
  | cons e t ih =>
    simp only [List.filterMap_cons]
    cases hg : g e.1 e.2 with
    | none => simp only [Option.map_none]; exact List.Sublist.cons _ ih
    | some v' => simp only [Option.map_some]; exact List.Sublist.cons_cons _ ih

theorem contentEntry_isCanonical {v : Nat} {ty k : Str} {x x' : JVal} (hx : IsCanonical x)
    (h : contentEntry v ty k x = some x') : IsCanonical x' := by
  unfold contentEntry at h
  split at h
  · cases h
  split at h
  · cases x with
    | obj t =>
      dsimp only at h
      split at h
      · cases h
      · cases h
        exact isCanonical_obj_filter t _ hx
    | _ => cases h
  · cases h
    exact hx

theorem redactedContent_isCanonical (v : Nat) (ty : Str) (c : Obj) (h : IsCanonical (.obj c)) :
    IsCanonical (.obj (redactedContent v ty c)) := by
  obtain ⟨hs, hv⟩ := h
  refine ⟨List.Pairwise.sublist (keys_filterMap_sublist c (contentEntry v ty)) hs, ?_⟩
  rw [isCanonicalO_iff] at hv ⊢
  intro e' he'
  obtain ⟨e, he, hf⟩ := List.mem_filterMap.mp he'
  obtain ⟨x', hx', rfl⟩ := Option.map_eq_some_iff.mp hf
  exact contentEntry_isCanonical (hv e he) hx'

theorem redacted_isCanonical (v : Nat) (ty : Str) (e : Obj) (h : IsCanonical (.obj e)) :
    IsCanonical (.obj (redacted v ty e)) := by
  have hf := isCanonical_obj_filter e (fun p => topKept v p.1) h
  obtain ⟨hs, hv⟩ := hf
  unfold redacted
  refine ⟨?_, ?_⟩
  · unfold Obj.Sorted at hs ⊢
    rw [keys_map_of_fst]
    · exact hs
    · rintro ⟨k, x⟩
      simp only
      split
      · cases x <;> rfl
      · rfl
  · rw [isCanonicalO_iff] at hv ⊢
    intro e' he'
    obtain ⟨⟨k, x⟩, hp, rfl⟩ := List.mem_map.mp he'
    have hpv : IsCanonical x := hv _ hp
    simp only
    split
    · cases x with
      | obj c => exact redactedContent_isCanonical v ty c hpv
      | _ => exact hpv
    · exact hpv

theorem isCanonical_of_get (o : Obj) (k : Str) (x : JVal) (h : IsCanonical (.obj o))
    (hg : Obj.get o k = some x) : IsCanonical x :=
  (isCanonicalO_iff o).mp h.2 _ ((get_eq_some_iff o (sorted_keys_nodup h.1) k x).mp hg)

theorem get_filterMap_entry (c : Obj) (g : Str → JVal → Option JVal) (k : Str) (hs : Obj.Sorted c) :
    Obj.get (c.filterMap (fun e => (g e.1 e.2).map (fun v' => (e.1, v')))) k = (Obj.get c k).bind (g k) := by
  induction c with
  | nil => rfl
  | cons e t ih =>
    obtain ⟨a, b⟩ := e
    have iht := ih (sorted_tail hs)
    simp only [List.filterMap_cons]
    by_cases hak : a = k
    · subst hak
      have htn : Obj.get t a = none := Obj.get_none_of_lt t a (sorted_head_lt hs)
      simp only [Obj.get, if_true, Option.bind_some]
      cases hg : g a b with
      | none =>
        simp only [Option.map_none]
        rw [iht, htn]; rfl
      | some v' => simp only [Option.map_some, Obj.get, if_true]
    · cases hg : g a b with
      | none => simp only [Option.map_none, Obj.get, hak, if_false]; exact iht
      | some v' => simp only [Option.map_some, Obj.get, hak, if_false]; exact iht

theorem get_redactedContent_sorted (v : Nat) (ty k : Str) (c : Obj) (hs : Obj.Sorted c) :
    Obj.get (redactedContent v ty c) k = (Obj.get c k).bind (contentEntry v ty k) :=
  get_filterMap_entry c (contentEntry v ty) k hs

end Ruma.Hash
