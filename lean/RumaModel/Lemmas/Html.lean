/-
  Facts about single elements for the HTML sanitizer model (C14, C15): predicates on trees,
  lookups, attribute sets, `apply_replacements` on the attributes, `node_action` in closed form
  (`nodeAction_eq`) and what `NodeAction::None` means, `split_whitespace`/`join`, the closure of
  `clean_element_attributes` in closed form (`attrAction_eq`), its two loops, and what the
  attributes they leave satisfy (`cleanAttrs_good`, `attrGood_iff`). Core Lean only.
-/
import RumaModel.Lemmas.HtmlPolicy
namespace Ruma.Lemmas.Html
open Ruma Ruma.Html Ruma.Spec.HtmlPolicy

theorem allElemsL_append (p : Nat → Str → List Attr → Prop) (d : Nat) (l₁ l₂ : List Node) :
    AllElemsL p d (l₁ ++ l₂) ↔ AllElemsL p d l₁ ∧ AllElemsL p d l₂ := by
  induction l₁ with
  | nil => simp [AllElemsL]
  | cons n t ih => simp [AllElemsL, ih, and_assoc]

mutual
theorem allElems_imp (p q : Nat → Str → List Attr → Prop) (h : ∀ d n as, p d n as → q d n as) :
    ∀ (node : Node) (d : Nat), AllElems p d node → AllElems q d node
  | .text _, _, _ => by simp [AllElems]
  | .other, _, _ => by simp [AllElems]
  | .elem n as cs, d, hp => by
    simp only [AllElems] at hp ⊢
    exact ⟨h d n as hp.1, allElemsL_imp p q h cs (d + 1) hp.2⟩
theorem allElemsL_imp (p q : Nat → Str → List Attr → Prop) (h : ∀ d n as, p d n as → q d n as) :
    ∀ (l : List Node) (d : Nat), AllElemsL p d l → AllElemsL q d l
  | [], _, _ => by simp [AllElemsL]
  | n :: t, d, hp => by
    simp only [AllElemsL] at hp ⊢
    exact ⟨allElems_imp p q h n d hp.1, allElemsL_imp p q h t d hp.2⟩
end

theorem allElems_congr (p q : Nat → Str → List Attr → Prop) (h : ∀ d n as, p d n as ↔ q d n as) :
    ∀ (node : Node) (d : Nat), AllElems p d node ↔ AllElems q d node :=
  fun node d => ⟨allElems_imp p q (fun d n as => (h d n as).1) node d,
    allElems_imp q p (fun d n as => (h d n as).2) node d⟩

theorem allElemsL_congr (p q : Nat → Str → List Attr → Prop) (h : ∀ d n as, p d n as ↔ q d n as) :
    ∀ (l : List Node) (d : Nat), AllElemsL p d l ↔ AllElemsL q d l :=
  fun l d => ⟨allElemsL_imp p q (fun d n as => (h d n as).1) l d,
    allElemsL_imp q p (fun d n as => (h d n as).2) l d⟩

mutual
theorem allElems_and (p q : Nat → Str → List Attr → Prop) :
    ∀ (node : Node) (d : Nat), AllElems (fun d n as => p d n as ∧ q d n as) d node ↔
      AllElems p d node ∧ AllElems q d node
  | .text _, _ => by simp [AllElems]
  | .other, _ => by simp [AllElems]
  | .elem n as cs, d => by
    simp only [AllElems, allElemsL_and p q cs (d + 1)]
    exact and_and_and_comm
theorem allElemsL_and (p q : Nat → Str → List Attr → Prop) :
    ∀ (l : List Node) (d : Nat), AllElemsL (fun d n as => p d n as ∧ q d n as) d l ↔
      AllElemsL p d l ∧ AllElemsL q d l
  | [], _ => by simp [AllElemsL]
  | n :: t, d => by
    simp only [AllElemsL, allElems_and p q n d, allElemsL_and p q t d]
    exact and_and_and_comm
end

theorem noOtherL_append (l₁ l₂ : List Node) :
    NoOtherL (l₁ ++ l₂) ↔ NoOtherL l₁ ∧ NoOtherL l₂ := by
  induction l₁ with
  | nil => simp [NoOtherL]
  | cons n t ih => simp [NoOtherL, ih, and_assoc]

theorem textOfL_append (l₁ l₂ : List Node) : textOfL (l₁ ++ l₂) = textOfL l₁ ++ textOfL l₂ := by
  induction l₁ with
  | nil => simp [textOfL]
  | cons n t ih => simp [textOfL, ih]

theorem depthOfL_append (l₁ l₂ : List Node) : depthOfL (l₁ ++ l₂) = max (depthOfL l₁) (depthOfL l₂) := by
  induction l₁ with
  | nil => simp [depthOfL]
  | cons n t ih => simp [depthOfL, ih, Nat.max_assoc]

theorem mapGet_none_of_not_mem {α : Type} (m : List (Str × α)) (k : Str)
    (h : k ∉ m.map (·.1)) : mapGet m k = none := by
  induction m with
  | nil => rfl
  | cons p t ih =>
    obtain ⟨k', v⟩ := p
    simp only [List.map_cons, List.mem_cons, not_or] at h
    simp [mapGet, ih h.2, Ne.symm h.1]

theorem bind_mapGet_none {α β : Type} (o : Option β) (f : β → List (Str × α)) (k : Str)
    (h : ∀ l, o = some l → k ∉ (f l).map (·.1)) : o.bind (fun l => mapGet (f l) k) = none := by
  cases o with
  | none => rfl
  | some l => exact mapGet_none_of_not_mem _ _ (h l rfl)

theorem mapGet_mem {α : Type} (m : List (Str × α)) (k : Str) (v : α) (h : mapGet m k = some v) :
    (k, v) ∈ m := by
  induction m with
  | nil => cases h
  | cons p t ih =>
    obtain ⟨k', w⟩ := p
    unfold mapGet at h
    cases ht : mapGet t k with
    | some u => rw [ht] at h; cases h; exact List.mem_cons_of_mem _ (ih ht)
    | none =>
      simp only [ht] at h
      by_cases hk : k' = k
      · simp only [hk, if_true, Option.some.injEq] at h; simp [hk, h]
      · simp [hk] at h

theorem cell_className (t : SchemeMap) (n : Str)
    (h : t.all (fun r => r.2.all (fun p => p.1 != className)) = true) : cell t n className = none := by
  unfold cell
  cases hr : mapGet t n with
  | none => rfl
  | some row =>
    have := List.all_eq_true.1 (List.all_eq_true.1 h _ (mapGet_mem t n row hr))
    exact mapGet_none_of_not_mem _ _ fun hm => by
      obtain ⟨p, hp, e⟩ := List.mem_map.1 hm
      simpa [e] using this p hp

theorem plain_valueOk_className (L : Lists) (mo : Option Mode) (rrf : Bool) (n v : Str)
    (hs : L.schemesStrict.all (fun r => r.2.all (fun p => p.1 != className)) = true)
    (hk : L.schemesCompat.all (fun r => r.2.all (fun p => p.1 != className)) = true) :
    valueOk L (plain mo rrf) n className v = true := by
  simp [valueOk, denied, schemeList, plain, cell_className _ n hs, cell_className _ n hk]

theorem mem_setInsert (a b : Attr) (s : List Attr) : b ∈ setInsert a s ↔ b = a ∨ b ∈ s := by
  induction s with
  | nil => simp [setInsert]
  | cons x t ih =>
    unfold setInsert
    split
    · next h => subst h; simp
    · split <;> simp [ih, or_left_comm]

theorem mem_setErase (a b : Attr) (s : List Attr) : b ∈ setErase a s ↔ b ∈ s ∧ b ≠ a := by
  simp [setErase]

theorem mem_setCollect_aux (l acc : List Attr) (b : Attr) :
    b ∈ l.foldl (fun acc a => setInsert a acc) acc ↔ b ∈ l ∨ b ∈ acc := by
  induction l generalizing acc with
  | nil => simp
  | cons x t ih =>
    simp [ih, mem_setInsert, or_assoc, or_left_comm]

theorem mem_setCollect (l : List Attr) (b : Attr) : b ∈ setCollect l ↔ b ∈ l := by
  simp [setCollect, mem_setCollect_aux]

/-- The element has a table of attribute replacements (configuration list or mode list): the
condition under which `apply_replacements` rebuilds the attribute set. -/
def hasAttrRepl (L : Lists) (c : Cfg) (n : Str) : Bool :=
  (c.replaceAttrs.bind (fun l => mapGet l.content n)).isSome ||
  (if !isOverride c.replaceAttrs && c.useStrict then mapGet L.deprecatedAttrs n else none).isSome

theorem replaceAttrsOf_eq (L : Lists) (c : Cfg) (n : Str) (as : List Attr) :
    replaceAttrsOf L c n as =
      if hasAttrRepl L c n then
        setCollect (as.map fun a => { a with name := renamedAttr L c n a.name })
      else as := by
  simp only [replaceAttrsOf, hasAttrRepl, ← renamedAttr_eq_model]

theorem renamedAttr_of_not_hasAttrRepl (L : Lists) (c : Cfg) (n a : Str)
    (h : hasAttrRepl L c n = false) : renamedAttr L c n a = a := by
  simp only [hasAttrRepl, Bool.or_eq_false_iff, Option.isSome_eq_false_iff,
    Option.isNone_iff_eq_none] at h
  have := renamedAttr_eq_model L c n ⟨none, [], a, []⟩
  rw [h.1, h.2] at this
  exact (congrArg Attr.name this).symm

/-- `apply_replacements` changes names only; collecting into a set changes neither names nor
values. -/
theorem replaceAttrsOf_all (L : Lists) (c : Cfg) (n : Str) (as : List Attr) (p : Str → Str → Bool) :
    (replaceAttrsOf L c n as).all (fun a => p a.name a.value) =
      as.all (fun a => p (renamedAttr L c n a.name) a.value) := by
  rw [replaceAttrsOf_eq]
  split
  · rw [Bool.eq_iff_iff, List.all_eq_true, List.all_eq_true]
    simp [mem_setCollect]
  · rename_i h
    simp [renamedAttr_of_not_hasAttrRepl L c n _ (Bool.not_eq_true _ ▸ h)]

theorem denyCheck_eq (c : Cfg) (n : Str) (as : List Attr) :
    denyCheck c n as = as.any (fun a => denied c n a.name a.value) := by
  unfold denyCheck
  simp only [denied_eq_model]
  cases c.denySchemes.bind (mapGet · n) with
  | none => simp [schemesHit]
  | some deny => induction as <;> simp_all [denyLoop]

theorem schemeCheck_eq (L : Lists) (c : Cfg) (n : Str) (as : List Attr) :
    schemeCheck L c n as =
      if as.all (fun a => schemesPass (schemeList L c n a.name) a.value) then .none else .ignore := by
  have loop : ∀ x : SchemeCtx,
      allowLoop x as = !as.all (fun a => schemesPass (attrSchemes x a.name) a.value) := by
    intro x; induction as <;> simp_all [allowLoop]
  unfold schemeCheck
  by_cases h : (schemeCtx L c n).empty = true
  · simp [schemeList_eq_attrSchemes, attrSchemes_empty _ h, schemesPass, h]
  · have h' : ¬ (c.allowSchemes.isNone && !c.useStrict) = true :=
      fun h' => h (schemeCtx_empty L c n h')
    simp only [schemeList_eq_attrSchemes, if_neg h, if_neg h', loop]
    cases as.all (fun a => schemesPass (attrSchemes (schemeCtx L c n) a.name) a.value) <;> rfl

theorem removeCheck_eq (L : Lists) (c : Cfg) (n : Str) (d : Nat) :
    removeCheck L c n d = (elemRemoved c n || depthExceeded L c d) := rfl

theorem all_and {α : Type} (p q : α → Bool) (l : List α) :
    l.all (fun a => p a && q a) = (l.all p && l.all q) := by
  induction l with
  | nil => rfl
  | cons a t ih => simp only [List.all_cons, ih, Bool.and_assoc, Bool.and_left_comm]

theorem nodeAction_eq (L : Lists) (c : Cfg) (n : Str) (as : List Attr) (d : Nat) :
    nodeAction L c n as d =
      if removeCheck L c n d then .remove
      else if elemOk L c n && as.all (fun a => valueOk L c n a.name a.value) then .none
      else .ignore := by
  have hv : as.all (fun a => valueOk L c n a.name a.value) =
      (!as.any (fun a => denied c n a.name a.value) &&
        as.all (fun a => schemesPass (schemeList L c n a.name) a.value)) := by
    simp only [valueOk_eq_model, all_and, List.not_any_eq_all_not]
  unfold nodeAction
  rw [denyCheck_eq, schemeCheck_eq, hv, show allowCheck L c n = elemListed L c n from rfl]
  by_cases hr : removeCheck L c n d = true
  · rw [if_pos hr, if_pos hr]
  · -- outside the removal checks the name is not a removed one: what is left of `elemOk` is the
    -- two tests `node_action` makes next
    have he : elemRemoved c n = false := by
      rw [removeCheck_eq, Bool.or_eq_true, not_or] at hr
      exact Bool.not_eq_true _ ▸ hr.1
    rw [if_neg hr, if_neg hr, elemOk, he]
    cases optContains c.ignoreElements n <;> cases elemListed L c n <;>
      cases as.any (fun a => denied c n a.name a.value) <;> rfl

theorem nodeAction_none_iff (L : Lists) (c : Cfg) (n : Str) (as : List Attr) (d : Nat) :
    nodeAction L c n as d = .none ↔
      removeCheck L c n d = false ∧ elemOk L c n = true ∧
      ∀ a ∈ as, valueOk L c n a.name a.value = true := by
  rw [nodeAction_eq, ← List.all_eq_true, ← Bool.and_eq_true]
  cases removeCheck L c n d <;>
    cases elemOk L c n && as.all (fun a => valueOk L c n a.name a.value) <;> simp

theorem elemOk_of_none (L : Lists) (c : Cfg) (n : Str) (as : List Attr) (d : Nat)
    (h : nodeAction L c n as d = .none) : elemOk L c n = true :=
  ((nodeAction_none_iff ..).1 h).2.1

theorem depthExceeded_false_iff (L : Lists) (c : Cfg) (d : Nat) :
    depthExceeded L c d = false ↔ ∀ m, maxDepthValue L c = some m → d < m := by
  unfold depthExceeded
  cases maxDepthValue L c <;> simp

theorem depth_of_none (L : Lists) (c : Cfg) (n : Str) (as : List Attr) (d m : Nat)
    (h : nodeAction L c n as d = .none) (hm : maxDepthValue L c = some m) : d < m :=
  (depthExceeded_false_iff L c d).1 (Bool.or_eq_false_iff.1 ((nodeAction_none_iff ..).1 h).1).2 m hm

def NoWs (w : Str) : Prop := ∀ c ∈ w, isWs c = false
/-- What `split_whitespace` yields: non-empty, no whitespace. -/
def Word (w : Str) : Prop := w ≠ [] ∧ NoWs w

/-- The step both `splitAux` and `splitWs` make. -/
theorem words_push (r : Str × List Str) (h : NoWs r.1 ∧ ∀ w ∈ r.2, Word w) :
    ∀ w ∈ (if r.1.isEmpty then r.2 else r.1 :: r.2), Word w := by
  split
  · exact h.2
  · rename_i he
    simp only [List.mem_cons, forall_eq_or_imp]
    exact ⟨⟨by simpa using he, h.1⟩, h.2⟩

theorem splitAux_words (s : Str) : NoWs (splitAux s).1 ∧ ∀ w ∈ (splitAux s).2, Word w := by
  induction s with
  | nil => simp [splitAux, NoWs]
  | cons c t ih =>
    unfold splitAux
    split
    · exact ⟨by simp [NoWs], words_push _ ih⟩
    · rename_i hc
      exact ⟨by simpa [NoWs, hc] using ih.1, ih.2⟩

theorem splitWs_words (s : Str) : ∀ w ∈ splitWs s, Word w :=
  words_push _ (splitAux_words s)

theorem splitAux_append (w rest : Str) (h : NoWs w) :
    splitAux (w ++ rest) = (w ++ (splitAux rest).1, (splitAux rest).2) := by
  induction w with
  | nil => rfl
  | cons c t ih =>
    have hc : isWs c = false := h c (by simp)
    simp [splitAux, hc, ih fun x hx => h x (by simp [hx])]

theorem splitWs_joinSp (ws : List Str) (h : ∀ w ∈ ws, Word w) : splitWs (joinSp ws) = ws := by
  induction ws with
  | nil => rfl
  | cons w t ih =>
    obtain ⟨⟨hne, hw⟩, ht⟩ := List.forall_mem_cons.1 h
    cases t with
    | nil =>
      have e : splitAux w = (w, []) := by simpa [splitAux] using splitAux_append w [] hw
      simp [joinSp, splitWs, e, hne]
    | cons w2 t2 =>
      have hsp : splitAux (32 :: joinSp (w2 :: t2)) = ([], splitWs (joinSp (w2 :: t2))) := rfl
      rw [joinSp, splitWs, splitAux_append w _ hw, hsp, ih ht]
      · simp [hne]
      · exact List.cons_ne_nil _ _

/-- A class survives both `retain`s. -/
def classPass (x : AttrCtx) (cl : Str) : Bool :=
  !removedClass x.removeClasses cl && (!x.whitelistClasses || anyGlob x.allowClasses cl)

theorem filterClasses_eq (x : AttrCtx) (classes : List Str) :
    filterClasses x.removeClasses x.whitelistClasses x.allowClasses classes =
      classes.filter (classPass x) := by
  unfold filterClasses classPass
  cases x.whitelistClasses
  · simp
  · simp [List.filter_filter, Bool.and_comm]

/-- The two tests of the closure on the attribute's name: `true` = the attribute is removed,
because its name is on the remove list or, under an allow list, because it is in a namespace or
on no allow list. -/
def nameBad (x : AttrCtx) (a : Attr) : Bool :=
  optContains x.removeAttrs a.name || (x.whitelistAttrs &&
    (!a.isHtml || (!optContains x.listAllow a.name && !optContains x.modeAllow a.name)))

/-- The attribute needs no action. -/
def AttrGood (x : AttrCtx) (a : Attr) : Prop :=
  nameBad x a = false ∧ (a.name = className → ∀ cl ∈ splitWs a.value, classPass x cl = true)

def _root_.Ruma.Html.AttrAction.target : AttrAction → Attr
  | .replaceValue a _ => a
  | .remove a => a

/-- The body of the closure, with its tests named. -/
theorem attrAction_eq (x : AttrCtx) (a : Attr) : attrAction x a =
    if nameBad x a then some (.remove a)
    else if a.name = className then
      let kept := (splitWs a.value).filter (classPass x)
      if kept.length = (splitWs a.value).length then none
      else if kept = [] then some (.remove a) else some (.replaceValue a (joinSp kept))
    else none := by
  unfold attrAction nameBad
  simp only [filterClasses_eq, beq_iff_eq, List.isEmpty_iff]
  cases optContains x.removeAttrs a.name <;>
    cases x.whitelistAttrs && (!a.isHtml || (!optContains x.listAllow a.name &&
      !optContains x.modeAllow a.name)) <;> rfl

theorem attrAction_none_iff (x : AttrCtx) (a : Attr) : attrAction x a = none ↔ AttrGood x a := by
  rw [attrAction_eq, AttrGood, ← List.length_filter_eq_length_iff]
  cases nameBad x a
  · by_cases hc : a.name = className
    · -- of the three outcomes for a `class` attribute only "every class kept" is `none`
      simp only [hc, Bool.false_eq_true, if_false, if_true, forall_const, true_and]
      split <;> simp [*]
      split <;> simp
    · simp [hc]
  · simp

theorem attrAction_some (x : AttrCtx) (a : Attr) (act : AttrAction) (h : attrAction x a = some act) :
    act.target = a ∧
    ∀ b v, act = .replaceValue b v → a.name = className ∧ AttrGood x { a with value := v } := by
  rw [attrAction_eq] at h
  by_cases hn : nameBad x a = true
  · rw [if_pos hn] at h; cases h; exact ⟨rfl, nofun⟩
  · rw [if_neg hn] at h
    by_cases hc : a.name = className
    · rw [if_pos hc] at h
      dsimp only at h
      -- the kept classes are words, so splitting the joined value gives them back
      have hw : ∀ w ∈ (splitWs a.value).filter (classPass x), Word w :=
        fun w hw => splitWs_words _ w (List.mem_filter.1 hw).1
      have good : AttrGood x { a with value := joinSp ((splitWs a.value).filter (classPass x)) } :=
        ⟨Bool.not_eq_true _ ▸ hn, fun _ cl hcl => by
          rw [splitWs_joinSp _ hw] at hcl; exact (List.mem_filter.1 hcl).2⟩
      split at h
      · cases h
      · split at h
        · cases h; exact ⟨rfl, nofun⟩
        · cases h; exact ⟨rfl, fun b v e => by cases e; exact ⟨hc, good⟩⟩
    · rw [if_neg hc] at h; cases h

theorem mem_applyActions (acts : List AttrAction) (s : List Attr) :
    ∀ a ∈ applyActions acts s,
      (a ∈ s ∧ ∀ act ∈ acts, a ≠ act.target) ∨
      ∃ b v, AttrAction.replaceValue b v ∈ acts ∧ a = { b with value := v } := by
  induction acts generalizing s with
  | nil => exact fun a ha => .inl ⟨ha, nofun⟩
  | cons act t ih =>
    intro a ha
    have later : _ → ∃ b v, AttrAction.replaceValue b v ∈ act :: t ∧ a = { b with value := v } :=
      Exists.imp fun _ => Exists.imp fun _ => And.imp_left (List.mem_cons_of_mem _)
    cases act with
    | remove b =>
      refine (ih _ a ha).imp (fun ⟨h1, h2⟩ => ?_) later
      rw [mem_setErase] at h1
      exact ⟨h1.1, List.forall_mem_cons.2 ⟨h1.2, h2⟩⟩
    | replaceValue b v =>
      simp only [applyActions] at ha
      split at ha
      · rcases ih _ a ha with ⟨h1, h2⟩ | h
        · rw [mem_setInsert, mem_setErase] at h1
          rcases h1 with rfl | h1
          · exact .inr ⟨b, v, List.mem_cons_self, rfl⟩
          · exact .inl ⟨h1.1, List.forall_mem_cons.2 ⟨h1.2, h2⟩⟩
        · exact .inr (later h)
      · rename_i hb
        refine (ih _ a ha).imp (fun ⟨h1, h2⟩ => ⟨h1, List.forall_mem_cons.2 ⟨fun e => hb ?_, h2⟩⟩) later
        simpa [e, AttrAction.target] using h1

theorem mem_cleanAttrs (L : Lists) (c : Cfg) (n : Str) (as : List Attr) (a : Attr)
    (ha : a ∈ cleanAttrs L c n as) :
    (a ∈ as ∧ attrAction (attrCtx L c n) a = none) ∨
    ∃ b v, attrAction (attrCtx L c n) b = some (.replaceValue b v) ∧ a = { b with value := v } := by
  rcases mem_applyActions _ _ a ha with ⟨h1, h2⟩ | ⟨b, v, hb, e⟩
  · cases h : attrAction (attrCtx L c n) a with
    | none => exact .inl ⟨h1, rfl⟩
    | some act =>
      exact absurd (attrAction_some _ _ _ h).1.symm (h2 act (List.mem_filterMap.2 ⟨a, h1, h⟩))
  · obtain ⟨b', _, h⟩ := List.mem_filterMap.1 hb
    cases (attrAction_some _ _ _ h).1
    exact .inr ⟨b, v, h, e⟩

theorem cleanAttrs_good (L : Lists) (c : Cfg) (n : Str) (as : List Attr) :
    ∀ a ∈ cleanAttrs L c n as, AttrGood (attrCtx L c n) a := by
  intro a ha
  rcases mem_cleanAttrs L c n as a ha with ⟨_, h⟩ | ⟨b, v, h, rfl⟩
  · exact (attrAction_none_iff ..).1 h
  · exact ((attrAction_some _ _ _ h).2 b v rfl).2

theorem cleanAttrs_origin (L : Lists) (c : Cfg) (n : Str) (as : List Attr) (a : Attr)
    (ha : a ∈ cleanAttrs L c n as) (hc : a.name ≠ className) : a ∈ as := by
  rcases mem_cleanAttrs L c n as a ha with ⟨h, _⟩ | ⟨b, v, h, rfl⟩
  · exact h
  · exact absurd ((attrAction_some _ _ _ h).2 b v rfl).1 hc

theorem cleanAttrs_fix (L : Lists) (c : Cfg) (n : Str) (as : List Attr)
    (h : ∀ a ∈ as, AttrGood (attrCtx L c n) a) : cleanAttrs L c n as = as := by
  have : as.filterMap (attrAction (attrCtx L c n)) = [] :=
    List.filterMap_eq_nil_iff.2 fun a ha => (attrAction_none_iff ..).2 (h a ha)
  rw [cleanAttrs, this]; rfl

theorem attrGood_iff (L : Lists) (c : Cfg) (n : Str) (a : Attr) :
    AttrGood (attrCtx L c n) a ↔
      attrOkA L c n a ∧
      (a.name = className → ∀ cl ∈ splitWs a.value, classOk L c n cl = true) := by
  have hcl : ∀ cl, classPass (attrCtx L c n) cl = classOk L c n cl :=
    fun cl => (classOk_eq_model L c n cl).symm
  -- the name test and `attrOkA` are Boolean combinations of the same five tests
  have key : ∀ r w h l m : Bool, (r || (w && (!h || (!l && !m)))) = false ↔
      ((!r && (!w || l || m)) = true ∧ (w = true → h = true)) := by decide
  have hn : nameBad (attrCtx L c n) a = false ↔ attrOkA L c n a :=
    (key _ _ a.isHtml _ _).trans
      (and_congr_right fun _ => imp_congr_right fun _ => List.isEmpty_iff)
  simp only [AttrGood, hcl, hn]

end Ruma.Lemmas.Html
