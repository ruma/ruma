/-
  Lemmas for C14 about the public builder of `SanitizerConfig` (every configuration value is
  reachable) and about the in-order list of kept elements. Core Lean only.
-/
import RumaModel.Lemmas.HtmlTree
namespace Ruma.Lemmas.Html
open Ruma Ruma.Html Ruma.Spec.HtmlPolicy Ruma.Spec.HtmlGlob

theorem build_snoc (m : Option Mode) (calls : List BuilderCall) (call : BuilderCall) :
    build m (calls ++ [call]) = call.apply (build m calls) := by
  simp [build, List.foldl_append]

theorem reach_step {m : Option Mode} {c : Cfg} (call : BuilderCall)
    (h : ∃ calls, build m calls = c) : ∃ calls, build m calls = call.apply c := by
  obtain ⟨cs, rfl⟩ := h
  exact ⟨cs ++ [call], build_snoc m cs call⟩

/-- One more field: if it is unset there is nothing to do, if it is set its builder call sets it. -/
theorem reach_field {α : Type} {m : Option Mode} {c : Cfg} (h : ∃ calls, build m calls = c)
    (set : Cfg → Option α → Cfg) (o : Option α) (call : α → BuilderCall)
    (h0 : set c none = c) (h1 : ∀ x, set c (some x) = (call x).apply c) :
    ∃ calls, build m calls = set c o := by
  cases o with
  | none => rw [h0]; exact h
  | some x => rw [h1]; exact reach_step _ h

/-- Every configuration value is produced by the public builder: start from its mode and make one
call per field that is set (each call sets its own field, so the order does not matter). So "for
every `c : Cfg`" in the theorems is "for every configuration reachable through the public
builder" — no more, no less. -/
theorem builder_reaches (c : Cfg) : ∃ calls, build c.mode calls = c := by
  obtain ⟨mode, re, rme, rrf, ign, alw, ra, rma, ala, deny, als, rmc, alc, md⟩ := c
  have r : ∃ calls, build mode calls = { mode := mode, removeReplyFallback := rrf } := by
    cases rrf
    · exact ⟨[], rfl⟩
    · exact ⟨[.removeReplyFallback], rfl⟩
  have r := reach_field r (fun c o => { c with replaceElements := o }) re
    (fun b => .replaceElements b.content b.override) rfl (fun _ => rfl)
  have r := reach_field r (fun c o => { c with removeElements := o }) rme .removeElements rfl (fun _ => rfl)
  have r := reach_field r (fun c o => { c with ignoreElements := o }) ign .ignoreElements rfl (fun _ => rfl)
  have r := reach_field r (fun c o => { c with allowElements := o }) alw
    (fun b => .allowElements b.content b.override) rfl (fun _ => rfl)
  have r := reach_field r (fun c o => { c with replaceAttrs := o }) ra
    (fun b => .replaceAttributes b.content b.override) rfl (fun _ => rfl)
  have r := reach_field r (fun c o => { c with removeAttrs := o }) rma .removeAttributes rfl (fun _ => rfl)
  have r := reach_field r (fun c o => { c with allowAttrs := o }) ala
    (fun b => .allowAttributes b.content b.override) rfl (fun _ => rfl)
  have r := reach_field r (fun c o => { c with denySchemes := o }) deny .denySchemes rfl (fun _ => rfl)
  have r := reach_field r (fun c o => { c with allowSchemes := o }) als
    (fun b => .allowSchemes b.content b.override) rfl (fun _ => rfl)
  have r := reach_field r (fun c o => { c with removeClasses := o }) rmc .removeClasses rfl (fun _ => rfl)
  have r := reach_field r (fun c o => { c with allowClasses := o }) alc
    (fun b => .allowClasses b.content b.override) rfl (fun _ => rfl)
  have r := reach_field r (fun c o => { c with maxDepth := o }) md .maxDepth rfl (fun _ => rfl)
  exact r

theorem elemsOfL_append (l₁ l₂ : List Node) : elemsOfL (l₁ ++ l₂) = elemsOfL l₁ ++ elemsOfL l₂ := by
  induction l₁ with
  | nil => simp [elemsOfL]
  | cons n t ih => simp [elemsOfL, ih]

mutual
theorem cleanNode_elems (L : Lists) (c : Cfg) : ∀ (node : Node) (d : Nat),
    elemsOfL (cleanNode L c d node) = keptElems L c d node
  | .text s, _ => by simp [cleanNode, elemsOfL, elemsOf, keptElems]
  | .other, _ => by simp [cleanNode, elemsOfL, keptElems]
  | .elem n as cs, d => by
    rw [cleanNode_elem, keptElems]
    split
    · rfl
    · split
      · simp only [elemsOfL, elemsOf, List.append_nil, cleanList_elems L c cs (d + 1)]
      · exact cleanList_elems L c cs (d + 1)
theorem cleanList_elems (L : Lists) (c : Cfg) : ∀ (l : List Node) (d : Nat),
    elemsOfL (cleanList L c d l) = keptElemsL L c d l
  | [], _ => by simp [cleanList, elemsOfL, keptElemsL]
  | n :: t, d => by
    simp only [cleanList, elemsOfL_append, keptElemsL]
    rw [cleanNode_elems L c n d, cleanList_elems L c t d]
end

mutual
theorem keptElems_names (L : Lists) (c : Cfg) : ∀ (node : Node) (d : Nat),
    (keptElems L c d node).map (·.1) = keptNames L c d node
  | .text _, _ => by simp [keptElems, keptNames]
  | .other, _ => by simp [keptElems, keptNames]
  | .elem n as cs, d => by
    simp only [keptElems, keptNames]
    split
    · rfl
    · split
      · simp only [List.map_cons]; rw [keptElemsL_names L c cs (d + 1)]
      · exact keptElemsL_names L c cs (d + 1)
theorem keptElemsL_names (L : Lists) (c : Cfg) : ∀ (l : List Node) (d : Nat),
    (keptElemsL L c d l).map (·.1) = keptNamesL L c d l
  | [], _ => by simp [keptElemsL, keptNamesL]
  | n :: t, d => by
    simp only [keptElemsL, keptNamesL, List.map_append]
    rw [keptElems_names L c n d, keptElemsL_names L c t d]
end

/-- The three per-attribute scheme lists chained: absent if all three are. -/
def chain3 (l s k : Option (List Str)) : Option (List Str) :=
  if l.isNone && s.isNone && k.isNone then none else some (l.getD [] ++ s.getD [] ++ k.getD [])

end Ruma.Lemmas.Html
