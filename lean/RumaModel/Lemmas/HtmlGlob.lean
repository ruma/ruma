/-
  C14/C15 — the glob relation on code points (`Spec/HtmlGlob.lean`): its decision procedure, the
  model of `WildMatch::matches` (`Model/Html.lean`, `globMatch`), and the relation `Glob` of
  `Spec/Glob.lean` on `List Char`. Core Lean only.
-/
import RumaModel.Spec.HtmlGlob
import RumaModel.Spec.Glob
import RumaModel.Model.Html
namespace Ruma.Lemmas.HtmlGlob
open Ruma Ruma.Html Ruma.Spec.HtmlGlob

theorem anySuffix_iff (f : Str → Bool) (s : Str) :
    anySuffix f s = true ↔ ∃ u t, s = u ++ t ∧ f t = true := by
  induction s with
  | nil => simp [anySuffix, and_assoc]
  | cons c s ih =>
    simp only [anySuffix, Bool.or_eq_true, ih, List.cons_eq_append_iff]
    constructor
    · rintro (h | ⟨u, t, rfl, hf⟩)
      · exact ⟨[], _, .inl ⟨rfl, rfl⟩, h⟩
      · exact ⟨_, t, .inr ⟨u, rfl, rfl⟩, hf⟩
    · rintro ⟨_, t, ⟨rfl, rfl⟩ | ⟨u, rfl, rfl⟩, hf⟩
      · exact .inl hf
      · exact .inr ⟨u, t, rfl, hf⟩

theorem GlobCp_nil_iff (s : Str) : GlobCp [] s ↔ s = [] :=
  ⟨fun h => by cases h; rfl, fun h => h ▸ .nil⟩

theorem GlobCp_star_iff (p s : Str) : GlobCp (42 :: p) s ↔ ∃ u t, s = u ++ t ∧ GlobCp p t := by
  constructor
  · intro h
    cases h with
    | star _ u t h => exact ⟨u, t, rfl, h⟩
    | lit _ _ _ h => exact absurd rfl h
  · rintro ⟨u, t, rfl, h⟩; exact .star p u t h

theorem GlobCp_lit_iff {a : Nat} (ha : a ≠ 42) (p s : Str) :
    GlobCp (a :: p) s ↔ ∃ c t, s = c :: t ∧ (a = 63 ∨ a = c) ∧ GlobCp p t := by
  constructor
  · intro h
    cases h with
    | star => exact absurd rfl ha
    | one _ c t h => exact ⟨c, t, rfl, .inl rfl, h⟩
    | lit _ _ t _ _ h => exact ⟨a, t, rfl, .inr rfl, h⟩
  · rintro ⟨c, t, rfl, h63 | rfl, h⟩
    · exact h63 ▸ .one p c t h
    · by_cases h63 : a = 63
      · exact h63 ▸ .one p _ t h
      · exact .lit a p t ha h63 h

theorem globCp_iff (p s : Str) : globCp p s = true ↔ GlobCp p s := by
  induction p generalizing s with
  | nil => simp [globCp, GlobCp_nil_iff]
  | cons a p ih =>
    by_cases ha : a = 42
    · subst ha; simp [globCp, anySuffix_iff, GlobCp_star_iff, ih]
    · cases s <;> simp [globCp, ha, ih, GlobCp_lit_iff ha, and_assoc]

theorem globMatch_eq_globCp (p s : Str) : globMatch p s = globCp p s := by
  induction p, s using globMatch.induct with
  | case1 s => simp [globMatch, globCp]
  | case2 a p ih =>
    rw [globMatch, ih]
    by_cases ha : a = 42 <;> simp [globCp, ha, anySuffix]
  | case3 a p c s ha ih1 ih2 =>
    rw [globMatch, if_pos ha, ih1, ih2]
    simp [globCp, ha, anySuffix]
  | case4 a p c s ha ih =>
    rw [globMatch, if_neg ha, ih]
    simp [globCp, ha]

theorem globMatch_iff (p s : Str) : globMatch p s = true ↔ GlobCp p s := by
  rw [globMatch_eq_globCp, globCp_iff]

theorem anyGlob_eq_matchesAny (pats : List Str) (cl : Str) : anyGlob pats cl = matchesAny pats cl := by
  simp [anyGlob, matchesAny, globMatch_eq_globCp]

theorem matchesAny_iff (pats : List Str) (cl : Str) :
    matchesAny pats cl = true ↔ ∃ p ∈ pats, GlobCp p cl := by
  simp [matchesAny, globCp_iff]

/-- A string of Unicode scalar values (what a Rust `str` holds). -/
def Scalars (s : Str) : Prop := ∀ c ∈ s, c.isValidChar

/-- The text of `Spec/Glob.lean` for a code-point string. -/
def toText (s : Str) : Spec.Glob.Text := s.map Char.ofNat

theorem scalars_cons {a : Nat} {s : Str} : Scalars (a :: s) ↔ a.isValidChar ∧ Scalars s :=
  List.forall_mem_cons

theorem scalars_append {u t : Str} : Scalars (u ++ t) ↔ Scalars u ∧ Scalars t :=
  List.forall_mem_append

theorem ofNat_inj {a b : Nat} (ha : a.isValidChar) (hb : b.isValidChar)
    (h : Char.ofNat a = Char.ofNat b) : a = b := by
  have e : ∀ n : Nat, n.isValidChar → (Char.ofNat n).toNat = n := by
    intro n hn; simp [Char.ofNat, hn, Char.ofNatAux, Char.toNat]
  rw [← e a ha, ← e b hb, h]

theorem ofNat_eq_star {a : Nat} (ha : a.isValidChar) : Char.ofNat a = '*' ↔ a = 42 :=
  ⟨ofNat_inj ha (by decide), fun h => h ▸ rfl⟩

theorem ofNat_eq_qm {a : Nat} (ha : a.isValidChar) : Char.ofNat a = '?' ↔ a = 63 :=
  ⟨ofNat_inj ha (by decide), fun h => h ▸ rfl⟩

theorem Glob_cons_inv {a : Char} {p s : Spec.Glob.Text} (h : Spec.Glob.Glob (a :: p) s) :
    (a = '*' ∧ ∃ u t, s = u ++ t ∧ Spec.Glob.Glob p t) ∨
    (a = '?' ∧ ∃ c t, s = c :: t ∧ Spec.Glob.Glob p t) ∨
    (a ≠ '*' ∧ a ≠ '?' ∧ ∃ t, s = a :: t ∧ Spec.Glob.Glob p t) := by
  cases h with
  | star _ u t h => exact .inl ⟨rfl, u, t, rfl, h⟩
  | one _ c t h => exact .inr (.inl ⟨rfl, c, t, rfl, h⟩)
  | lit _ _ t h1 h2 h => exact .inr (.inr ⟨h1, h2, t, rfl, h⟩)

theorem globCp_iff_Glob (p s : Str) (hp : Scalars p) (hs : Scalars s) :
    GlobCp p s ↔ Spec.Glob.Glob (toText p) (toText s) := by
  constructor
  · intro h
    induction h with
    | nil => exact .nil
    | star p u t _ ih =>
      simp only [toText, List.map_cons, List.map_append]
      exact .star _ _ _ (ih (scalars_cons.1 hp).2 (scalars_append.1 hs).2)
    | one p c t _ ih => exact .one _ _ _ (ih (scalars_cons.1 hp).2 (scalars_cons.1 hs).2)
    | lit a p t h1 h2 _ ih =>
      have ha := (scalars_cons.1 hp).1
      exact .lit _ _ _ (mt (ofNat_eq_star ha).1 h1) (mt (ofNat_eq_qm ha).1 h2)
        (ih (scalars_cons.1 hp).2 (scalars_cons.1 hs).2)
  · induction p generalizing s with
    | nil =>
      intro h
      cases s with
      | nil => exact .nil
      | cons c t => cases h
    | cons a p ih =>
      intro h
      obtain ⟨ha, hp⟩ := scalars_cons.1 hp
      rcases Glob_cons_inv h with ⟨h1, u, t, hst, hg⟩ | ⟨h1, c, t, hst, hg⟩ | ⟨h1, h2, t, hst, hg⟩
      · obtain ⟨u, t, rfl, rfl, rfl⟩ := List.map_eq_append_iff.1 hst
        rw [(ofNat_eq_star ha).1 h1]
        exact .star p u t (ih t hp (scalars_append.1 hs).2 hg)
      · obtain ⟨c, t, rfl, rfl, rfl⟩ := List.map_eq_cons_iff.1 hst
        rw [(ofNat_eq_qm ha).1 h1]
        exact .one p c t (ih t hp (scalars_cons.1 hs).2 hg)
      · obtain ⟨c, t, rfl, hc, rfl⟩ := List.map_eq_cons_iff.1 hst
        obtain ⟨hc', ht⟩ := scalars_cons.1 hs
        cases ofNat_inj hc' ha hc
        exact .lit _ p t (mt (ofNat_eq_star ha).2 h1) (mt (ofNat_eq_qm ha).2 h2) (ih t hp ht hg)
end Ruma.Lemmas.HtmlGlob
