/-
  The promises of the standard configurations (`strict()`, `compat()`, with and without
  `remove_reply_fallback()`) evaluated at the Matrix spec's lists: they are the spec's tables.
  Used by C14 (`plain_*_spec`) and C15.
-/
import RumaModel.Lemmas.HtmlTree
import RumaModel.Spec.HtmlAllow
namespace Ruma.Lemmas.Html
open Ruma Ruma.Html Ruma.Spec.HtmlPolicy
open Spec.HtmlAllow

/-- In strict and compat mode, with or without reply-fallback removal, the allowed elements are
the spec's list — minus `mx-reply` under reply-fallback removal. -/
theorem plain_elemOk_spec (m : Mode) (rrf : Bool) (n : Str) :
    elemOk lists (plain (some m) rrf) n = (elemAllowed n && !(rrf && n == replyName)) := by
  simp only [elemOk, elemRemoved, elemListed, plain, optContains, isOverride, Cfg.useStrict, lists,
    elemAllowed, Option.isSome_some, Option.map_none, Option.isSome_none, Bool.false_or, Bool.not_true,
    Bool.not_false, Bool.true_and, Bool.and_comm]

theorem plain_attrOk_spec (m : Mode) (rrf : Bool) (el a : Str) :
    attrOk lists (plain (some m) rrf) el a = attrAllowed el a := by
  simp only [attrOk, plain, isOverride, Cfg.useStrict, lists, attrAllowed, row, Option.bind_none,
    Option.isSome_none, Option.isSome_some, Bool.or_true, Bool.not_true, Bool.false_or,
    Bool.not_false, Bool.true_and, if_true, optContains]
  cases mapGet Spec.HtmlAllow.attrs el <;> simp

theorem plain_schemeList_spec (m : Mode) (rrf : Bool) (el a : Str) :
    Spec.HtmlPolicy.schemeList lists (plain (some m) rrf) el a = Spec.HtmlAllow.schemeList m el a := by
  cases m <;>
  simp [Spec.HtmlPolicy.schemeList, plain, cell, modeCounts, lists, Spec.HtmlAllow.schemeList]

theorem plain_valueOk_spec (m : Mode) (rrf : Bool) (el a v : Str) :
    valueOk lists (plain (some m) rrf) el a v = valueAllowed m el a v := by
  unfold valueOk valueAllowed
  rw [plain_schemeList_spec]
  have : denied (plain (some m) rrf) el a v = false := by simp [denied, plain]
  rw [this]
  cases Spec.HtmlAllow.schemeList m el a with
  | none => simp
  | some l => simp only [Bool.not_false, Bool.true_and]; rfl

theorem plain_classOk_spec (m : Mode) (rrf : Bool) (el cl : Str) :
    classOk lists (plain (some m) rrf) el cl = classAllowed el cl := by
  simp [classOk, plain, modeCounts, lists, classAllowed, row, Spec.HtmlGlob.matchesAny]

theorem plain_maxDepth_spec (m : Mode) (rrf : Bool) :
    maxDepthValue lists (plain (some m) rrf) = some 100 := rfl

/-- `class` carries no URI restriction, so `clean_schemes_allowed` loses nothing there. -/
theorem plain_class_unrestricted (m : Mode) (rrf : Bool) (el v : Str) :
    valueOk lists (plain (some m) rrf) el className v = true :=
  plain_valueOk_className lists (some m) rrf el v (by decide +kernel) (by decide +kernel)

theorem not_reply_iff (rrf : Bool) (n : Str) :
    (!(rrf && n == replyName)) = true ↔ (rrf = true → n ≠ replyName) := by
  cases rrf <;> simp

/-- In strict and compat mode `Keeps` says, in the words of the spec's lists: a permitted tag (not
`mx-reply` under reply-fallback removal) within the depth limit, with permitted HTML attributes,
schemes and classes. -/
theorem keeps_plain_iff (m : Mode) (rrf : Bool) (d : Nat) (n : Str) (as : List Attr) :
    Keeps lists (plain (some m) rrf) d n as ↔
      elemAllowed n = true ∧ (rrf = true → n ≠ replyName) ∧ d < maxDepth ∧
      ∀ a ∈ as, a.ns = [] ∧ attrAllowed n a.name = true ∧ valueAllowed m n a.name a.value = true ∧
        (a.name = className → ∀ cl ∈ splitWs a.value, classAllowed n cl = true) := by
  have hl : attrListed (plain (some m) rrf) = true := rfl
  simp only [Keeps, attrOkA, plain_elemOk_spec, plain_attrOk_spec, plain_valueOk_spec,
    plain_classOk_spec, plain_maxDepth_spec, hl, Bool.and_eq_true, not_reply_iff, Option.some.injEq,
    forall_eq', forall_const, maxDepth, and_assoc]
  refine and_congr_right fun _ => and_congr_right fun _ => and_congr_right fun _ =>
    forall_congr' fun a => imp_congr_right fun _ => ?_
  exact and_left_comm

end Ruma.Lemmas.Html
