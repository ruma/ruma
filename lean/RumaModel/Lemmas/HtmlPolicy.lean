/-
  C14/C15 — the model computes the value and class predicates of `Spec/HtmlPolicy.lean`: the
  spec-side `denied`, `schemeList`, `valueOk`, `classOk` (stated with `mapGet`, list operations
  and the glob relation only) equal the expressions over the model's `schemesHit`, `schemeCtx`,
  `attrSchemes`, `schemesPass`, `removedClass`, `anyGlob` that `node_action` and
  `clean_element_attributes` evaluate. Core Lean only.
-/
import RumaModel.Spec.HtmlPolicy
import RumaModel.Lemmas.HtmlGlob
namespace Ruma.Lemmas.Html
open Ruma Ruma.Html Ruma.Spec.HtmlPolicy Ruma.Spec.HtmlGlob Ruma.Lemmas.HtmlGlob

theorem modeCounts_eq {α : Type} (l : Option (BList α)) : modeCounts l = !isOverride l := by
  cases l <;> rfl

theorem startsWithScheme_eq (v s : Str) : startsWithScheme v s = hasScheme v s := rfl

theorem denied_eq_model (c : Cfg) (el a v : Str) :
    denied c el a v = schemesHit ((c.denySchemes.bind (mapGet · el)).bind (mapGet · a)) v := by
  unfold denied cell schemesHit
  cases c.denySchemes with
  | none => rfl
  | some m =>
    simp only [Option.bind_some]
    cases (mapGet m el).bind (mapGet · a) <;> rfl

theorem attrSchemes_empty (x : SchemeCtx) (h : x.empty = true) (a : Str) : attrSchemes x a = none := by
  simp only [SchemeCtx.empty, Bool.and_eq_true, Option.isNone_iff_eq_none] at h
  simp [attrSchemes, h]

theorem schemeCtx_empty (L : Lists) (c : Cfg) (el : Str)
    (h : (c.allowSchemes.isNone && !c.useStrict) = true) : (schemeCtx L c el).empty = true := by
  cases hm : c.mode <;> simp_all [SchemeCtx.empty, schemeCtx, Cfg.useStrict, Cfg.useCompat]

/-- The spec's three chained entries are the three per-attribute lists `node_action` chains. -/
theorem schemeList_eq_attrSchemes (L : Lists) (c : Cfg) (el a : Str) :
    schemeList L c el a = attrSchemes (schemeCtx L c el) a := by
  unfold schemeList attrSchemes schemeCtx cell Cfg.useStrict Cfg.useCompat
  rw [modeCounts_eq]
  cases c.allowSchemes <;>
    simp only [Option.bind_none, Option.bind_some, apply_ite (Option.bind · (mapGet · a))]

theorem schemeList_eq_model (L : Lists) (c : Cfg) (el a : Str) :
    schemeList L c el a =
      if c.allowSchemes.isNone && !c.useStrict then none else attrSchemes (schemeCtx L c el) a := by
  rw [schemeList_eq_attrSchemes]
  split
  · exact attrSchemes_empty _ (schemeCtx_empty L c el ‹_›) a
  · rfl

theorem valueOk_eq_model (L : Lists) (c : Cfg) (el a v : Str) :
    valueOk L c el a v = (!denied c el a v && schemesPass (schemeList L c el a) v) := by
  unfold valueOk schemesPass
  cases schemeList L c el a <;> rfl

theorem classOk_eq_model (L : Lists) (c : Cfg) (el cl : Str) :
    classOk L c el cl =
      (!removedClass (c.removeClasses.bind (mapGet · el)) cl &&
      (!(c.allowClasses.isSome || c.useStrict) ||
        anyGlob (((c.allowClasses.bind (fun l => mapGet l.content el)).getD []) ++
          ((if !isOverride c.allowClasses && c.useStrict then mapGet L.classes el else none).getD [])) cl)) := by
  unfold classOk removedClass Cfg.useStrict
  rw [modeCounts_eq]
  simp only [anyGlob_eq_matchesAny]
  congr 1
  · cases c.removeClasses with
    | none => simp [matchesAny]
    | some m => cases h : mapGet m el <;> simp [matchesAny, h]
  · congr 2
    congr 1
    · cases c.allowClasses <;> simp
    · split <;> simp_all

theorem matchesAny_false_iff (pats : List Str) (cl : Str) :
    matchesAny pats cl = false ↔ ∀ p ∈ pats, ¬ GlobCp p cl := by
  rw [← Bool.not_eq_true, matchesAny_iff]; simp

theorem exists_mem_getD {o : Option (List Str)} {P : Str → Prop} :
    (∃ p ∈ o.getD [], P p) ↔ ∃ pats, o = some pats ∧ ∃ p ∈ pats, P p := by
  cases o <;> simp

theorem not_or_eq_true (a b : Bool) : (!a || b) = true ↔ (a = true → b = true) := by
  cases a <;> simp

theorem classOk_iff_glob (L : Lists) (c : Cfg) (el cl : Str) :
    classOk L c el cl = true ↔
      (∀ pats, c.removeClasses.bind (mapGet · el) = some pats → ∀ p ∈ pats, ¬ GlobCp p cl) ∧
      ((c.allowClasses.isSome ∨ c.mode.isSome) →
        (∃ pats, c.allowClasses.bind (fun l => mapGet l.content el) = some pats ∧
          ∃ p ∈ pats, GlobCp p cl) ∨
        (modeCounts c.allowClasses = true ∧ c.mode.isSome ∧
          ∃ pats, mapGet L.classes el = some pats ∧ ∃ p ∈ pats, GlobCp p cl)) := by
  unfold classOk
  simp only [Bool.and_eq_true, not_or_eq_true]
  simp only [Bool.not_eq_true', Bool.or_eq_true, matchesAny_iff, matchesAny_false_iff,
    List.mem_append, or_and_right, exists_or]
  -- conjunct by conjunct, and the given list and the mode's list each on its own
  refine and_congr ?_ (imp_congr_right fun _ => or_congr ?_ ?_)
  · cases c.removeClasses with
    | none => simp
    | some m => cases h : mapGet m el <;> simp [h]
  · cases c.allowClasses <;> simp [exists_mem_getD]
  · split <;> simp_all [exists_mem_getD]

theorem valueOk_iff_schemes (L : Lists) (c : Cfg) (el a v : Str) :
    valueOk L c el a v = true ↔
      (∀ l, c.denySchemes.bind (cell · el a) = some l → ∀ s ∈ l, hasScheme v s = false) ∧
      (∀ l, schemeList L c el a = some l → ∃ s ∈ l, hasScheme v s = true) := by
  unfold valueOk denied
  simp only [Bool.and_eq_true, Bool.not_eq_eq_eq_not, Bool.not_true]
  refine and_congr ?_ ?_
  · cases c.denySchemes with
    | none => simp
    | some m => cases h : cell m el a <;> simp [h]
  · cases schemeList L c el a <;> simp

theorem renamed_eq_model (L : Lists) (c : Cfg) (n : Str) : renamed L c n = replaceNameOf L c n := by
  unfold renamed replaceNameOf Cfg.useStrict
  rw [modeCounts_eq]
  cases c.replaceElements.bind (fun l => mapGet l.content n) with
  | some x => rfl
  | none =>
    cases (if (!isOverride c.replaceElements && c.mode.isSome) = true then
      mapGet L.deprecatedElements n else none) <;> rfl

theorem renamedAttr_eq_model (L : Lists) (c : Cfg) (n : Str) (a : Attr) :
    renameAttr (c.replaceAttrs.bind (fun l => mapGet l.content n))
      (if !isOverride c.replaceAttrs && c.useStrict then mapGet L.deprecatedAttrs n else none) a =
    { a with name := renamedAttr L c n a.name } := by
  unfold renameAttr renamedAttr cell Cfg.useStrict
  -- the model looks up the element's row first and the attribute in the row found; the spec does
  -- both lookups in one
  rw [modeCounts_eq, Option.bind_assoc, apply_ite (Option.bind · (mapGet · a.name)), Option.bind_none]
  cases c.replaceAttrs.bind (fun l => (mapGet l.content n).bind (mapGet · a.name)) with
  | some x => rfl
  | none =>
    cases (if (!isOverride c.replaceAttrs && c.mode.isSome) = true then
      (mapGet L.deprecatedAttrs n).bind (mapGet · a.name) else none) <;> rfl

theorem tooDeep_eq_model (L : Lists) (c : Cfg) (d : Nat) : tooDeep L c d = depthExceeded L c d := by
  unfold tooDeep depthLimit depthExceeded maxDepthValue Cfg.useStrict
  cases c.maxDepth <;> rfl

end Ruma.Lemmas.Html
