/-
  T1 for C14: the behaviour tables extracted from the running sanitizer (Generated/C14.lean,
  regenerated on every run) are the tables the spec's lists imply, on every point of the stated
  universes.
-/
import RumaModel.Spec.HtmlAllow
import RumaModel.Generated.C14
namespace Ruma.Lemmas.HtmlTables
open Ruma Ruma.Html

/-- The static lists the model runs with in the correspondence (T2): extracted from the
implementation on this run; class patterns are not observable and come from the spec. -/
def implLists : Lists := Generated.C14.lists Spec.HtmlAllow.classes

section
open Spec.HtmlAllow

/-- `expected`, except that an element without a row in the table concerned is
passed over before the attributes (classes) of the universe are tried on it. Nearly every element
of a universe is such an element, and evaluating `expected` as it stands spends its time finding,
attribute by attribute, that they have nothing. -/
def expectedSkip (m : Mode) (u : Universe) : ModeTable :=
  { expected m u with
    attrs := u.elements.filterMap fun el =>
      if (row attrs el).isEmpty then none else
      let l := u.attrs.filter (attrAllowed el)
      if l.isEmpty then none else some (el, l)
    schemes := u.elements.flatMap fun el =>
      if (mapGet schemesStrict el).isNone && (m != .compat || (mapGet schemesCompat el).isNone)
      then [] else
      u.attrs.filterMap fun a =>
        match schemeList m el a with
        | none => none
        | some l => some (el, a, u.schemes.filter (fun s => l.contains s))
    classes := u.elements.filterMap fun el =>
      if (row classes el).isEmpty then none else
      let l := u.classes.filter (classAllowed el)
      if l.isEmpty then none else some (el, l)
    replAttrs := u.elements.flatMap fun el =>
      if (mapGet deprecatedAttrs el).isNone then [] else
      u.attrs.filterMap fun a =>
        if attrReplacement el a == a then none else some (el, a, attrReplacement el a) }

theorem expected_eq_skip (m : Mode) (u : Universe) :
    expected m u = expectedSkip m u := by
  unfold expectedSkip expected
  -- field by field, element by element; where `el` is not passed over the two sides are the same
  congr 2 <;> funext el <;> split <;> try rfl
  -- where it is: without a row no attribute is allowed, restricted or renamed, and no class allowed
  next h => simp [attrAllowed, List.isEmpty_iff.1 h]
  next h =>
    simp only [Bool.and_eq_true, Bool.or_eq_true, Option.isNone_iff_eq_none] at h
    cases m <;> simp_all [schemeList]
  next h => simp [classAllowed, Spec.HtmlGlob.matchesAny, List.isEmpty_iff.1 h]
  next h => simp [attrReplacement, Option.isNone_iff_eq_none.1 h]

/-- The mode enters `expected` through the URL schemes only. -/
theorem expected_compat (u : Universe) :
    expected .compat u = { expected .strict u with schemes := (expected .compat u).schemes } :=
  rfl

end

theorem strict_table :
    Generated.C14.strict = Spec.HtmlAllow.expected .strict Generated.C14.univ := by
  rw [expected_eq_skip]; decide +kernel

theorem compat_table :
    Generated.C14.compat = Spec.HtmlAllow.expected .compat Generated.C14.univ := by
  rw [expected_compat, ← strict_table, expected_eq_skip]; decide +kernel

/-- The lists the model runs with in T2 are, as data, the spec's lists: every theorem stated at
`Spec.HtmlAllow.lists` is a theorem about the model instance that is compared with the code. -/
theorem impl_eq_spec : implLists = Spec.HtmlAllow.lists := by decide +kernel

theorem within : Spec.HtmlAllow.withinUniverse Generated.C14.univ = true := by decide +kernel

end Ruma.Lemmas.HtmlTables
