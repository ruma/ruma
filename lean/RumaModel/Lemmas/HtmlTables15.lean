/-
  C15, T1: the static lists extracted from the running sanitizer on this run (Generated/C15.lean,
  regenerated by `h-c15 c15 extract`), and the fact about them that is settled by evaluation:
  these lists, like the spec's, do not contradict themselves — which is what makes the standard
  configurations settled (`settled_plain`).
-/
import RumaModel.Lemmas.HtmlIdem
import RumaModel.Spec.HtmlAllow
import RumaModel.Generated.C15
namespace Ruma.Lemmas.HtmlTables15
open Ruma Ruma.Html Ruma.Spec.HtmlPolicy Ruma.Lemmas.Html

/-- The static lists the model runs with in the correspondence (T2) of C15: extracted from the
implementation on this run; class patterns are not observable and come from the spec. -/
def implLists : Lists := Generated.C15.lists Spec.HtmlAllow.classes

theorem consistent_both : consistent Spec.HtmlAllow.lists = true ∧ consistent implLists = true := by
  constructor <;> decide +kernel

end Ruma.Lemmas.HtmlTables15
