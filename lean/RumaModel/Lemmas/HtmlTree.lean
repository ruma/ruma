/-
  `clean_node` on an element in the words of the policy (`cleanNode_elem`), and the structural
  (mutual) recursions over trees for C14/C15.
-/
import RumaModel.Lemmas.Html
namespace Ruma.Lemmas.Html
open Ruma Ruma.Html Ruma.Spec.HtmlPolicy

/-- The case distinction `keptText`, `keptElems` and `keptNames` make. -/
theorem cleanNode_elem (L : Lists) (c : Cfg) (d : Nat) (n : Str) (as : List Attr) (cs : List Node) :
    cleanNode L c d (.elem n as cs) =
      if elemRemoved c (renamed L c n) || tooDeep L c d then []
      else if elemOk L c (renamed L c n) &&
          as.all (fun a => valueOk L c (renamed L c n) (renamedAttr L c n a.name) a.value) then
        [.elem (renamed L c n) (cleanAttrs L c (renamed L c n) (replaceAttrsOf L c n as))
          (cleanList L c (d + 1) cs)]
      else cleanList L c (d + 1) cs := by
  rw [cleanNode, nodeAction_eq, removeCheck_eq, renamed_eq_model, tooDeep_eq_model,
    ← replaceAttrsOf_all L c n as (fun a v => valueOk L c (replaceNameOf L c n) a v)]
  by_cases hr : (elemRemoved c (replaceNameOf L c n) || depthExceeded L c d) = true
  · rw [if_pos hr, if_pos hr]
  · rw [if_neg hr, if_neg hr]
    by_cases hk : (elemOk L c (replaceNameOf L c n) && (replaceAttrsOf L c n as).all fun a =>
        valueOk L c (replaceNameOf L c n) a.name a.value) = true
    · rw [if_pos hk, if_pos hk]
    · rw [if_neg hk, if_neg hk]

mutual
theorem cleanNode_all (L : Lists) (c : Cfg) (p : Nat → Str → List Attr → Prop)
    (hp : ∀ dOut dIn n as, dOut ≤ dIn → nodeAction L c n as dIn = .none →
      p dOut n (cleanAttrs L c n as)) :
    ∀ (node : Node) (dOut dIn : Nat), dOut ≤ dIn → AllElemsL p dOut (cleanNode L c dIn node)
  | .text s, _, _, _ => by simp [cleanNode, AllElemsL, AllElems]
  | .other, _, _, _ => by simp [cleanNode, AllElemsL]
  | .elem n as cs, dOut, dIn, h => by
    simp only [cleanNode]
    split
    · simp [AllElemsL]
    · exact cleanList_all L c p hp cs dOut (dIn + 1) (by omega)
    · rename_i hact
      simp only [AllElemsL, AllElems, and_true]
      exact ⟨hp _ _ _ _ h hact, cleanList_all L c p hp cs (dOut + 1) (dIn + 1) (by omega)⟩
theorem cleanList_all (L : Lists) (c : Cfg) (p : Nat → Str → List Attr → Prop)
    (hp : ∀ dOut dIn n as, dOut ≤ dIn → nodeAction L c n as dIn = .none →
      p dOut n (cleanAttrs L c n as)) :
    ∀ (l : List Node) (dOut dIn : Nat), dOut ≤ dIn → AllElemsL p dOut (cleanList L c dIn l)
  | [], _, _, _ => by simp [cleanList, AllElemsL]
  | n :: t, dOut, dIn, h => by
    simp only [cleanList, allElemsL_append]
    exact ⟨cleanNode_all L c p hp n dOut dIn h, cleanList_all L c p hp t dOut dIn h⟩
end

mutual
theorem cleanNode_noOther (L : Lists) (c : Cfg) : ∀ (node : Node) (d : Nat), NoOtherL (cleanNode L c d node)
  | .text s, _ => by simp [cleanNode, NoOtherL, NoOther]
  | .other, _ => by simp [cleanNode, NoOtherL]
  | .elem n as cs, d => by
    simp only [cleanNode]
    split
    · simp [NoOtherL]
    · exact cleanList_noOther L c cs (d + 1)
    · simp only [NoOtherL, NoOther, and_true]; exact cleanList_noOther L c cs (d + 1)
theorem cleanList_noOther (L : Lists) (c : Cfg) : ∀ (l : List Node) (d : Nat), NoOtherL (cleanList L c d l)
  | [], _ => by simp [cleanList, NoOtherL]
  | n :: t, d => by
    simp only [cleanList, noOtherL_append]
    exact ⟨cleanNode_noOther L c n d, cleanList_noOther L c t d⟩
end

mutual
theorem cleanNode_text (L : Lists) (c : Cfg) : ∀ (node : Node) (d : Nat),
    textOfL (cleanNode L c d node) = keptText L c d node
  | .text s, _ => by simp [cleanNode, textOfL, textOf, keptText]
  | .other, _ => by simp [cleanNode, textOfL, keptText]
  | .elem n as cs, d => by
    rw [cleanNode_elem, keptText]
    split
    · rfl
    · split
      · simp only [textOfL, textOf, List.append_nil, cleanList_text L c cs (d + 1)]
      · exact cleanList_text L c cs (d + 1)
theorem cleanList_text (L : Lists) (c : Cfg) : ∀ (l : List Node) (d : Nat),
    textOfL (cleanList L c d l) = keptTextL L c d l
  | [], _ => by simp [cleanList, textOfL, keptTextL]
  | n :: t, d => by
    simp only [cleanList, textOfL_append, keptTextL]
    rw [cleanNode_text L c n d, cleanList_text L c t d]
end

mutual
theorem depth_of_allElems (m : Nat) : ∀ (node : Node) (d : Nat),
    AllElems (fun d _ _ => d < m) d node → d ≤ m → d + depthOf node ≤ m
  | .text _, d, _, h => by simpa [depthOf] using h
  | .other, d, _, h => by simpa [depthOf] using h
  | .elem n as cs, d, h, _ => by
    simp only [AllElems] at h
    have := depth_of_allElemsL m cs (d + 1) h.2 (by omega)
    simp only [depthOf]; omega
theorem depth_of_allElemsL (m : Nat) : ∀ (l : List Node) (d : Nat),
    AllElemsL (fun d _ _ => d < m) d l → d ≤ m → d + depthOfL l ≤ m
  | [], d, _, h => by simpa [depthOfL] using h
  | n :: t, d, h, hd => by
    simp only [AllElemsL] at h
    have h1 := depth_of_allElems m n d h.1 hd
    have h2 := depth_of_allElemsL m t d h.2 hd
    simp only [depthOfL]; omega
end

end Ruma.Lemmas.Html
