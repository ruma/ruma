import RumaModel.Model.HttpHeaders
namespace Ruma.HttpHeaders

theorem splitQuote_ne_nil (s : List Nat) : splitQuote s ≠ [] := by
  induction s with
  | nil => simp [splitQuote]
  | cons b t ih =>
    simp only [splitQuote]
    split
    · simp
    · split <;> simp

/-- Every step on a non-empty input reports between one byte and the bytes it has looked at. -/
theorem utf8Step_pos (s : List Nat) (h : s ≠ []) : 1 ≤ (utf8Step s).2 ∧ (utf8Step s).2 ≤ s.length := by
  fun_cases utf8Step s <;> simp only [List.length_cons] <;> first | omega | exact absurd rfl h

/-- Any two fuels that cover the input give the same result: each round drops at least one byte
(`utf8LossyAux` itself turns a step of 0 into 1), so the recursion is never cut short. -/
theorem utf8LossyAux_fuel : ∀ (f g : Nat) (s : List Nat), s.length ≤ f → s.length ≤ g →
    utf8LossyAux f s = utf8LossyAux g s := by
  intro f
  induction f with
  | zero =>
    intro g s hf _
    obtain rfl := List.length_eq_zero_iff.mp (Nat.le_zero.mp hf)
    cases g <;> rfl
  | succ f ih =>
    intro g s hf hg
    match s, g with
    | [], g => cases g <;> rfl
    | b :: t, g + 1 =>
      simp only [utf8LossyAux]
      have hn : 1 ≤ (if (utf8Step (b :: t)).2 = 0 then 1 else (utf8Step (b :: t)).2) := by
        split <;> omega
      generalize (if (utf8Step (b :: t)).2 = 0 then 1 else (utf8Step (b :: t)).2) = n at hn ⊢
      have hd : (List.drop n (b :: t)).length ≤ t.length := by
        simp only [List.length_drop, List.length_cons]; omega
      simp only [List.length_cons] at hf hg
      rw [ih g _ (by omega) (by omega)]

theorem unescapeAux_length_le (esc : Bool) (s : List Nat) : (unescapeAux esc s).length ≤ s.length := by
  induction s generalizing esc with
  | nil => simp [unescapeAux]
  | cons b t ih =>
    have := ih (b = 92 && !esc)
    simp only [unescapeAux]
    split
    · exact Nat.le_succ_of_le this
    · exact Nat.succ_le_succ this

end Ruma.HttpHeaders
