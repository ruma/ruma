/-
  C10 helper lemmas, part 1: `find`, char boundaries and slices, UTF-8 well-formedness, and the
  "some cut exists" combinators of the spec.
-/
import RumaModel.Model.Ids
import RumaModel.Spec.IdGrammar
namespace Ruma.Ids
open Ruma

/-! ### `find` -/

theorem find_eq_none {c : Nat} {s : Str} : find c s = none ↔ c ∉ s := by
  induction s with
  | nil => simp [find]
  | cons b t ih =>
    by_cases h : b = c
    · simp [find, h]
    · simp [find, h, ih, Ne.symm h]

theorem find_append {c : Nat} {pre post : Str} (h : c ∉ pre) :
    find c (pre ++ c :: post) = some pre.length := by
  induction pre with
  | nil => simp [find]
  | cons b t ih =>
    have hb : b ≠ c := fun e => h (by simp [e])
    have ht : c ∉ t := fun e => h (by simp [e])
    simp [find, hb, ih ht]

theorem find_cases (c : Nat) (s : Str) :
    (c ∉ s ∧ find c s = none) ∨
      ∃ pre post, s = pre ++ c :: post ∧ c ∉ pre ∧ find c s = some pre.length := by
  by_cases h : c ∈ s
  · obtain ⟨pre, post, rfl, hn⟩ := List.eq_append_cons_of_mem h
    exact .inr ⟨pre, post, rfl, hn, find_append hn⟩
  · exact .inl ⟨h, find_eq_none.2 h⟩

theorem find_eq_some {c : Nat} {s : Str} {i : Nat} (h : find c s = some i) :
    ∃ pre post, s = pre ++ c :: post ∧ c ∉ pre ∧ i = pre.length := by
  rcases find_cases c s with ⟨_, hf⟩ | ⟨pre, post, rfl, hn, hf⟩
  · rw [hf] at h; cases h
  · rw [hf] at h
    exact ⟨pre, post, rfl, hn, (Option.some.inj h).symm⟩

theorem cut_unique {c : Nat} {a a' b b' : Str} (ha : c ∉ a) (ha' : c ∉ a')
    (e : a ++ c :: b = a' ++ c :: b') : a = a' ∧ b = b' := by
  have f := find_append (post := b) ha
  rw [e, find_append ha'] at f
  have := List.append_inj e (Option.some.inj f).symm
  exact ⟨this.1, (List.cons.inj this.2).2⟩

theorem has_eq_true {c : Nat} {s : Str} : has c s = true ↔ c ∈ s := by
  simp [has, List.any_eq_true]

theorem has_eq_false {c : Nat} {s : Str} : has c s = false ↔ c ∉ s := by
  rw [← has_eq_true]; cases has c s <;> simp

/-! ### Char boundaries -/

/-- What the slicing code relies on: an ASCII byte is never followed by a continuation byte.
Holds for every well-formed UTF-8 string (`sep_of_utf8Valid`) and is inherited by substrings. -/
def Sep (s : Str) : Prop :=
  ∀ i b c, s[i]? = some b → b < 128 → s[i + 1]? = some c → isCont c = false

theorem Sep.drop {s : Str} (h : Sep s) (n : Nat) : Sep (s.drop n) := by
  intro i b c hb hlt hc
  rw [List.getElem?_drop] at hb hc
  exact h (n + i) b c hb hlt (by rw [← hc]; congr 1)

theorem Sep.take {s : Str} (h : Sep s) (n : Nat) : Sep (s.take n) := by
  intro i b c hb hlt hc
  rw [List.getElem?_take] at hb hc
  by_cases h1 : i < n
  · by_cases h2 : i + 1 < n
    · simp only [h1, h2, if_true] at hb hc
      exact h i b c hb hlt hc
    · simp [h2] at hc
  · simp [h1] at hb

theorem Sep.tail {b : Nat} {s : Str} (h : Sep (b :: s)) : Sep s := by
  have := h.drop 1
  simpa using this

theorem Sep.of_append_right {a b : Str} (h : Sep (a ++ b)) : Sep b := by
  have := h.drop a.length
  simpa using this

theorem Sep.of_append_left {a b : Str} (h : Sep (a ++ b)) : Sep a := by
  have := h.take a.length
  simpa using this

theorem Sep.cons {b : Nat} {t : Str} (hb : b < 128 → ∀ c, t.head? = some c → isCont c = false)
    (ht : Sep t) : Sep (b :: t) := by
  intro i x c hx hlt hc
  cases i with
  | zero =>
    cases hx
    exact hb hlt c (List.head?_eq_getElem?.trans hc)
  | succ j => exact ht j x c hx hlt hc

theorem Sep.cons_ge {b : Nat} {t : Str} (hb : 128 ≤ b) (ht : Sep t) : Sep (b :: t) :=
  ht.cons (fun h => by omega)

theorem Sep.append {a b : Str} (ha : Sep a) (hb : Sep b)
    (hj : ∀ c, b.head? = some c → isCont c = false) : Sep (a ++ b) := by
  induction a with
  | nil => exact hb
  | cons x t ih =>
    refine (ih ha.tail).cons (fun hx c hc => ?_)
    cases t with
    | nil => exact hj c hc
    | cons y t' => exact ha 0 x c rfl hx (by simpa using hc)

theorem isCont_false_of_lt {b : Nat} (h : b < 128) : isCont b = false := by
  simp [isCont]; omega

theorem isBoundary_zero (s : Str) : isBoundary s 0 = true := by simp [isBoundary]

theorem isBoundary_length (s : Str) : isBoundary s s.length = true := by
  simp [isBoundary]

theorem isBoundary_at (a : Str) (c : Nat) (b : Str) (hc : c < 128) :
    isBoundary (a ++ c :: b) a.length = true := by
  unfold isBoundary
  split
  · rfl
  · simp [isCont_false_of_lt hc]

theorem isBoundary_after {a : Str} {c : Nat} {b : Str} (hs : Sep (a ++ c :: b)) (hc : c < 128) :
    isBoundary (a ++ c :: b) (a.length + 1) = true := by
  unfold isBoundary
  rw [if_neg (Nat.succ_ne_zero _)]
  cases b with
  | nil => simp
  | cons d t =>
    have h2 : (a ++ c :: d :: t)[a.length + 1]? = some d := by
      rw [List.getElem?_append_right (by omega)]; simp
    rw [h2]
    show (!isCont d) = true
    rw [hs a.length c d (by simp) hc h2]
    rfl

theorem sliceTo_at {a : Str} {c : Nat} {b : Str} (hc : c < 128) :
    sliceTo (a ++ c :: b) a.length = .ok a := by
  simp [sliceTo, isBoundary_at a c b hc]

theorem sliceFrom_after {a : Str} {c : Nat} {b : Str} (hs : Sep (a ++ c :: b)) (hc : c < 128) :
    sliceFrom (a ++ c :: b) (a.length + 1) = .ok b := by
  simp [sliceFrom, isBoundary_after hs hc]

theorem sliceTo_after {a : Str} {c : Nat} {b : Str} (hs : Sep (a ++ c :: b)) (hc : c < 128) :
    sliceTo (a ++ c :: b) (a.length + 1) = .ok (a ++ [c]) := by
  have : List.take (a.length + 1) (a ++ c :: b) = a ++ [c] := by
    rw [show a ++ c :: b = (a ++ [c]) ++ b by simp]
    exact List.take_left' (by simp)
  simp [sliceTo, isBoundary_after hs hc, this]

theorem sliceTo_length (s : Str) : sliceTo s s.length = .ok s := by
  simp [sliceTo, isBoundary_length]

/-- `&s[|p|..k]` where `s = p ++ a ++ c :: b`, `|p|` a boundary, `c` ASCII and `k` its position. -/
theorem slice_mid {p a : Str} {c : Nat} {b : Str}
    (hp : isBoundary (p ++ (a ++ c :: b)) p.length = true) (hc : c < 128) :
    slice (p ++ (a ++ c :: b)) p.length (a.length + p.length) = .ok a := by
  have e : p ++ (a ++ c :: b) = (p ++ a) ++ c :: b := (List.append_assoc ..).symm
  have hl : a.length + p.length = (p ++ a).length := by rw [List.length_append, Nat.add_comm]
  have h2 : isBoundary (p ++ (a ++ c :: b)) (a.length + p.length) = true := by
    rw [hl, e]; exact isBoundary_at _ c b hc
  have h3 : ((p ++ (a ++ c :: b)).take (a.length + p.length)).drop p.length = a := by
    rw [hl, e, List.take_left' rfl, List.drop_left' rfl]
  simp only [slice, hp, h2, h3, Nat.le_add_left, decide_true, Bool.and_self, if_true]

/-- `&s[1..k]` where `s = g :: a ++ c :: b`, `g` and `c` ASCII, `k` the position of `c`. -/
theorem slice_one_at {g : Nat} {a : Str} {c : Nat} {b : Str} (hs : Sep (g :: (a ++ c :: b)))
    (hg : g < 128) (hc : c < 128) :
    slice (g :: (a ++ c :: b)) 1 (a.length + 1) = .ok a :=
  slice_mid (p := [g]) (isBoundary_after (a := []) hs hg) hc

/-! ### Well-formed UTF-8 has `Sep` -/

theorem not_isCont_head_of_utf8Valid {b : Nat} {t : Str} (h : utf8Valid (b :: t) = true) :
    isCont b = false := by
  cases hc : isCont b with
  | false => rfl
  | true =>
    -- a continuation byte is in none of the four lead-byte ranges
    simp only [isCont, Bool.and_eq_true, decide_eq_true_eq] at hc
    unfold utf8Valid at h
    rw [if_neg (by omega), if_neg (by omega), if_neg (by omega), if_neg (by omega)] at h
    cases h

theorem isCont_ge {c : Nat} (h : isCont c = true) : 128 ≤ c := by
  simp only [isCont, Bool.and_eq_true, decide_eq_true_eq] at h
  exact h.1

/-- Only the byte after an ASCII byte matters: lead and continuation bytes are `≥ 128`, and what
follows a complete character is the head of a well-formed string. -/
theorem sep_of_utf8Valid : ∀ (s : Str), utf8Valid s = true → Sep s
  | [], _ => fun i b c hb => by simp at hb
  | b :: t, h => by
    unfold utf8Valid at h
    by_cases h1 : b < 128
    · rw [if_pos h1] at h
      refine (sep_of_utf8Valid t h).cons (fun _ c hc => ?_)
      cases t with
      | nil => cases hc
      | cons d t' =>
        cases hc
        exact not_isCont_head_of_utf8Valid h
    · rw [if_neg h1] at h
      by_cases h2 : 194 ≤ b ∧ b ≤ 223
      · rw [if_pos h2] at h
        match t, h with
        | c1 :: t1, h =>
          rw [Bool.and_eq_true] at h
          exact .cons_ge (by omega) (.cons_ge (isCont_ge h.1) (sep_of_utf8Valid t1 h.2))
      · rw [if_neg h2] at h
        by_cases h3 : 224 ≤ b ∧ b ≤ 239
        · rw [if_pos h3] at h
          match t, h with
          | c1 :: c2 :: t2, h =>
            simp only [Bool.and_eq_true] at h
            exact .cons_ge (by omega) (.cons_ge (isCont_ge h.1.1.1.1)
              (.cons_ge (isCont_ge h.1.1.1.2) (sep_of_utf8Valid t2 h.2)))
        · rw [if_neg h3] at h
          by_cases h4 : 240 ≤ b ∧ b ≤ 244
          · rw [if_pos h4] at h
            match t, h with
            | c1 :: c2 :: c3 :: t3, h =>
              simp only [Bool.and_eq_true] at h
              exact .cons_ge (by omega) (.cons_ge (isCont_ge h.1.1.1.1.1)
                (.cons_ge (isCont_ge h.1.1.1.1.2) (.cons_ge (isCont_ge h.1.1.1.2)
                  (sep_of_utf8Valid t3 h.2))))
          · rw [if_neg h4] at h
            cases h

/-! ### The spec's "some cut exists" -/

open Spec.IdGrammar in
theorem mem_splits {s a b : Str} : (a, b) ∈ splits s ↔ a ++ b = s := by
  simp only [splits, List.mem_map, List.mem_range, Prod.mk.injEq]
  constructor
  · rintro ⟨i, _, rfl, rfl⟩
    exact List.take_append_drop i s
  · rintro rfl
    exact ⟨a.length, by simp; omega, by simp, by simp⟩

open Spec.IdGrammar in
theorem cutAt_iff {sep : Nat} {p q : Str → Bool} {s : Str} :
    cutAt sep p q s = true ↔ ∃ a b, s = a ++ sep :: b ∧ p a = true ∧ q b = true := by
  simp only [cutAt, List.any_eq_true]
  constructor
  · rintro ⟨⟨a, b⟩, hm, h⟩
    rw [mem_splits] at hm
    cases b with
    | nil => simp at h
    | cons c back =>
      simp only [Bool.and_eq_true, beq_iff_eq] at h
      obtain ⟨⟨rfl, hp⟩, hq⟩ := h
      exact ⟨a, back, hm.symm, hp, hq⟩
  · rintro ⟨a, b, rfl, hp, hq⟩
    exact ⟨(a, sep :: b), mem_splits.2 rfl, by simp [hp, hq]⟩

end Ruma.Ids
