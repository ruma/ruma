/-
  C10 helper lemmas, part 7: the base64 encoder behind `with_bytes`, and the `UserId` conformance
  accessors.
-/
import RumaModel.Lemmas.IdsGram
import RumaModel.Model.IdsExt
namespace Ruma.Ids
open Ruma Spec.IdGrammar

theorem base64Char_of_range {c : Nat}
    (h : (48 ≤ c ∧ c ≤ 57) ∨ (97 ≤ c ∧ c ≤ 122) ∨ (65 ≤ c ∧ c ≤ 90) ∨ c = 43 ∨ c = 47) :
    base64Char c = true := by
  rw [base64Char, oneOf_ofList]
  simpa only [alnum, digit, lower, upper, List.map, Char.reduceToNat, List.contains_cons,
    List.contains_nil, Bool.or_false, Bool.or_eq_true, decide_eq_true_eq, beq_iff_eq, or_assoc]
    using h

theorem b64Char_ok (i : Nat) : base64Char (b64Char i) = true := by
  apply base64Char_of_range
  generalize hc : b64Char i = c
  simp only [b64Char] at hc
  generalize i % 64 = j at hc
  subst hc
  by_cases h1 : j < 26
  · rw [if_pos h1]; exact .inr (.inr (.inl (by omega)))
  · rw [if_neg h1]
    by_cases h2 : j < 52
    · rw [if_pos h2]; exact .inr (.inl (by omega))
    · rw [if_neg h2]
      by_cases h3 : j < 62
      · rw [if_pos h3]; exact .inl (by omega)
      · rw [if_neg h3]
        by_cases h4 : j = 62
        · rw [if_pos h4]; exact .inr (.inr (.inr (.inl rfl)))
        · rw [if_neg h4]; exact .inr (.inr (.inr (.inr rfl)))

theorem b64_all : ∀ (bytes : List Nat), ∀ c ∈ b64 bytes, base64Char c = true
  | [], c, h => by simp [b64] at h
  | [a], c, h => by
    simp only [b64, List.mem_cons, List.not_mem_nil, or_false] at h
    rcases h with rfl | rfl <;> exact b64Char_ok _
  | [a, b], c, h => by
    simp only [b64, List.mem_cons, List.not_mem_nil, or_false] at h
    rcases h with rfl | rfl | rfl <;> exact b64Char_ok _
  | a :: b :: d :: t, c, h => by
    simp only [b64, List.mem_cons] at h
    rcases h with rfl | rfl | rfl | rfl | h
    · exact b64Char_ok _
    · exact b64Char_ok _
    · exact b64Char_ok _
    · exact b64Char_ok _
    · exact b64_all t c h

theorem b64_ne_nil : ∀ {bytes : List Nat}, bytes ≠ [] → b64 bytes ≠ []
  | [], h => absurd rfl h
  | [_], _ => by simp [b64]
  | [_, _], _ => by simp [b64]
  | _ :: _ :: _ :: _, _ => by simp [b64]

theorem localpartFullyConforming_ne_panic (lp : Str) : localpartFullyConforming lp ≠ .panic :=
  ite_ne_panic nofun (ite_ne_panic nofun (ite_ne_panic nofun nofun))

/-- `localpart_is_fully_conforming` returns `Ok(true)` exactly on the specification's current
localpart grammar `1*user_id_char`. -/
theorem localpartFullyConforming_ok_true_iff {lp : Str} :
    localpartFullyConforming lp = .ok true ↔ nonEmptyAll userIdChar lp = true := by
  rw [nonEmptyAll_iff, ← List.all_eq_true, List.all_congr rfl userIdChar_eq]
  unfold localpartFullyConforming
  by_cases he : lp = []
  · simp [he]
  · by_cases ha : lp.all userIdCharOk = true
    · simp [he, ha]
    · rw [if_neg he, if_neg ha]
      split <;> simp [he, ha]

end Ruma.Ids
