/-
  C10 helper lemmas, part 6: what the validators of the opaque identifier types accept (exactly),
  and "in the specification's predicate ⇒ accepted" for the identifiers with parts. The host
  predicate and the localpart predicate are variables, so that one lemma serves the recommended
  grammar and the required structure.
-/
import RumaModel.Lemmas.IdsSpec
namespace Ruma.Ids
open Ruma Spec.IdGrammar

theorem keyVersionChar_eq (b : Nat) : keyVersionChar b = (isAlnum b || b == 95) := by
  rw [keyVersionChar, alnum_eq]

theorem base64PadChar_eq (b : Nat) :
    base64PadChar b = (isAlnum b || (b == 43 || b == 47 || b == 61)) := by
  rw [base64PadChar, oneOf_ofList]
  simp only [List.map, Char.reduceToNat, List.contains_cons, List.contains_nil, Bool.or_false,
    alnum_eq, Bool.or_assoc]

theorem secretChar_eq (b : Nat) : secretChar b = (isAlnum b || secretByteExtra b) := by
  rw [secretChar, oneOf_ofList]
  simp only [List.map, Char.reduceToNat, List.contains_cons, List.contains_nil, Bool.or_false,
    alnum_eq, secretByteExtra, Bool.or_assoc]

theorem roomVersionChar_eq (b : Nat) : roomVersionChar b = (isAlnum b || b == 46 || b == 45) := by
  rw [roomVersionChar, oneOf_ofList]
  simp only [List.map, Char.reduceToNat, List.contains_cons, List.contains_nil, Bool.or_false,
    alnum_eq, Bool.or_assoc]

theorem codePoints_eq (s : Str) : codePoints s = charCount s := by
  unfold codePoints charCount
  congr 2
  funext b
  simp [isCont]

/-- `s.chars().all(..)` splits into a byte class on the ASCII characters and the external verdict
on the others. -/
theorem allUniAlnumOr_eq {x : Ext} {extra set : Nat → Bool} {s : Str}
    (hset : ∀ b, set b = (isAlnum b || extra b)) :
    allUniAlnumOr x extra s
      = (asciiIn set s && (s.all (fun b => decide (b < 128)) || x.uniAlnum s)) := by
  unfold allUniAlnumOr asciiIn
  congr 2; funext b; rw [hset, Bool.or_assoc]

/-- `char::is_alphanumeric` is not asked, or approves. -/
def UniOk (x : Ext) (s : Str) : Prop := (s.all (fun b => decide (b < 128)) || x.uniAlnum s) = true

theorem UniOk.of_ascii {x : Ext} {s : Str} (h : ∀ b ∈ s, b < 128) : UniOk x s := by
  rw [UniOk, Bool.or_eq_true, List.all_eq_true]
  exact .inl fun b hb => decide_eq_true (h b hb)

theorem ite_err_eq_ok {c : Prop} [Decidable c] {r : Res Unit} :
    (if c then Res.err else r) = .ok () ↔ ¬ c ∧ r = .ok () := by
  split <;> simp [*]

theorem serverSigningKeyVersionValidate_ok_iff {x : Ext} {s : Str} :
    serverSigningKeyVersionValidate x s = .ok () ↔
      (!s.isEmpty && asciiIn keyVersionChar s) = true ∧ UniOk x s := by
  simp only [serverSigningKeyVersionValidate, ite_err_eq_ok, allUniAlnumOr_eq keyVersionChar_eq,
    UniOk, Bool.not_eq_true', Bool.not_eq_false, Bool.and_eq_true, and_true,
    List.isEmpty_eq_false_iff, ne_eq, and_assoc]

theorem base64PublicKeyValidate_ok_iff {x : Ext} {s : Str} :
    base64PublicKeyValidate x s = .ok () ↔
      (!s.isEmpty && asciiIn base64PadChar s) = true ∧ UniOk x s := by
  simp only [base64PublicKeyValidate, ite_err_eq_ok, allUniAlnumOr_eq base64PadChar_eq,
    UniOk, Bool.not_eq_true', Bool.not_eq_false, Bool.and_eq_true, and_true,
    List.isEmpty_eq_false_iff, ne_eq, and_assoc]

theorem clientSecretValidate_ok_iff {x : Ext} {s : Str} :
    clientSecretValidate x s = .ok () ↔
      (!s.isEmpty && max255 s && asciiIn secretChar s) = true ∧ UniOk x s := by
  simp only [clientSecretValidate, ite_err_eq_ok, allUniAlnumOr_eq secretChar_eq, max255,
    UniOk, Bool.not_eq_true', Bool.not_eq_false, Bool.and_eq_true, and_true,
    List.isEmpty_eq_false_iff, ne_eq, decide_eq_true_eq, Nat.not_lt, and_assoc]
  exact ⟨fun ⟨a, b, c, d⟩ => ⟨d, a, b, c⟩, fun ⟨d, a, b, c⟩ => ⟨a, b, c, d⟩⟩

theorem sessionIdValidate_ok_iff {s : Str} :
    sessionIdValidate s = .ok () ↔ (nonEmptyAll secretChar s && max255 s) = true := by
  simp only [sessionIdValidate, ite_err_eq_ok, nonEmptyAll, max255,
    List.all_congr rfl secretChar_eq, List.all_eq_not_any_not, Bool.and_eq_true, and_true,
    List.isEmpty_eq_false_iff, ne_eq, decide_eq_true_eq, Nat.not_lt, Bool.not_eq_eq_eq_not,
    Bool.not_true, Bool.not_eq_true]
  exact ⟨fun ⟨a, b, c⟩ => ⟨⟨c, b⟩, a⟩, fun ⟨⟨c, b⟩, a⟩ => ⟨a, b, c⟩⟩

theorem roomVersionIdValidate_ok_iff {s : Str} :
    roomVersionIdValidate s = .ok () ↔
      (nonEmptyAll roomVersionChar s && decide (codePoints s ≤ 32)) = true := by
  simp only [roomVersionIdValidate, ite_err_eq_ok, nonEmptyAll,
    List.all_congr rfl roomVersionChar_eq, codePoints_eq, Bool.not_eq_true', Bool.not_eq_false, Bool.and_eq_true, and_true,
    List.isEmpty_eq_false_iff, ne_eq, decide_eq_true_eq, Nat.not_lt]
  exact ⟨fun ⟨a, b, c⟩ => ⟨⟨a, c⟩, b⟩, fun ⟨⟨a, c⟩, b⟩ => ⟨a, b, c⟩⟩

/-- At most 32 bytes are at most 32 code points. -/
theorem roomVersionIdValidate_of_gram {s : Str}
    (h : (nonEmptyAll (fun b => alnum b || oneOf ".-" b) s && decide (s.length ≤ 32)) = true) :
    roomVersionIdValidate s = .ok () := by
  rw [Bool.and_eq_true, decide_eq_true_eq] at h
  refine roomVersionIdValidate_ok_iff.2 (Bool.and_eq_true _ _ ▸ ⟨h.1, decide_eq_true ?_⟩)
  exact Nat.le_trans (List.length_filter_le _ _) h.2

theorem struct_of_nonEmptyAll {x : Ext} {p set : Nat → Bool} {s : Str}
    (hp : ∀ b, p b = true → set b = true ∧ b < 128) (h : nonEmptyAll p s = true) :
    (!s.isEmpty && asciiIn set s) = true ∧ UniOk x s := by
  obtain ⟨hne, hall⟩ := nonEmptyAll_iff.1 h
  refine ⟨?_, .of_ascii fun b hb => (hp b (hall b hb)).2⟩
  rw [Bool.and_eq_true, Bool.not_eq_true', List.isEmpty_eq_false_iff, asciiIn, List.all_eq_true]
  exact ⟨hne, fun b hb => by rw [(hp b (hall b hb)).1, Bool.or_true]⟩

theorem lt_of_alnum_or {extra : Nat → Bool} {b : Nat} (hextra : extra b = true → b < 128)
    (h : (isAlnum b || extra b) = true) : b < 128 := by
  rcases Bool.or_eq_true _ _ ▸ h with h | h
  · exact isAlnum_lt h
  · exact hextra h

theorem serverSigningKeyVersionValidate_of_gram {x : Ext} {n : Str}
    (h : nonEmptyAll (fun b => alnum b || b == 95) n = true) :
    serverSigningKeyVersionValidate x n = .ok () :=
  serverSigningKeyVersionValidate_ok_iff.2
    (struct_of_nonEmptyAll (set := keyVersionChar) (fun b hb =>
      ⟨hb, lt_of_alnum_or (extra := (· == 95)) (fun e => by simp only [beq_iff_eq] at e; omega)
        (keyVersionChar_eq b ▸ hb)⟩) h)

theorem base64PublicKeyValidate_of_gram {x : Ext} {n : Str} (h : nonEmptyAll base64Char n = true) :
    base64PublicKeyValidate x n = .ok () := by
  refine base64PublicKeyValidate_ok_iff.2 (struct_of_nonEmptyAll (fun b hb => ?_) h)
  have hpad : base64PadChar b = true := by
    rw [base64Char, oneOf_ofList] at hb
    rw [base64PadChar_eq, ← alnum_eq]
    simp only [List.map, Char.reduceToNat, List.contains_cons, List.contains_nil, Bool.or_false,
      Bool.or_eq_true] at hb ⊢
    rcases hb with hb | hb | hb
    · exact .inl hb
    · exact .inr (.inl (.inl hb))
    · exact .inr (.inl (.inr hb))
  refine ⟨hpad, lt_of_alnum_or (extra := fun b => b == 43 || b == 47 || b == 61) (fun e => ?_)
    (base64PadChar_eq b ▸ hpad)⟩
  simp only [Bool.or_eq_true, beq_iff_eq] at e
  omega

theorem clientSecretValidate_of_gram {x : Ext} {s : Str}
    (h : (nonEmptyAll (fun b => alnum b || oneOf ".=_-" b) s && max255 s) = true) :
    clientSecretValidate x s = .ok () := by
  rw [Bool.and_eq_true] at h
  obtain ⟨h1, h2⟩ := struct_of_nonEmptyAll (x := x) (set := secretChar) (fun b hb =>
    ⟨hb, lt_of_alnum_or (extra := secretByteExtra) (fun e => by
      simp only [secretByteExtra, Bool.or_eq_true, beq_iff_eq] at e; omega)
      (secretChar_eq b ▸ hb)⟩) h.1
  rw [Bool.and_eq_true] at h1
  exact clientSecretValidate_ok_iff.2 ⟨by rw [h1.1, h.2, h1.2]; rfl, h2⟩

theorem delimitedValidate_of_delimited {x : Ext} {host lpOk : Str → Bool} {sigil : Nat} {s : Str}
    (hs : Sep s) (hsig : sigil ≠ 58) (hlt : sigil < 128) (hh : ∀ h, host h = true → HostOk x h)
    (hlp : ∀ l, lpOk l = true → 58 ∉ l ∧ 0 ∉ l)
    (hg : (max255 s && delimited sigil lpOk (withPort host) s) = true)
    (hp : delimited sigil (fun _ => true) (portTooBig host) s = false) :
    delimitedValidate x sigil s = .ok () := by
  rw [Bool.and_eq_true] at hg
  obtain ⟨lp, srv, hd, hl⟩ := delimOk_of_delimited hh (fun l hl => (hlp l hl).1) hg.1 hg.2 hp
  exact delimitedValidate_of_delimOk hs hsig hlt hd (hlp lp hl).2

theorem eventIdValidate_of_delimited {x : Ext} {host lpOk : Str → Bool} {s : Str} (hs : Sep s)
    (hh : ∀ h, host h = true → HostOk x h) (hlp : ∀ l, lpOk l = true → 58 ∉ l)
    (hlen : max255 s = true) (hd : delimited 36 lpOk (withPort host) s = true)
    (hp : delimited 36 (fun _ => true) (portTooBig host) s = false) :
    eventIdValidate x s = .ok () := by
  obtain ⟨lp, srv, hdo, _⟩ := delimOk_of_delimited hh hlp hlen hd hp
  exact (eventIdValidate_ok_iff hs).2 (.inl ⟨lp, srv, hdo⟩)

theorem mxcValidate_of_mxc {x : Ext} {host mediaOk : Str → Bool} {s : Str} (hs : Sep s)
    (hh : ∀ h, host h = true → HostOk x h) (hslash : ∀ h, host h = true → 47 ∉ h)
    (hmed : ∀ m, mediaOk m = true → m.all mediaChar = true)
    (hg : mxc (withPort host) mediaOk s = true)
    (hp : mxc (portTooBig host) (fun _ => true) s = false) :
    (mxcValidate x s).void = .ok () := by
  obtain ⟨srv, media, rfl, hsrv, hm⟩ := mxc_iff.1 hg
  have hpb : portTooBig host srv = false := Bool.eq_false_iff.2 fun hb => by
    rw [mxc_iff.2 ⟨srv, media, rfl, hb, rfl⟩] at hp; cases hp
  exact (mxcValidate_void_ok_iff hs).2 ⟨srv, media, rfl, withPort_not_mem (.inr rfl) hslash hsrv,
    List.all_congr (l₁ := media) rfl mediaChar_eq ▸ hmed media hm, serverOk_of_withPort hh hsrv hpb⟩

theorem keyIdValidate_of_cutAt {x : Ext} {kk : KeyNameKind} {algOk nameOk : Str → Bool} {s : Str}
    (hs : Sep s) (halg : ∀ a, algOk a = true → a ≠ [] ∧ 58 ∉ a)
    (hname : ∀ a n, s = a ++ 58 :: n → nameOk n = true → keyNameValidate x kk n = .ok ())
    (hc : cutAt 58 algOk nameOk s = true) : (keyIdValidate x kk s).void = .ok () := by
  obtain ⟨alg, name, rfl, ha, hn⟩ := cutAt_iff.1 hc
  exact (keyIdValidate_void_ok_iff hs).2
    ⟨alg, name, rfl, (halg alg ha).2, (halg alg ha).1, hname alg name rfl hn⟩

theorem cutAt_of_keyIdValidate {x : Ext} {kk : KeyNameKind} {nameOk : Str → Bool} {s : Str}
    (hs : Sep s) (hv : (keyIdValidate x kk s).void = .ok ())
    (hn : ∀ n, keyNameValidate x kk n = .ok () → nameOk n = true) :
    cutAt 58 (fun alg => !alg.isEmpty && alg.all (· != 58)) nameOk s = true := by
  obtain ⟨alg, name, rfl, hc, hne, hkn⟩ := (keyIdValidate_void_ok_iff hs).1 hv
  refine cutAt_iff.2 ⟨alg, name, rfl, ?_, hn name hkn⟩
  rw [Bool.and_eq_true, Bool.not_eq_true', List.isEmpty_eq_false_iff]
  exact ⟨hne, all_ne_iff.2 hc⟩

theorem structAlg_facts {a : Str} (h : (!a.isEmpty && a.all (· != 58)) = true) :
    a ≠ [] ∧ 58 ∉ a := by
  rw [Bool.and_eq_true, Bool.not_eq_true', List.isEmpty_eq_false_iff] at h
  exact ⟨h.1, all_ne_iff.1 h.2⟩

theorem gramAlg_facts {a : Str}
    (h : nonEmptyAll (fun b => lower b || digit b || oneOf "_." b) a = true) : a ≠ [] ∧ 58 ∉ a := by
  obtain ⟨hne, hall⟩ := nonEmptyAll_iff.1 h
  exact ⟨hne, fun hm => absurd (hall 58 hm) (by decide +kernel)⟩

/-- 43 base64 characters after the sigil: no colon, no NUL. -/
theorem hashId_facts {sigil : Nat} {s : Str} (h : hashId sigil s = true) :
    ∃ t, s = sigil :: t ∧ 58 ∉ t ∧ 0 ∉ t := by
  cases s with
  | nil => cases h
  | cons c t =>
    simp only [hashId, Bool.and_eq_true, beq_iff_eq, Bool.or_eq_true, List.all_eq_true] at h
    obtain ⟨⟨rfl, _⟩, hchars⟩ := h
    have out : ∀ b, base64Char b = false → base64UrlChar b = false → b ∉ t := fun b h1 h2 hm =>
      hchars.elim (fun h => by rw [h b hm] at h1; cases h1)
        (fun h => by rw [h b hm] at h2; cases h2)
    exact ⟨t, rfl, out 58 (by decide +kernel) (by decide +kernel),
      out 0 (by decide +kernel) (by decide +kernel)⟩

theorem roomIdValidate_of_gramRoom {x : Ext} {s : Str} (hg : gramRoom x.isIpv6 s = true) :
    roomIdValidate s = .ok () := by
  simp only [gramRoom, Bool.and_eq_true, Bool.or_eq_true, max255, decide_eq_true_eq] at hg
  obtain ⟨hlen, hd | hh⟩ := hg
  · obtain ⟨l, srv, rfl, h1, hgs⟩ := delimited_iff.1 hd
    have hsrv0 : 0 ∉ srv :=
      withPort_not_mem (.inl (by decide)) (fun _ => gramHost_not_mem (.inl (by decide))) hgs
    exact roomIdValidate_ok_iff.2 ⟨hlen, rfl, by simp [(nonEmptyLocalpart_facts h1).2, hsrv0]⟩
  · obtain ⟨t, rfl, _, h0⟩ := hashId_facts hh
    exact roomIdValidate_ok_iff.2 ⟨hlen, rfl, by simp [h0]⟩

theorem eventIdValidate_of_gram {x : Ext} {s : Str} (hs : Sep s)
    (hg : (max255 s && (delimited 36 (fun lp => !lp.isEmpty && localpartOk lp)
        (gramServerName x.isIpv6) s || hashId 36 s)) = true)
    (hp : delimited 36 (fun _ => true) (portTooBig (gramHost x.isIpv6)) s = false) :
    eventIdValidate x s = .ok () := by
  simp only [Bool.and_eq_true, Bool.or_eq_true] at hg
  obtain ⟨hlen, hd | hh⟩ := hg
  · exact eventIdValidate_of_delimited hs (fun _ => hostOk_of_gramHost)
      (fun l hl => (nonEmptyLocalpart_facts hl).1) hlen hd hp
  · obtain ⟨t, rfl, h58, _⟩ := hashId_facts hh
    exact (eventIdValidate_ok_iff hs).2 (.inr ⟨by simp [h58], of_decide_eq_true hlen, rfl⟩)

end Ruma.Ids
