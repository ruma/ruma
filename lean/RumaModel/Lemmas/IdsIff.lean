/-
  C10 helper lemmas, part 9: an accepted identifier has no cut whose server part carries a port above
  65535 — the exclusion of "in the specification's predicate ⇒ accepted" is exact. `hasBigPort`
  (recommended grammar) and `structBigPort` (required structure) differ only in the host predicate,
  which is a variable here.
-/
import RumaModel.Lemmas.IdsIp
namespace Ruma.Ids
open Ruma Spec.IdGrammar

theorem portTooBig_suffix {host : Str → Bool} {t : Str} (h : portTooBig host t = true) :
    ∃ A p, t = A ++ 58 :: p ∧ host A = true ∧ isPort p = true ∧ portValue p > 65535 := by
  obtain ⟨A, p, rfl, hA, hq⟩ := cutAt_iff.1 h
  simp only [Bool.and_eq_true, decide_eq_true_eq] at hq
  exact ⟨A, p, rfl, hA, hq.1, hq.2⟩

theorem isPort_no_colon {p : Str} (h : isPort p = true) : 58 ∉ p := fun hm => by
  simp only [isPort, Bool.and_eq_true, List.all_eq_true] at h
  exact absurd (h.2 58 hm) (by decide)

theorem last_colon_unique {a a' p p' : Str} (hp : 58 ∉ p) (hp' : 58 ∉ p')
    (e : a ++ 58 :: p = a' ++ 58 :: p') : a = a' ∧ p = p' := by
  have e2 := congrArg List.reverse e
  simp only [List.reverse_append, List.reverse_cons, List.append_assoc, List.singleton_append] at e2
  have := cut_unique (by simpa using hp) (by simpa using hp') e2
  exact ⟨List.reverse_inj.1 this.2, List.reverse_inj.1 this.1⟩

theorem serverOk_not_bigPort {x : Ext} {s : Str} {host : Str → Bool} (h : ServerOk x s) :
    portTooBig host s = false := by
  rw [Bool.eq_false_iff]
  intro hb
  obtain ⟨h', p', rfl, _, hport, hbig⟩ := portTooBig_suffix hb
  have hp' := isPort_no_colon hport
  obtain ⟨h, hh, e | ⟨p, e, hp⟩⟩ := h
  · -- no port: the host would contain `:` followed by digits up to its end
    cases hh with
    | name h hne hall =>
      exact absurd (hall 58 (by rw [← e]; simp)) (by decide)
    | v6 c hn hv =>
      -- `p'` and `]` are suffixes of the host, so `]` is the last of the digits `p'`
      have h1 : p' <:+ 91 :: (c ++ [93]) := ⟨h' ++ [58], by rw [← e]; simp⟩
      have h2 : [93] <:+ 91 :: (c ++ [93]) := ⟨91 :: c, rfl⟩
      simp only [isPort, Bool.and_eq_true, decide_eq_true_eq, List.all_eq_true] at hport
      have hm : 93 ∈ p' := (List.suffix_of_suffix_length_le h2 h1 hport.1.1).subset (by simp)
      exact absurd (hport.2 93 hm) (by decide)
  · have hp58 : 58 ∉ p := fun hm => isDigit_ne_colon (isValidPort_digits hp 58 hm) rfl
    obtain ⟨_, rfl⟩ := last_colon_unique hp' hp58 e
    have := (isValidPort_iff.1 hp).2
    omega

/-- Two cuts of the same string at a colon, the first with a colon-free front: the back of the
first cut ends with the colon and the back of the second. -/
theorem back_suffix_of_cut {W lp srv p : Str} (hW : 58 ∈ W) (hlp : 58 ∉ lp)
    (e : W ++ 58 :: p = lp ++ 58 :: srv) : ∃ Y, srv = Y ++ 58 :: p := by
  obtain ⟨w1, w2, rfl, hw⟩ := List.eq_append_cons_of_mem hW
  exact ⟨w2, (cut_unique hw hlp (by simpa using e)).2.symm⟩

theorem delimOk_not_bigPort {x : Ext} {sigil : Nat} {s lp srv : Str} {host : Str → Bool}
    (h : DelimOk x sigil s lp srv) :
    delimited sigil (fun _ => true) (portTooBig host) s = false := by
  rw [Bool.eq_false_iff]
  intro hb
  obtain ⟨rfl, _, hlp, hsrv⟩ := h
  obtain ⟨l', t, e, _, ht⟩ := delimited_iff.1 hb
  obtain ⟨A, p, rfl, _, hport, hbig⟩ := portTooBig_suffix ht
  have e2 : (l' ++ 58 :: A) ++ 58 :: p = lp ++ 58 :: srv := by
    have := List.cons.inj e
    simpa using this.2.symm
  obtain ⟨Y, rfl⟩ := back_suffix_of_cut (by simp) hlp e2
  have : portTooBig (fun _ => true) (Y ++ 58 :: p) = true :=
    cutAt_iff.2 ⟨Y, p, rfl, rfl, by simp [hport]; exact hbig⟩
  rw [serverOk_not_bigPort hsrv] at this
  cases this

theorem mxcOk_not_bigPort {x : Ext} {s srv media : Str} {host : Str → Bool}
    (hh : ∀ A, host A = true → 47 ∉ A) (h : MxcOk x s srv media) :
    mxc (portTooBig host) (fun _ => true) s = false := by
  rw [Bool.eq_false_iff]
  intro hb
  obtain ⟨rfl, hns, _, hsrv⟩ := h
  obtain ⟨srv', m', e, hbig, _⟩ := mxc_iff.1 hb
  obtain ⟨A, p, rfl, hA, hport, hv⟩ := portTooBig_suffix hbig
  have hns' : 47 ∉ A ++ 58 :: p :=
    withPort_not_mem (.inr rfl) hh (withPort_iff.2 ⟨A, hA, .inr ⟨p, rfl, hport⟩⟩)
  -- both cuts are at the first slash
  have hbp : portTooBig (fun _ => true) srv = true := by
    rw [(cut_unique hns hns' (List.append_cancel_left e)).1]
    exact cutAt_iff.2 ⟨A, p, rfl, rfl, by simp [hport]; exact hv⟩
  rw [serverOk_not_bigPort hsrv] at hbp
  cases hbp

/-- `hasBigPort` / `structBigPort` with the host predicate as a variable. -/
def bigPortWith (host : Str → Bool) : Kind → Str → Bool
  | .server, s => portTooBig host s
  | .user, s => delimited 64 (fun _ => true) (portTooBig host) s
  | .alias, s => delimited 35 (fun _ => true) (portTooBig host) s
  | .roomOrAlias, s => delimited 35 (fun _ => true) (portTooBig host) s
  | .event, s => delimited 36 (fun _ => true) (portTooBig host) s
  | .mxc, s => mxc (portTooBig host) (fun _ => true) s
  | _, _ => false

theorem hasBigPort_eq (v6 : Str → Bool) (k : Kind) (s : Str) :
    hasBigPort v6 k s = bigPortWith (gramHost v6) k s := by
  cases k <;> rfl

theorem structBigPort_eq (v6 : Str → Bool) (k : Kind) (s : Str) :
    structBigPort v6 k s = bigPortWith (structHost v6) k s := by
  cases k <;> rfl

theorem accepted_not_bigPort {x : Ext} {host : Str → Bool} {k : Kind} {s : Str}
    (hh : ∀ A, host A = true → 47 ∉ A) (hs : Sep s) (hv : validate x k s = .ok ()) :
    bigPortWith host k s = false := by
  have delim : ∀ sigil, sigil ≠ 58 → sigil < 128 → delimitedValidate x sigil s = .ok () →
      delimited sigil (fun _ => true) (portTooBig host) s = false := fun sigil h1 h2 hv => by
    obtain ⟨lp, srv, hd, _⟩ := (delimitedValidate_ok_iff hs h1 h2).1 hv
    exact delimOk_not_bigPort hd
  cases k with
  | user => exact delim 64 (by decide) (by decide) hv
  | alias => exact delim 35 (by decide) (by decide) hv
  | roomOrAlias =>
    rcases roomOrAliasIdValidate_ok_iff.1 hv with ⟨hh, _⟩ | ⟨_, hv⟩
    · refine Bool.eq_false_iff.2 fun hb => ?_
      obtain ⟨l, t, rfl, _⟩ := delimited_iff.1 hb
      cases hh
    · exact delim 35 (by decide) (by decide) hv
  | event =>
    rcases (eventIdValidate_ok_iff hs).1 hv with ⟨lp, srv, hd⟩ | ⟨hc, _, _⟩
    · exact delimOk_not_bigPort hd
    · refine Bool.eq_false_iff.2 fun hb => ?_
      obtain ⟨l, t, rfl, _⟩ := delimited_iff.1 hb
      exact hc (by simp)
  | server => exact serverOk_not_bigPort ((serverNameValidate_ok_iff hs).1 hv)
  | mxc =>
    obtain ⟨srv, media, hok⟩ := (mxcValidate_void_ok_iff hs).1 hv
    exact mxcOk_not_bigPort hh hok
  | room | keyAny | keyVersion | keyBase64 | roomVersion | signingKeyVersion | base64PublicKey
  | clientSecret | sessionId => rfl

end Ruma.Ids
