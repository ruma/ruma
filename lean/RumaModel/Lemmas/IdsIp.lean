/-
  C10 helper lemmas, part 8: the reference `Ipv6Addr` / `Ipv4Addr` parsers (`Model/IdsIp.lean`) only
  consume characters of the specification's `IPv6char` set, between 2 and 45 of them; what follows
  for the hosts of an `Ext` whose IPv6 parser accepts no more than the reference.
-/
import RumaModel.Lemmas.IdsCtor
import RumaModel.Model.IdsIp
namespace Ruma.Ids
open Ruma Spec.IdGrammar

/-- What a sub-parser consumed: `s = c ++ r` with every byte of `c` an `IPv6char` and
`lo ≤ |c| ≤ hi`. -/
def Consumed (lo hi : Nat) (s r : Str) : Prop :=
  ∃ c, s = c ++ r ∧ (∀ b ∈ c, ipv6Char b = true) ∧ lo ≤ c.length ∧ c.length ≤ hi

theorem Consumed.trans {a b a' b' : Nat} {s r t : Str}
    (h1 : Consumed a b s r) (h2 : Consumed a' b' r t) : Consumed (a + a') (b + b') s t := by
  obtain ⟨c, rfl, hc2, hc3, hc4⟩ := h1
  obtain ⟨d, rfl, hd2, hd3, hd4⟩ := h2
  refine ⟨c ++ d, by simp, fun x hx => ?_, by simp; omega, by simp; omega⟩
  rcases List.mem_append.1 hx with hx | hx
  · exact hc2 x hx
  · exact hd2 x hx

theorem readDigits_spec {dig : Nat → Bool} {max : Nat} {s rest : Str} {acc cnt v cnt' : Nat}
    (h : readDigits dig max s acc cnt = some (v, cnt', rest)) (hm : cnt ≤ max) :
    ∃ c, s = c ++ rest ∧ (∀ b ∈ c, dig b = true) ∧ cnt' = cnt + c.length ∧ cnt' ≤ max := by
  induction s generalizing acc cnt with
  | nil => cases h; exact ⟨[], rfl, nofun, rfl, hm⟩
  | cons b t ih =>
    unfold readDigits at h
    by_cases hd : dig b = true
    · rw [if_pos hd] at h
      by_cases hc : cnt + 1 > max
      · rw [if_pos hc] at h; cases h
      · rw [if_neg hc] at h
        obtain ⟨c, rfl, hc2, rfl, hc4⟩ := ih h (by omega)
        exact ⟨b :: c, rfl, List.forall_mem_cons.2 ⟨hd, hc2⟩, by simp; omega, hc4⟩
    · rw [if_neg hd] at h
      cases h
      exact ⟨[], rfl, nofun, rfl, hm⟩

theorem readDigits_consumed {dig : Nat → Bool} {max v cnt : Nat} {s rest : Str}
    (hdig : ∀ b, dig b = true → ipv6Char b = true)
    (h : readDigits dig max s 0 0 = some (v, cnt, rest)) (hc : cnt ≠ 0) :
    Consumed 1 max s rest := by
  obtain ⟨c, h1, h2, h3, h4⟩ := readDigits_spec h (Nat.zero_le _)
  exact ⟨c, h1, fun b hb => hdig b (h2 b hb), by omega, by omega⟩

theorem hexDigit_ipv6Char {b : Nat} (h : hexDigit b = true) : ipv6Char b = true := by
  simp only [hexDigit, Bool.or_eq_true, Bool.and_eq_true, decide_eq_true_eq] at h
  simp only [ipv6Char, isDigit_eq, Bool.or_eq_true, decide_eq_true_eq]
  rcases h with (h | h) | h
  · exact .inl (.inl (.inl h))
  · exact .inl (.inr h)
  · exact .inl (.inl (.inr h))

theorem readHexGroup_consumed (s r : Str) (h : readHexGroup s = some r) : Consumed 1 4 s r := by
  unfold readHexGroup at h
  split at h
  · cases h
  · next v cnt rest hd =>
    split at h
    · cases h
    · next hc => cases h; exact readDigits_consumed (fun _ => hexDigit_ipv6Char) hd hc

theorem readOctet_consumed (s r : Str) (h : readOctet s = some r) : Consumed 1 3 s r := by
  unfold readOctet at h
  split at h
  · cases h
  · next v cnt rest hd =>
    have hdig : ∀ b, isDigit b = true → ipv6Char b = true := fun b hb => by
      simp [ipv6Char, isDigit_eq, hb]
    split at h
    · cases h
    · next hc =>
      split at h
      · cases h
      · split at h
        · cases h; exact readDigits_consumed hdig hd hc
        · cases h

theorem ipv6Char_colon : ipv6Char 58 = true := by decide +kernel

/-- `read_separator`: the separator is expected in front of every item but the first. -/
theorem readSep_spec {lo hi sep i : Nat} {inner : Str → Option Str} {s r : Str}
    (hin : ∀ s r, inner s = some r → Consumed lo hi s r) (hsep : ipv6Char sep = true)
    (h : readSep sep i inner s = some r) : Consumed (lo + min i 1) (hi + min i 1) s r := by
  unfold readSep at h
  by_cases hi0 : i > 0
  · rw [if_pos hi0] at h
    rw [Nat.min_eq_right hi0]
    cases s with
    | nil => cases h
    | cons c t =>
      dsimp only at h
      by_cases hc : c = sep
      · rw [if_pos hc] at h
        obtain ⟨d, rfl, hd2, hd3, hd4⟩ := hin _ _ h
        exact ⟨c :: d, rfl, List.forall_mem_cons.2 ⟨hc ▸ hsep, hd2⟩, Nat.succ_le_succ hd3,
          Nat.succ_le_succ hd4⟩
      · rw [if_neg hc] at h; cases h
  · rw [if_neg hi0] at h
    obtain rfl : i = 0 := by omega
    exact hin _ _ h

theorem readIpv4_consumed (s r : Str) (h : readIpv4 s = some r) : Consumed 7 15 s r := by
  simp only [readIpv4, Option.bind_eq_some_iff] at h
  obtain ⟨r0, h0, r1, h1, r2, h2, h3⟩ := h
  have c := fun i s r =>
    readSep_spec (sep := 46) (i := i) (s := s) (r := r) readOctet_consumed (by decide +kernel)
  exact (((c 0 _ _ h0).trans (c 1 _ _ h1)).trans (c 2 _ _ h2)).trans (c 3 _ _ h3)

/-- What `read_groups` consumed, in terms of the number `k` of groups it reports: a group is at
most four hex digits, an embedded IPv4 address counts as two groups and is at most 15 characters,
and every item but the first of the address has a `:` in front. -/
theorem readGroupsFrom_spec {limit n i cnt : Nat} {s r : Str} {v4 : Bool}
    (h : readGroupsFrom limit n i s = (cnt, v4, r)) (hl : i + n = limit) :
    ∃ c k, s = c ++ r ∧ (∀ b ∈ c, ipv6Char b = true) ∧ cnt = i + k ∧ cnt ≤ limit
      ∧ k ≤ c.length ∧ c.length ≤ 5 * k + min i 1 + 5 ∧ (v4 = false → c.length ≤ 5 * k) := by
  induction n generalizing i s with
  | zero =>
    cases h
    exact ⟨[], 0, rfl, nofun, rfl, Nat.le_of_eq hl, Nat.le_refl _, Nat.zero_le _,
      fun _ => Nat.le_refl _⟩
  | succ n ih =>
    have hm : min i 1 ≤ 1 := Nat.min_le_right ..
    unfold readGroupsFrom at h
    split at h
    · next rest h4 =>
      cases h
      split at h4
      · obtain ⟨c, h1, h2, h3, h5⟩ := readSep_spec readIpv4_consumed ipv6Char_colon h4
        exact ⟨c, 2, h1, h2, rfl, by omega, by omega, by omega, nofun⟩
      · cases h4
    · split at h
      · next rest hg =>
        obtain ⟨c, rfl, h2, h3, h5⟩ := readSep_spec readHexGroup_consumed ipv6Char_colon hg
        obtain ⟨d, k, rfl, d2, rfl, d4, d5, d6, d7⟩ := ih h ((Nat.add_right_comm i 1 n).trans hl)
        rw [Nat.min_eq_right (Nat.le_add_left 1 i)] at d6
        generalize min i 1 = m at h3 h5 hm ⊢
        have hl : (c ++ d).length = c.length + d.length := List.length_append
        refine ⟨c ++ d, k + 1, by simp, fun x hx => ?_, Nat.add_right_comm i 1 k, d4, by omega,
          by omega, fun hv => by have := d7 hv; omega⟩
        rcases List.mem_append.1 hx with hx | hx
        · exact h2 x hx
        · exact d2 x hx
      · cases h
        exact ⟨[], 0, rfl, nofun, rfl, by omega, Nat.le_refl _, Nat.zero_le _,
          fun _ => Nat.le_refl _⟩

theorem readGroups_spec {limit cnt : Nat} {v4 : Bool} {s r : Str}
    (h : readGroups limit s = (cnt, v4, r)) :
    ∃ c, s = c ++ r ∧ (∀ b ∈ c, ipv6Char b = true) ∧ cnt ≤ limit ∧ cnt ≤ c.length
      ∧ c.length ≤ 5 * cnt + 5 ∧ (v4 = false → c.length ≤ 5 * cnt) := by
  obtain ⟨c, k, h1, h2, h3, h4, h5, h6, h7⟩ := readGroupsFrom_spec h (Nat.zero_add _)
  rw [Nat.zero_add] at h3
  subst h3
  exact ⟨c, h1, h2, h4, h5, h6, h7⟩

/-- Every string the reference `Ipv6Addr` parser accepts is `2*45IPv6char` of the specification's
server-name grammar: 2 to 45 characters, each a hex digit, `:` or `.`. The longest form is six
groups and an IPv4 address, `4 + 5 * 5 + 16`. -/
theorem ipv6Ref_chars {s : Str} (h : ipv6Ref s = true) :
    (∀ b ∈ s, ipv6Char b = true) ∧ 2 ≤ s.length ∧ s.length ≤ 45 := by
  simp only [ipv6Ref, beq_iff_eq, readIpv6] at h
  rcases hg : readGroups 8 s with ⟨hs, h4, r⟩
  obtain ⟨c, rfl, c2, c3, c4, c5, c6⟩ := readGroups_spec hg
  rw [hg] at h
  by_cases h8 : hs = 8
  · simp only [h8, if_true, Option.some.injEq] at h
    subst h h8
    exact ⟨by simpa using c2, by simp; omega, by simp; omega⟩
  · simp only [h8, if_false] at h
    cases h4 with
    | true => cases h
    | false =>
      simp only [Bool.false_eq_true, if_false] at h
      split at h
      · next r2 =>
        rcases ht : readGroups (8 - (hs + 1)) r2 with ⟨ts, t4, r3⟩
        obtain ⟨d, rfl, d2, d3, d4, d5, _⟩ := readGroups_spec ht
        simp only [ht, Option.some.injEq] at h
        subst h
        have := c6 rfl
        refine ⟨fun x hx => ?_, by simp; omega, by simp; omega⟩
        simp only [List.append_nil, List.mem_append, List.mem_cons] at hx
        rcases hx with hx | rfl | rfl | hx
        · exact c2 x hx
        · exact ipv6Char_colon
        · exact ipv6Char_colon
        · exact d2 x hx
      · cases h

/-- The IPv6 parameter accepts no more than the reference parser. -/
def Ipv6Sound (x : Ext) : Prop := ∀ c, x.isIpv6 c = true → ipv6Ref c = true

theorem hostOk_of_structHost {x : Ext} {h : Str} (hx : Ipv6Sound x)
    (hg : structHost x.isIpv6 h = true) : HostOk x h := by
  rw [structHost, Bool.or_eq_true] at hg
  rcases hg with hn | hb
  · obtain ⟨hne, hall⟩ := nonEmptyAll_dnsChar.1 hn
    exact .name h hne hall
  · obtain ⟨c, rfl, hq⟩ := bracketed_iff.1 hb
    exact .v6 c (fun hm => absurd ((ipv6Ref_chars (hx c hq)).1 93 hm) (by decide +kernel)) hq

theorem gramHost_of_hostOk {x : Ext} {h : Str} (hx : Ipv6Sound x) (hh : HostOk x h)
    (hl : h.length ≤ 255) : gramHost x.isIpv6 h = true := by
  simp only [gramHost, Bool.or_eq_true, Bool.and_eq_true, decide_eq_true_eq]
  cases hh with
  | name h hne hall => exact .inl ⟨nonEmptyAll_dnsChar.2 ⟨hne, hall⟩, hl⟩
  | v6 c hn hv =>
    obtain ⟨h1, h2, h3⟩ := ipv6Ref_chars (hx c hv)
    refine .inr (bracketed_iff.2 ⟨c, rfl, ?_⟩)
    simp only [Bool.and_eq_true, decide_eq_true_eq, List.all_eq_true]
    exact ⟨⟨⟨h2, h3⟩, h1⟩, hv⟩

theorem gramServerName_of_serverOk {x : Ext} {s : Str} (hx : Ipv6Sound x) (h : ServerOk x s)
    (hl : s.length ≤ 255) : gramServerName x.isIpv6 s = true :=
  withPort_of_serverOk (fun _ hok hle => gramHost_of_hostOk hx hok (by omega)) h

theorem structHost_not_mem {x : Ext} {h : Str} {c : Nat} (hx : Ipv6Sound x)
    (hc : c < 45 ∨ c = 47) (hg : structHost x.isIpv6 h = true) : c ∉ h := by
  intro hm
  cases hostOk_of_structHost hx hg with
  | name h hne hall =>
    have := hall c hm
    rw [not_hostByte hc] at this; cases this
  | v6 r hn hv =>
    simp only [List.mem_cons, List.mem_append, List.not_mem_nil, or_false] at hm
    rcases hm with rfl | hm | rfl
    · omega
    · have := (ipv6Ref_chars (hx r hv)).1 c hm
      rw [not_ipv6Char hc] at this; cases this
    · omega

end Ruma.Ids
