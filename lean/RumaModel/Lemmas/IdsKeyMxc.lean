/-
  C10 helper lemmas, part 4: key IDs, MXC URIs and the opaque identifier types.
-/
import RumaModel.Lemmas.IdsSigil
namespace Ruma.Ids
open Ruma

/-! ### Opaque types: no panic sites at all -/

theorem ite_ne_panic {α : Type} {c : Prop} [Decidable c] {a b : Res α} (ha : a ≠ .panic)
    (hb : b ≠ .panic) : (if c then a else b) ≠ .panic := by
  split <;> assumption

theorem void_ne_panic {α : Type} {r : Res α} (h : r ≠ .panic) : r.void ≠ .panic := by
  cases r with
  | ok a => nofun
  | err => nofun
  | panic => exact absurd rfl h

theorem base64PublicKeyValidate_ne_panic {x : Ext} {s : Str} :
    base64PublicKeyValidate x s ≠ .panic :=
  ite_ne_panic nofun (ite_ne_panic nofun nofun)

theorem serverSigningKeyVersionValidate_ne_panic {x : Ext} {s : Str} :
    serverSigningKeyVersionValidate x s ≠ .panic :=
  ite_ne_panic nofun (ite_ne_panic nofun nofun)

theorem clientSecretValidate_ne_panic {x : Ext} {s : Str} : clientSecretValidate x s ≠ .panic :=
  ite_ne_panic nofun (ite_ne_panic nofun (ite_ne_panic nofun nofun))

theorem sessionIdValidate_ne_panic {s : Str} : sessionIdValidate s ≠ .panic :=
  ite_ne_panic nofun (ite_ne_panic nofun (ite_ne_panic nofun nofun))

theorem roomVersionIdValidate_ne_panic {s : Str} : roomVersionIdValidate s ≠ .panic :=
  ite_ne_panic nofun (ite_ne_panic nofun (ite_ne_panic nofun nofun))

theorem keyNameValidate_ne_panic {x : Ext} {k : KeyNameKind} {s : Str} :
    keyNameValidate x k s ≠ .panic := by
  cases k
  · nofun
  · exact serverSigningKeyVersionValidate_ne_panic
  · exact base64PublicKeyValidate_ne_panic

/-! ### Key IDs -/

/-- `alg ":" name` with a non-empty colon-free algorithm and a key name `K::validate` accepts. -/
def KeyOk (x : Ext) (k : KeyNameKind) (s alg name : Str) : Prop :=
  s = alg ++ 58 :: name ∧ 58 ∉ alg ∧ alg ≠ [] ∧ keyNameValidate x k name = .ok ()

theorem keyIdValidate_cases {x : Ext} {k : KeyNameKind} {s : Str} (hs : Sep s) :
    keyIdValidate x k s = .err ∨
      ∃ alg name, KeyOk x k s alg name ∧ keyIdValidate x k s = .ok alg.length := by
  unfold keyIdValidate
  rcases find_cases 58 s with ⟨_, hf⟩ | ⟨alg, name, rfl, hn, hf⟩
  · rw [hf]; exact .inl rfl
  · simp only [hf]
    by_cases h0 : alg.length = 0
    · exact .inl (if_pos h0)
    · simp only [if_neg h0, sliceFrom_after hs (by decide : 58 < 128)]
      cases hk : keyNameValidate x k name with
      | err => exact .inl rfl
      | panic => exact absurd hk keyNameValidate_ne_panic
      | ok u => exact .inr ⟨alg, name, ⟨rfl, hn, fun e => h0 (by rw [e]; rfl), hk⟩, rfl⟩

theorem keyIdValidate_of_keyOk {x : Ext} {k : KeyNameKind} {s alg name : Str} (hs : Sep s)
    (h : KeyOk x k s alg name) : keyIdValidate x k s = .ok alg.length := by
  obtain ⟨rfl, hn, hne, hk⟩ := h
  have h0 : alg.length ≠ 0 := fun e => hne (List.length_eq_zero_iff.1 e)
  simp only [keyIdValidate, find_append hn, if_neg h0, sliceFrom_after hs (by decide : 58 < 128),
    hk]

theorem keyIdValidate_ne_panic {x : Ext} {k : KeyNameKind} {s : Str} (hs : Sep s) :
    keyIdValidate x k s ≠ .panic := by
  rcases keyIdValidate_cases (x := x) (k := k) hs with h | ⟨_, _, _, h⟩ <;> rw [h] <;> nofun

theorem keyIdValidate_void_ok_iff {x : Ext} {k : KeyNameKind} {s : Str} (hs : Sep s) :
    (keyIdValidate x k s).void = .ok () ↔ ∃ alg name, KeyOk x k s alg name := by
  constructor
  · intro h
    rcases keyIdValidate_cases (x := x) (k := k) hs with e | ⟨alg, name, hd, _⟩
    · rw [e] at h; cases h
    · exact ⟨alg, name, hd⟩
  · rintro ⟨alg, name, hd⟩
    rw [keyIdValidate_of_keyOk hs hd]
    rfl

theorem key_accessors {x : Ext} {k : KeyNameKind} {alg name : Str}
    (hs : Sep (alg ++ 58 :: name)) (hn : 58 ∉ alg) (hk : keyNameValidate x k name = .ok ()) :
    keyAlgorithm (alg ++ 58 :: name) = .ok alg ∧ keyName x k (alg ++ 58 :: name) = .ok name :=
  ⟨by simp only [keyAlgorithm, colonIdx, find_append hn, sliceTo_at (by decide : 58 < 128)],
    by simp only [keyName, colonIdx, find_append hn, sliceFrom_after hs (by decide : 58 < 128), hk]⟩

/-! ### MXC URIs -/

/-- `"mxc://" srv "/" media`. -/
def MxcOk (x : Ext) (s srv media : Str) : Prop :=
  s = mxcPrefix ++ (srv ++ 47 :: media) ∧ 47 ∉ srv ∧ media.all mediaByteOk = true ∧ ServerOk x srv

theorem eq_prefix_of_take {s : Str} (h : s.take 6 = mxcPrefix) : s = mxcPrefix ++ s.drop 6 := by
  rw [← h, List.take_append_drop]

theorem mxcValidate_cases {x : Ext} {s : Str} (hs : Sep s) :
    mxcValidate x s = .err ∨
      ∃ srv media, MxcOk x s srv media ∧ mxcValidate x s = .ok (srv.length + 6) := by
  unfold mxcValidate
  by_cases hp : s.take 6 = mxcPrefix
  · have hs6 : Sep (s.drop 6) := hs.drop 6
    have hse := eq_prefix_of_take hp
    simp only [hp, ne_eq, not_true_eq_false, if_false]
    rcases find_cases 47 (s.drop 6) with ⟨_, hf⟩ | ⟨srv, media, he, hn, hf⟩
    · rw [hf]; exact .inl rfl
    · rw [he] at hs6 hf hse ⊢
      simp only [hf, sliceTo_at (by decide : 47 < 128), sliceFrom_after hs6 (by decide : 47 < 128)]
      by_cases hm : media.all mediaByteOk = true
      · simp only [hm, Bool.not_true, Bool.false_eq_true, if_false]
        rcases serverNameValidate_cases (x := x) hs6.of_append_left with h | ⟨h, hok⟩ <;> rw [h]
        · exact .inl rfl
        · exact .inr ⟨srv, media, ⟨hse, hn, hm, hok⟩, if_neg (by omega)⟩
      · simp only [hm]; exact .inl rfl
  · exact .inl (if_pos hp)

theorem mxcValidate_of_mxcOk {x : Ext} {s srv media : Str} (hs : Sep s)
    (h : MxcOk x s srv media) : mxcValidate x s = .ok (srv.length + 6) := by
  obtain ⟨rfl, hn, hm, hsrv⟩ := h
  have ht : (mxcPrefix ++ (srv ++ 47 :: media)).take 6 = mxcPrefix := List.take_left' rfl
  have hd : (mxcPrefix ++ (srv ++ 47 :: media)).drop 6 = srv ++ 47 :: media :=
    List.drop_left' rfl
  have hs6 : Sep (srv ++ 47 :: media) := hs.of_append_right
  have h6 : ¬ (srv.length + 6 = 0) := by omega
  simp only [mxcValidate, ht, hd, ne_eq, not_true_eq_false, if_false, find_append hn,
    sliceTo_at (by decide : 47 < 128), sliceFrom_after hs6 (by decide : 47 < 128), hm,
    Bool.not_true, Bool.false_eq_true, serverNameValidate_of_serverOk hs6.of_append_left hsrv, h6]

theorem mxcValidate_ne_panic {x : Ext} {s : Str} (hs : Sep s) : mxcValidate x s ≠ .panic := by
  rcases mxcValidate_cases (x := x) hs with h | ⟨_, _, _, h⟩ <;> rw [h] <;> nofun

theorem mxcValidate_void_ok_iff {x : Ext} {s : Str} (hs : Sep s) :
    (mxcValidate x s).void = .ok () ↔ ∃ srv media, MxcOk x s srv media := by
  constructor
  · intro h
    rcases mxcValidate_cases (x := x) hs with e | ⟨srv, media, hd, _⟩
    · rw [e] at h; cases h
    · exact ⟨srv, media, hd⟩
  · rintro ⟨srv, media, hd⟩
    rw [mxcValidate_of_mxcOk hs hd]
    rfl

theorem mxcParts_of_mxcOk {x : Ext} {s srv media : Str} (hs : Sep s) (h : MxcOk x s srv media) :
    mxcParts x s = .ok (srv, media) := by
  rw [mxcParts, mxcValidate_of_mxcOk hs h]
  obtain ⟨rfl, _⟩ := h
  have hsl : slice (mxcPrefix ++ (srv ++ 47 :: media)) 6 (srv.length + 6) = .ok srv :=
    slice_mid (p := mxcPrefix) (isBoundary_after (a := [109, 120, 99, 58, 47]) hs (by decide))
      (by decide)
  have hsf : sliceFrom (mxcPrefix ++ (srv ++ 47 :: media)) (srv.length + 6 + 1) = .ok media := by
    have e : mxcPrefix ++ (srv ++ 47 :: media) = (mxcPrefix ++ srv) ++ 47 :: media :=
      (List.append_assoc ..).symm
    have hl : srv.length + 6 = (mxcPrefix ++ srv).length := by
      rw [List.length_append, Nat.add_comm]; rfl
    rw [e] at hs ⊢
    rw [hl]
    exact sliceFrom_after hs (by decide)
  simp only [hsl, hsf]

theorem mxcParts_ne_panic {x : Ext} {s : Str} (hs : Sep s) : mxcParts x s ≠ .panic := by
  rcases mxcValidate_cases (x := x) hs with h | ⟨srv, media, hd, _⟩
  · rw [mxcParts, h]; nofun
  · rw [mxcParts_of_mxcOk hs hd]; nofun

end Ruma.Ids
