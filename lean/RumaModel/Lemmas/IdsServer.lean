/-
  C10 helper lemmas, part 2: `server_name::validate` characterised declaratively (`ServerOk`),
  the port check against the grammar's `1*5DIGIT`, and `ServerName::host` / `port`.
-/
import RumaModel.Lemmas.Ids
namespace Ruma.Ids
open Ruma

theorem isDigit_range {b : Nat} (h : isDigit b = true) : 48 ≤ b ∧ b ≤ 57 := by
  simpa [isDigit] using h

theorem hostByteOk_iff {b : Nat} : hostByteOk b = true ↔
    ((48 ≤ b ∧ b ≤ 57 ∨ 97 ≤ b ∧ b ≤ 122) ∨ 65 ≤ b ∧ b ≤ 90) ∨ b = 45 ∨ b = 46 := by
  simp only [hostByteOk, isAlnum, isDigit, isLower, isUpper, Bool.or_eq_true, Bool.and_eq_true,
    decide_eq_true_eq, beq_iff_eq, or_assoc]

theorem hostByteOk_lt {b : Nat} (h : hostByteOk b = true) : b < 128 := by
  have := hostByteOk_iff.1 h; omega

theorem isDigit_ne_colon {b : Nat} (h : isDigit b = true) : b ≠ 58 := by
  have := isDigit_range h; omega

/-- A host the code accepts: a non-empty name of letters, digits, `-`, `.`, or `[c]` with `c` an
IPv6 address (no `]` inside `c`). -/
inductive HostOk (x : Ext) : Str → Prop
  | name (h : Str) : h ≠ [] → (∀ b ∈ h, hostByteOk b = true) → HostOk x h
  | v6 (c : Str) : 93 ∉ c → x.isIpv6 c = true → HostOk x (91 :: (c ++ [93]))

/-- A server name the code accepts: a host, optionally followed by `:` and a valid port. -/
def ServerOk (x : Ext) (s : Str) : Prop :=
  ∃ h, HostOk x h ∧ (s = h ∨ ∃ p, s = h ++ 58 :: p ∧ isValidPort p = true)

theorem checkPort_nil (h : Str) : checkPort h h.length = .ok () := by
  simp [checkPort]

theorem checkPort_cons {h : Str} {b : Nat} {p : Str} (hs : Sep (h ++ b :: p)) :
    checkPort (h ++ b :: p) h.length =
      if b = 58 then (if isValidPort p then .ok () else .err) else .err := by
  unfold checkPort
  have hl : (h ++ b :: p).length ≠ h.length := by simp
  simp only [hl, if_false, List.getElem?_append_right (Nat.le_refl _), Nat.sub_self,
    List.getElem?_cons_zero]
  by_cases hb : b = 58
  · subst hb
    simp [sliceFrom_after hs (by decide : 58 < 128)]
  · simp [hb]

theorem endOfHost_name {x : Ext} {h rest : Str} (hh : (h ++ rest).head? ≠ some 91)
    (hc : 58 ∉ h) (hr : rest = [] ∨ ∃ p, rest = 58 :: p) :
    endOfHost x (h ++ rest) =
      if h ≠ [] ∧ ∀ b ∈ h, hostByteOk b = true then .ok h.length else .err := by
  have key : (decide (h.length = 0) || h.any fun b => !hostByteOk b) = true ↔
      ¬ (h ≠ [] ∧ ∀ b ∈ h, hostByteOk b = true) := by
    rw [← List.not_all_eq_any_not, ← List.all_eq_true, Bool.or_eq_true, decide_eq_true_eq,
      List.length_eq_zero_iff, Bool.not_eq_true', ← Bool.not_eq_true,
      Decidable.not_and_iff_not_or_not, ne_eq, Decidable.not_not]
  unfold endOfHost
  rw [if_neg hh]
  rcases hr with rfl | ⟨p, rfl⟩
  · simp only [List.append_nil, find_eq_none.2 hc, sliceTo_length, key, ite_not]
  · simp only [find_append hc, sliceTo_at (by decide : 58 < 128), key, ite_not]

theorem endOfHost_bracket {x : Ext} {c post : Str} (hs : Sep (91 :: (c ++ 93 :: post)))
    (h : 93 ∉ c) :
    endOfHost x (91 :: (c ++ 93 :: post)) = if x.isIpv6 c then .ok (c.length + 2) else .err := by
  unfold endOfHost
  have hf : find 93 (91 :: (c ++ 93 :: post)) = some (c.length + 1) := by
    have := find_append (c := 93) (pre := 91 :: c) (post := post) (by simp [h])
    simpa using this
  simp only [List.head?_cons, if_true, hf]
  rw [slice_one_at hs (by decide) (by decide)]

theorem split_colon (s : Str) :
    ∃ h rest, s = h ++ rest ∧ 58 ∉ h ∧ (rest = [] ∨ ∃ p, rest = 58 :: p) := by
  rcases find_cases 58 s with ⟨hn, _⟩ | ⟨pre, post, rfl, hn, _⟩
  · exact ⟨s, [], by simp, hn, .inl rfl⟩
  · exact ⟨pre, 58 :: post, rfl, hn, .inr ⟨post, rfl⟩⟩

theorem endOfHost_cases {x : Ext} {s : Str} (hs : Sep s) :
    endOfHost x s = .err ∨
      ∃ h rest, s = h ++ rest ∧ HostOk x h ∧ endOfHost x s = .ok h.length := by
  by_cases hb : s.head? = some 91
  · obtain ⟨t, rfl⟩ : ∃ t, s = 91 :: t := by
      cases s with
      | nil => cases hb
      | cons a t => cases hb; exact ⟨t, rfl⟩
    rcases find_cases 93 t with ⟨hn, _⟩ | ⟨c, post, rfl, hn, _⟩
    · have : find 93 (91 :: t) = none := find_eq_none.2 (by simp [hn])
      exact .inl (by simp [endOfHost, this])
    · rw [endOfHost_bracket hs hn]
      by_cases h6 : x.isIpv6 c = true
      · exact .inr ⟨91 :: (c ++ [93]), post, by simp, .v6 c hn h6, by simp [h6]⟩
      · exact .inl (if_neg h6)
  · obtain ⟨h, rest, rfl, hc, hr⟩ := split_colon s
    rw [endOfHost_name hb hc hr]
    by_cases hok : h ≠ [] ∧ ∀ b ∈ h, hostByteOk b = true
    · exact .inr ⟨h, rest, rfl, .name h hok.1 hok.2, if_pos hok⟩
    · exact .inl (if_neg hok)

theorem endOfHost_of_hostOk {x : Ext} {h rest : Str} (hh : HostOk x h) (hs : Sep (h ++ rest))
    (hr : rest = [] ∨ ∃ p, rest = 58 :: p) : endOfHost x (h ++ rest) = .ok h.length := by
  cases hh with
  | name h hne hall =>
    have hhead : (h ++ rest).head? ≠ some 91 := by
      cases h with
      | nil => exact absurd rfl hne
      | cons a t =>
        intro e
        cases e
        exact absurd (hall 91 (by simp)) (by decide)
    have hc : 58 ∉ h := fun hm => absurd (hall 58 hm) (by decide)
    rw [endOfHost_name hhead hc hr, if_pos ⟨hne, hall⟩]
  | v6 c hn h6 =>
    have e : 91 :: (c ++ [93]) ++ rest = 91 :: (c ++ 93 :: rest) := by simp
    rw [e] at hs ⊢
    rw [endOfHost_bracket hs hn, if_pos h6]
    simp

theorem HostOk.ne_nil {x : Ext} {h : Str} (hh : HostOk x h) : h ≠ [] := by
  cases hh with
  | name h hne _ => exact hne
  | v6 c _ _ => simp

theorem serverNameValidate_cases {x : Ext} {s : Str} (hs : Sep s) :
    serverNameValidate x s = .err ∨ (serverNameValidate x s = .ok () ∧ ServerOk x s) := by
  unfold serverNameValidate
  by_cases he : s = []
  · exact .inl (if_pos he)
  rw [if_neg he]
  rcases endOfHost_cases (x := x) hs with h | ⟨hst, rest, rfl, hh, h⟩ <;> rw [h]
  · exact .inl rfl
  show checkPort (hst ++ rest) hst.length = .err ∨ checkPort (hst ++ rest) hst.length = .ok () ∧ _
  cases rest with
  | nil =>
    rw [List.append_nil]
    exact .inr ⟨checkPort_nil hst, hst, hh, .inl rfl⟩
  | cons b p =>
    rw [checkPort_cons hs]
    by_cases hb : b = 58
    · subst hb
      rw [if_pos rfl]
      by_cases hp : isValidPort p = true
      · exact .inr ⟨if_pos hp, hst, hh, .inr ⟨p, rfl, hp⟩⟩
      · exact .inl (if_neg hp)
    · exact .inl (if_neg hb)

theorem serverNameValidate_of_serverOk {x : Ext} {s : Str} (hs : Sep s) (h : ServerOk x s) :
    serverNameValidate x s = .ok () := by
  obtain ⟨h, hh, rfl | ⟨p, rfl, hp⟩⟩ := h
  · have := endOfHost_of_hostOk (rest := []) hh (by simpa using hs) (.inl rfl)
    rw [List.append_nil] at this
    rw [serverNameValidate, if_neg hh.ne_nil, this]
    exact checkPort_nil s
  · rw [serverNameValidate, if_neg (by simp), endOfHost_of_hostOk hh hs (.inr ⟨p, rfl⟩)]
    show checkPort (h ++ 58 :: p) h.length = .ok ()
    rw [checkPort_cons hs, if_pos rfl, if_pos hp]

theorem serverNameValidate_ne_panic {x : Ext} {s : Str} (hs : Sep s) :
    serverNameValidate x s ≠ .panic := by
  rcases serverNameValidate_cases (x := x) hs with h | ⟨h, _⟩ <;> rw [h] <;> nofun

theorem serverNameValidate_ok_iff {x : Ext} {s : Str} (hs : Sep s) :
    serverNameValidate x s = .ok () ↔ ServerOk x s := by
  refine ⟨fun h => ?_, serverNameValidate_of_serverOk hs⟩
  rcases serverNameValidate_cases (x := x) hs with e | ⟨_, ok⟩
  · rw [e] at h; cases h
  · exact ok

theorem digitsVal_all {p : Str} (acc : Nat) (hd : p.all isDigit = true) :
    digitsVal p acc = some (p.foldl (fun a b => a * 10 + (b - 48)) acc) := by
  induction p generalizing acc with
  | nil => simp [digitsVal]
  | cons a t ih =>
    simp only [List.all_cons, Bool.and_eq_true] at hd
    simp [digitsVal, hd.1, ih _ hd.2]

open Spec.IdGrammar in
theorem parseU16_digits {p : Str} (hne : p ≠ []) (hd : p.all isDigit = true) :
    parseU16 p = if portValue p ≤ 65535 then some (portValue p) else none := by
  cases p with
  | nil => exact absurd rfl hne
  | cons a t =>
    have ha : isDigit a = true := by simp at hd; exact hd.1
    have h43 : a ≠ 43 := by simp [isDigit] at ha; omega
    have h45 : a ≠ 45 := by simp [isDigit] at ha; omega
    have hs : stripPlus (a :: t) = a :: t := by
      unfold stripPlus
      split
      · rename_i heq; simp at heq; exact absurd heq.1 h43
      · rfl
    unfold parseU16
    rw [if_neg (by simp [h43, h45]), hs, digitsVal_all 0 hd]
    rfl

open Spec.IdGrammar in
theorem isDigit_eq (b : Nat) : digit b = isDigit b := by
  rw [Bool.eq_iff_iff]; simp [digit, isDigit]

open Spec.IdGrammar in
theorem isValidPort_iff {p : Str} :
    isValidPort p = true ↔ isPort p = true ∧ portValue p ≤ 65535 := by
  have hall : p.all digit = p.all isDigit := by congr 1; funext b; exact isDigit_eq b
  by_cases hd : p.all isDigit = true
  · by_cases hne : p = []
    · simp [hne, isValidPort, isPort]
    · simp only [isValidPort, isPort, hall, hd, parseU16_digits hne hd, Bool.and_true,
        Bool.and_eq_true, decide_eq_true_eq]
      by_cases hv : portValue p ≤ 65535 <;> simp [hv]
  · simp [isValidPort, isPort, hall, hd]

theorem isValidPort_digits {p : Str} (h : isValidPort p = true) : ∀ b ∈ p, isDigit b = true := by
  simp only [isValidPort, Bool.and_eq_true, List.all_eq_true] at h
  exact h.1.2

/-- The index `host()` and `port()` both compute: after the first `]` if there is one, else at the
first `:`, else the end. -/
def hostEnd (s : Str) : Nat :=
  match find 93 s with
  | some i => i + 1
  | none => match find 58 s with
    | some i => i
    | none => s.length

theorem host_eq (s : Str) : host s = sliceTo s (hostEnd s) := by
  unfold host hostEnd
  cases find 93 s <;> rfl

theorem port_eq (s : Str) : port s =
    if s.length = hostEnd s then .ok none else
      match s[hostEnd s]? with
      | none => .panic
      | some b => if b ≠ 58 then .panic else
        match sliceFrom s (hostEnd s + 1) with
        | .ok p => match parseU16 p with
          | some v => .ok (some v)
          | none => .panic
        | _ => .panic := rfl

theorem hostEnd_of_hostOk {x : Ext} {h rest : Str} (hh : HostOk x h)
    (hr : rest = [] ∨ ∃ p, rest = 58 :: p ∧ isValidPort p = true) :
    hostEnd (h ++ rest) = h.length := by
  unfold hostEnd
  cases hh with
  | name h hne hall =>
    have hc : 58 ∉ h := fun hm => absurd (hall 58 hm) (by decide)
    have hb : 93 ∉ h := fun hm => absurd (hall 93 hm) (by decide)
    rcases hr with rfl | ⟨p, rfl, hp⟩
    · rw [List.append_nil, find_eq_none.2 hb, find_eq_none.2 hc]
    · have hpb : 93 ∉ p := fun hm => absurd (isValidPort_digits hp 93 hm) (by decide)
      rw [find_eq_none.2 (by simp [hb, hpb]), find_append hc]
  | v6 c hn h6 =>
    have e : 91 :: (c ++ [93]) ++ rest = (91 :: c) ++ 93 :: rest := by simp
    rw [e, find_append (by simp [hn])]
    simp

theorem host_port_of_serverOk {x : Ext} {s : Str} (hs : Sep s) (h : ServerOk x s) :
    ∃ hst, host s = .ok hst ∧
      ((port s = .ok none ∧ s = hst) ∨
        ∃ p v, port s = .ok (some v) ∧ s = hst ++ 58 :: p ∧ parseU16 p = some v) := by
  obtain ⟨hst, hh, rfl | ⟨p, rfl, hp⟩⟩ := h
  · have he := hostEnd_of_hostOk (rest := []) hh (.inl rfl)
    rw [List.append_nil] at he
    rw [host_eq, port_eq, he, sliceTo_length, if_pos rfl]
    exact ⟨s, rfl, .inl ⟨rfl, rfl⟩⟩
  · obtain ⟨v, hv⟩ : ∃ v, parseU16 p = some v := by
      simp only [isValidPort, Bool.and_eq_true] at hp
      exact Option.isSome_iff_exists.1 hp.2
    have he := hostEnd_of_hostOk (rest := 58 :: p) hh (.inr ⟨p, rfl, hp⟩)
    refine ⟨hst, by rw [host_eq, he, sliceTo_at (by decide)], .inr ⟨p, v, ?_, rfl, hv⟩⟩
    rw [port_eq, he, if_neg (by simp), List.getElem?_append_right (Nat.le_refl _)]
    simp only [Nat.sub_self, List.getElem?_cons_zero, ne_eq, not_true_eq_false, if_false]
    rw [sliceFrom_after hs (by decide)]
    simp only [hv]

end Ruma.Ids
