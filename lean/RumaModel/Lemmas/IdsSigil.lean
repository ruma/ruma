/-
  C10 helper lemmas, part 3: `parse_id` and the sigil identifiers (user, alias, room, event,
  room-or-alias): declarative characterisation, accessors.
-/
import RumaModel.Lemmas.IdsServer
namespace Ruma.Ids
open Ruma

/-- `sigil lp ":" srv` with a colon-free `lp` and an accepted server name, at most 255 bytes. -/
def DelimOk (x : Ext) (sigil : Nat) (s : Str) (lp srv : Str) : Prop :=
  s = sigil :: (lp ++ 58 :: srv) ∧ s.length ≤ 255 ∧ 58 ∉ lp ∧ ServerOk x srv

theorem validateId_ok_iff {s : Str} {sigil : Nat} :
    validateId s sigil = .ok () ↔ s.length ≤ 255 ∧ s.head? = some sigil := by
  unfold validateId
  by_cases h1 : s.length > 255
  · simp [h1]; omega
  · by_cases h2 : s.head? = some sigil
    · simp [h1, h2]; omega
    · simp [h1, h2]

theorem validateId_ne_panic {s : Str} {sigil : Nat} : validateId s sigil ≠ .panic := by
  unfold validateId
  split
  · nofun
  · split <;> nofun

theorem cut_delim {sigil : Nat} {lp srv : Str} (hs : Sep (sigil :: (lp ++ 58 :: srv)))
    (hsig : sigil ≠ 58) (hlp : 58 ∉ lp) :
    find 58 (sigil :: (lp ++ 58 :: srv)) = some (lp.length + 1)
      ∧ sliceFrom (sigil :: (lp ++ 58 :: srv)) (lp.length + 1 + 1) = .ok srv := by
  have e : sigil :: (lp ++ 58 :: srv) = (sigil :: lp) ++ 58 :: srv := rfl
  rw [e] at hs ⊢
  exact ⟨find_append (by simp [hlp, Ne.symm hsig]), sliceFrom_after hs (by decide)⟩

theorem parseId_cases {x : Ext} {s : Str} {sigil : Nat} (hs : Sep s) (hsig : sigil ≠ 58) :
    parseId x s sigil = .err ∨
      ∃ lp srv, DelimOk x sigil s lp srv ∧ parseId x s sigil = .ok (lp.length + 1) := by
  unfold parseId
  cases hv : validateId s sigil with
  | panic => exact absurd hv validateId_ne_panic
  | err => exact .inl rfl
  | ok u =>
    obtain ⟨hlen, hhead⟩ := validateId_ok_iff.1 hv
    rcases find_cases 58 s with ⟨_, hf⟩ | ⟨pre, srv, rfl, hn, hf⟩
    · rw [hf]; exact .inl rfl
    · simp only [hf, sliceFrom_after hs (by decide : 58 < 128)]
      rcases serverNameValidate_cases (x := x) hs.of_append_right.tail with h | ⟨h, hok⟩ <;> rw [h]
      · exact .inl rfl
      · cases pre with
        | nil => cases hhead; exact absurd rfl hsig
        | cons g lp =>
          cases hhead
          exact .inr ⟨lp, srv, ⟨rfl, hlen, fun hm => hn (List.mem_cons_of_mem _ hm), hok⟩, rfl⟩

theorem parseId_of_delimOk {x : Ext} {s lp srv : Str} {sigil : Nat} (hs : Sep s)
    (hsig : sigil ≠ 58) (h : DelimOk x sigil s lp srv) :
    parseId x s sigil = .ok (lp.length + 1) := by
  obtain ⟨rfl, hlen, hlp, hsrv⟩ := h
  obtain ⟨hf, hsf⟩ := cut_delim hs hsig hlp
  have hs' : Sep ((sigil :: lp) ++ 58 :: srv) := hs
  simp only [parseId, validateId_ok_iff.2 ⟨hlen, rfl⟩, hf, hsf,
    serverNameValidate_of_serverOk hs'.of_append_right.tail hsrv]

/-! ### User IDs and room aliases -/

theorem localpartCompat_iff {lp : Str} : localpartCompat lp = true ↔ 58 ∉ lp ∧ 0 ∉ lp := by
  simp only [localpartCompat, Bool.not_eq_true', Bool.or_eq_false_iff, has_eq_false]

theorem delimitedValidate_cases {x : Ext} {sigil : Nat} {s : Str} (hs : Sep s)
    (hsig : sigil ≠ 58) (hlt : sigil < 128) :
    delimitedValidate x sigil s = .err ∨
      (delimitedValidate x sigil s = .ok () ∧ ∃ lp srv, DelimOk x sigil s lp srv ∧ 0 ∉ lp) := by
  unfold delimitedValidate
  rcases parseId_cases (x := x) hs hsig with h | ⟨lp, srv, hd, h⟩ <;> rw [h]
  · exact .inl rfl
  · obtain ⟨rfl, _, _, _⟩ := id hd
    simp only [slice_one_at hs hlt (by decide : 58 < 128)]
    by_cases hc : localpartCompat lp = true
    · exact .inr ⟨if_pos hc, lp, srv, hd, (localpartCompat_iff.1 hc).2⟩
    · exact .inl (if_neg hc)

theorem delimitedValidate_of_delimOk {x : Ext} {sigil : Nat} {s lp srv : Str} (hs : Sep s)
    (hsig : sigil ≠ 58) (hlt : sigil < 128) (hd : DelimOk x sigil s lp srv) (h0 : 0 ∉ lp) :
    delimitedValidate x sigil s = .ok () := by
  rw [delimitedValidate, parseId_of_delimOk hs hsig hd]
  obtain ⟨rfl, _, hlp, _⟩ := hd
  simp only [slice_one_at hs hlt (by decide : 58 < 128)]
  exact if_pos (localpartCompat_iff.2 ⟨hlp, h0⟩)

theorem delimitedValidate_ne_panic {x : Ext} {sigil : Nat} {s : Str} (hs : Sep s)
    (hsig : sigil ≠ 58) (hlt : sigil < 128) : delimitedValidate x sigil s ≠ .panic := by
  rcases delimitedValidate_cases (x := x) hs hsig hlt with h | ⟨h, _⟩ <;> rw [h] <;> nofun

theorem delimitedValidate_ok_iff {x : Ext} {sigil : Nat} {s : Str} (hs : Sep s)
    (hsig : sigil ≠ 58) (hlt : sigil < 128) :
    delimitedValidate x sigil s = .ok () ↔ ∃ lp srv, DelimOk x sigil s lp srv ∧ 0 ∉ lp := by
  constructor
  · intro h
    rcases delimitedValidate_cases (x := x) hs hsig hlt with e | ⟨_, ok⟩
    · rw [e] at h; cases h
    · exact ok
  · rintro ⟨lp, srv, hd, h0⟩
    exact delimitedValidate_of_delimOk hs hsig hlt hd h0

theorem accessors_delim {sigil : Nat} {lp srv : Str} (hs : Sep (sigil :: (lp ++ 58 :: srv)))
    (hsig : sigil ≠ 58) (hlt : sigil < 128) (hlp : 58 ∉ lp) :
    localpart (sigil :: (lp ++ 58 :: srv)) = .ok lp
      ∧ serverNameOf (sigil :: (lp ++ 58 :: srv)) = .ok srv := by
  obtain ⟨hf, hsf⟩ := cut_delim hs hsig hlp
  exact ⟨by simp only [localpart, colonIdx, hf, slice_one_at hs hlt (by decide : 58 < 128)],
    by simp only [serverNameOf, colonIdx, hf, hsf]⟩

/-! ### Room IDs, room-or-alias IDs -/

theorem roomIdValidate_ne_panic {s : Str} : roomIdValidate s ≠ .panic := by
  unfold roomIdValidate
  cases hv : validateId s 33 with
  | err => nofun
  | panic => exact absurd hv validateId_ne_panic
  | ok u => cases u; simp only; split <;> nofun

theorem roomIdValidate_ok_iff {s : Str} :
    roomIdValidate s = .ok () ↔ s.length ≤ 255 ∧ s.head? = some 33 ∧ 0 ∉ s := by
  unfold roomIdValidate
  cases hv : validateId s 33 with
  | err =>
    exact ⟨nofun, fun h => absurd (validateId_ok_iff.2 ⟨h.1, h.2.1⟩) (by rw [hv]; nofun)⟩
  | panic => exact absurd hv validateId_ne_panic
  | ok u =>
    obtain ⟨h1, h2⟩ := validateId_ok_iff.1 hv
    rw [← has_eq_false]
    cases has 0 s <;> simp [h1, h2]

theorem roomOrAliasIdValidate_ne_panic {x : Ext} {s : Str} (hs : Sep s) :
    roomOrAliasIdValidate x s ≠ .panic := by
  unfold roomOrAliasIdValidate
  split
  · exact delimitedValidate_ne_panic hs (by decide) (by decide)
  · exact roomIdValidate_ne_panic
  · nofun

/-- The sigil selects the validator. -/
theorem roomOrAliasIdValidate_ok_iff {x : Ext} {s : Str} :
    roomOrAliasIdValidate x s = .ok () ↔
      (s.head? = some 33 ∧ roomIdValidate s = .ok ()) ∨
        (s.head? = some 35 ∧ roomAliasIdValidate x s = .ok ()) := by
  unfold roomOrAliasIdValidate
  split
  · next h => simp [h]
  · next h => simp [h]
  · next h35 h33 =>
    refine ⟨nofun, ?_⟩
    rintro (⟨h, _⟩ | ⟨h, _⟩)
    · exact absurd h h33
    · exact absurd h h35

theorem roomServerName_cases {x : Ext} {s : Str} (hs : Sep s) :
    roomServerName x s = .ok none ∨
      ∃ pre srv, s = pre ++ 58 :: srv ∧ 58 ∉ pre ∧ ServerOk x srv
        ∧ roomServerName x s = .ok (some srv) := by
  unfold roomServerName
  rcases find_cases 58 s with ⟨_, hf⟩ | ⟨pre, srv, rfl, hn, hf⟩
  · rw [hf]; exact .inl rfl
  · simp only [hf, sliceFrom_after hs (by decide : 58 < 128)]
    rcases serverNameValidate_cases (x := x) hs.of_append_right.tail with h | ⟨h, hok⟩ <;> rw [h]
    · exact .inl rfl
    · exact .inr ⟨pre, srv, rfl, hn, hok, rfl⟩

/-! ### Event IDs -/

theorem eventIdValidate_ne_panic {x : Ext} {s : Str} (hs : Sep s) :
    eventIdValidate x s ≠ .panic := by
  unfold eventIdValidate
  split
  · rcases parseId_cases (x := x) (sigil := 36) hs (by decide) with h | ⟨_, _, _, h⟩ <;> rw [h] <;>
      nofun
  · exact validateId_ne_panic

theorem eventIdValidate_ok_iff {x : Ext} {s : Str} (hs : Sep s) :
    eventIdValidate x s = .ok () ↔
      (∃ lp srv, DelimOk x 36 s lp srv) ∨ (58 ∉ s ∧ s.length ≤ 255 ∧ s.head? = some 36) := by
  unfold eventIdValidate
  by_cases hc : has 58 s = true
  · have hmem := has_eq_true.1 hc
    rw [if_pos hc]
    constructor
    · intro h
      rcases parseId_cases (x := x) (sigil := 36) hs (by decide) with e | ⟨lp, srv, hd, _⟩
      · rw [e] at h; cases h
      · exact .inl ⟨lp, srv, hd⟩
    · rintro (⟨lp, srv, hd⟩ | ⟨hn, _⟩)
      · rw [parseId_of_delimOk hs (by decide) hd]
      · exact absurd hmem hn
  · have hmem := has_eq_false.1 (by simpa using hc)
    rw [if_neg hc, validateId_ok_iff]
    constructor
    · rintro ⟨h1, h2⟩; exact .inr ⟨hmem, h1, h2⟩
    · rintro (⟨lp, srv, rfl, _⟩ | ⟨_, h1, h2⟩)
      · exact absurd (by simp) hmem
      · exact ⟨h1, h2⟩

theorem event_accessors_delim {lp srv : Str} (hs : Sep (36 :: (lp ++ 58 :: srv))) (hlp : 58 ∉ lp) :
    eventLocalpart (36 :: (lp ++ 58 :: srv)) = .ok lp
      ∧ eventServerName (36 :: (lp ++ 58 :: srv)) = .ok (some srv) := by
  obtain ⟨hf, hsf⟩ := cut_delim hs (by decide) hlp
  have hsl := slice_one_at hs (by decide : 36 < 128) (by decide : 58 < 128)
  exact ⟨by simp only [eventLocalpart, hf, hsl], by simp only [eventServerName, hf, hsf]⟩

theorem event_accessors_plain {t : Str} (hs : Sep (36 :: t)) (hc : 58 ∉ t) :
    eventLocalpart (36 :: t) = .ok t ∧ eventServerName (36 :: t) = .ok none := by
  have hf : find 58 (36 :: t) = none := find_eq_none.2 (by simp [hc])
  have h1 : isBoundary (36 :: t) 1 = true := isBoundary_after (a := []) hs (by decide)
  have h2 : isBoundary (36 :: t) (t.length + 1) = true := isBoundary_length (36 :: t)
  exact ⟨by simp [eventLocalpart, hf, slice, h1, h2], by simp only [eventServerName, hf]⟩

end Ruma.Ids
