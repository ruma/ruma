/-
  C10 helper lemmas, part 5: bridge between the declarative acceptance predicates of the model
  (`ServerOk`, `DelimOk`, `MxcOk`) and the specification's combinators (`withPort`, `delimited`,
  `mxc`). The lemmas towards acceptance take the host predicate as a variable: they serve the
  recommended grammar (`gramHost`) and the required structure (`structHost`) alike.
-/
import RumaModel.Lemmas.IdsKeyMxc
namespace Ruma.Ids
open Ruma Spec.IdGrammar

/-- `oneOf` on a literal without decoding the literal. -/
theorem oneOf_ofList (l : List Char) (b : Nat) :
    oneOf (String.ofList l) b = (l.map Char.toNat).contains b := by
  rw [oneOf, bs, String.toList_ofList]

theorem alnum_eq (b : Nat) : alnum b = isAlnum b := by
  simp only [alnum, isAlnum, digit, isDigit, lower, isLower, upper, isUpper, Bool.decide_and]

theorem dnsChar_eq (b : Nat) : dnsChar b = hostByteOk b := by
  rw [dnsChar, oneOf_ofList]
  simp only [List.map, Char.reduceToNat, List.contains_cons, List.contains_nil, Bool.or_false,
    alnum_eq, hostByteOk, Bool.or_assoc]

theorem mediaChar_eq (b : Nat) : mediaChar b = mediaByteOk b := by
  rw [mediaChar, oneOf_ofList]
  simp only [List.map, Char.reduceToNat, List.contains_cons, List.contains_nil, Bool.or_false,
    alnum_eq, mediaByteOk, Bool.or_assoc]

theorem userIdChar_eq (b : Nat) : userIdChar b = userIdCharOk b := by
  rw [userIdChar, oneOf_ofList]
  simp only [List.map, Char.reduceToNat, List.contains_cons, List.contains_nil, Bool.or_false,
    isDigit_eq, lower, isLower, userIdCharOk, Bool.or_assoc, Bool.decide_and]

theorem isAlnum_lt {b : Nat} (h : isAlnum b = true) : b < 128 := by
  simp only [isAlnum, isDigit, isLower, isUpper, Bool.or_eq_true, Bool.and_eq_true,
    decide_eq_true_eq] at h
  omega

theorem nonEmptyAll_iff {p : Nat → Bool} {s : Str} :
    nonEmptyAll p s = true ↔ s ≠ [] ∧ ∀ b ∈ s, p b = true := by
  cases s <;> simp [nonEmptyAll]

theorem all_ne_iff {c : Nat} {s : Str} : s.all (· != c) = true ↔ c ∉ s := by
  simp only [List.all_eq_true, bne_iff_ne, ne_eq]
  exact ⟨fun h hm => h c hm rfl, fun h b hb e => h (e ▸ hb)⟩

theorem localpartOk_iff {lp : Str} : localpartOk lp = true ↔ 58 ∉ lp ∧ 0 ∉ lp := by
  simp only [localpartOk, List.all_eq_true, Bool.and_eq_true, bne_iff_ne, ne_eq]
  exact ⟨fun h => ⟨fun hm => (h 58 hm).2 rfl, fun hm => (h 0 hm).1 rfl⟩,
    fun ⟨h1, h2⟩ b hb => ⟨fun e => h2 (e ▸ hb), fun e => h1 (e ▸ hb)⟩⟩

theorem bracketed_iff {q : Str → Bool} {h : Str} :
    bracketed q h = true ↔ ∃ c, h = 91 :: (c ++ [93]) ∧ q c = true := by
  constructor
  · intro hb
    unfold bracketed at hb
    split at hb
    · next r =>
      simp only [Bool.and_eq_true, decide_eq_true_eq] at hb
      have hne : r ≠ [] := fun e => by simp [e] at hb
      have h3 : r.getLast hne = 93 :=
        Option.some.inj ((List.getLast?_eq_some_getLast hne).symm.trans hb.1)
      refine ⟨r.dropLast, ?_, hb.2⟩
      rw [← h3, List.dropLast_concat_getLast]
    · cases hb
  · rintro ⟨c, rfl, hq⟩
    simp [bracketed, hq]

theorem false_of_cut {sep : Nat} {p q : Str → Bool} {a b : Str}
    (h : cutAt sep p q (a ++ sep :: b) = false) (hp : p a = true) : q b = false :=
  Bool.eq_false_iff.2 fun hq => by rw [cutAt_iff.2 ⟨a, b, rfl, hp, hq⟩] at h; cases h

theorem withPort_iff {host : Str → Bool} {s : Str} :
    withPort host s = true ↔
      ∃ h, host h = true ∧ (s = h ∨ ∃ p, s = h ++ 58 :: p ∧ isPort p = true) := by
  simp only [withPort, Bool.or_eq_true, cutAt_iff]
  constructor
  · rintro (h | ⟨h, p, rfl, hh, hp⟩)
    · exact ⟨s, h, .inl rfl⟩
    · exact ⟨h, hh, .inr ⟨p, rfl, hp⟩⟩
  · rintro ⟨h, hh, rfl | ⟨p, rfl, hp⟩⟩
    · exact .inl hh
    · exact .inr ⟨h, p, rfl, hh, hp⟩

theorem delimited_iff {sigil : Nat} {lp server : Str → Bool} {s : Str} :
    delimited sigil lp server s = true ↔
      ∃ l srv, s = sigil :: (l ++ 58 :: srv) ∧ lp l = true ∧ server srv = true := by
  cases s with
  | nil => simp [delimited]
  | cons c rest =>
    simp only [delimited, Bool.and_eq_true, beq_iff_eq, cutAt_iff]
    constructor
    · rintro ⟨rfl, l, srv, rfl, h1, h2⟩
      exact ⟨l, srv, rfl, h1, h2⟩
    · rintro ⟨l, srv, he, h1, h2⟩
      cases he
      exact ⟨rfl, l, srv, rfl, h1, h2⟩

theorem bs_mxc : bs "mxc://" = mxcPrefix := by
  rw [bs, String.toList_ofList]
  rfl

theorem mxc_iff {server media : Str → Bool} {s : Str} :
    mxc server media s = true ↔
      ∃ srv m, s = mxcPrefix ++ (srv ++ 47 :: m) ∧ server srv = true ∧ media m = true := by
  simp only [mxc, Bool.and_eq_true, beq_iff_eq, bs_mxc, cutAt_iff]
  constructor
  · rintro ⟨ht, srv, m, hd, h1, h2⟩
    exact ⟨srv, m, by rw [← hd]; exact eq_prefix_of_take ht, h1, h2⟩
  · rintro ⟨srv, m, rfl, h1, h2⟩
    exact ⟨List.take_left' rfl, srv, m, List.drop_left' rfl, h1, h2⟩

theorem nonEmptyAll_dnsChar {h : Str} :
    nonEmptyAll dnsChar h = true ↔ h ≠ [] ∧ ∀ b ∈ h, hostByteOk b = true := by
  simp only [nonEmptyAll_iff, dnsChar_eq]

theorem structHost_of_hostOk {x : Ext} {h : Str} (hh : HostOk x h) :
    structHost x.isIpv6 h = true := by
  rw [structHost, Bool.or_eq_true]
  cases hh with
  | name h hne hall => exact .inl (nonEmptyAll_dnsChar.2 ⟨hne, hall⟩)
  | v6 c hn h6 => exact .inr (bracketed_iff.2 ⟨c, rfl, h6⟩)

theorem hostOk_of_gramHost {x : Ext} {h : Str} (hg : gramHost x.isIpv6 h = true) : HostOk x h := by
  simp only [gramHost, Bool.or_eq_true, Bool.and_eq_true] at hg
  rcases hg with ⟨hn, _⟩ | hb
  · obtain ⟨hne, hall⟩ := nonEmptyAll_dnsChar.1 hn
    exact .name h hne hall
  · obtain ⟨c, rfl, hq⟩ := bracketed_iff.1 hb
    simp only [Bool.and_eq_true, List.all_eq_true] at hq
    exact .v6 c (fun hm => absurd (hq.1.2 93 hm) (by decide +kernel)) hq.2

theorem not_hostByte {c : Nat} (hc : c < 45 ∨ c = 47) : hostByteOk c = false :=
  Bool.eq_false_iff.2 fun h => by have := hostByteOk_iff.1 h; omega

theorem not_ipv6Char {c : Nat} (hc : c < 45 ∨ c = 47) : ipv6Char c = false := by
  refine Bool.eq_false_iff.2 fun h => ?_
  rw [ipv6Char, oneOf_ofList] at h
  simp only [digit, List.map, Char.reduceToNat, List.contains_cons, List.contains_nil,
    Bool.or_false, Bool.or_eq_true, decide_eq_true_eq, beq_iff_eq] at h
  omega

theorem gramHost_not_mem {v6 : Str → Bool} {h : Str} {c : Nat} (hc : c < 45 ∨ c = 47)
    (hg : gramHost v6 h = true) : c ∉ h := by
  intro hm
  simp only [gramHost, Bool.or_eq_true, Bool.and_eq_true] at hg
  rcases hg with ⟨hn, _⟩ | hb
  · have := (nonEmptyAll_dnsChar.1 hn).2 c hm
    rw [not_hostByte hc] at this; cases this
  · obtain ⟨r, rfl, hq⟩ := bracketed_iff.1 hb
    simp only [Bool.and_eq_true, List.all_eq_true] at hq
    simp only [List.mem_cons, List.mem_append, List.not_mem_nil, or_false] at hm
    rcases hm with rfl | hm | rfl
    · omega
    · have := hq.1.2 c hm
      rw [not_ipv6Char hc] at this; cases this
    · omega

theorem withPort_of_serverOk {x : Ext} {host : Str → Bool} {s : Str}
    (hh : ∀ h, HostOk x h → h.length ≤ s.length → host h = true) (h : ServerOk x s) :
    withPort host s = true := by
  obtain ⟨hst, hok, rfl | ⟨p, rfl, hp⟩⟩ := h
  · exact withPort_iff.2 ⟨s, hh s hok (Nat.le_refl _), .inl rfl⟩
  · exact withPort_iff.2 ⟨hst, hh hst hok (by simp), .inr ⟨p, rfl, (isValidPort_iff.1 hp).1⟩⟩

theorem structServerName_of_serverOk {x : Ext} {s : Str} (h : ServerOk x s) :
    structServerName x.isIpv6 s = true :=
  withPort_of_serverOk (fun _ hok _ => structHost_of_hostOk hok) h

theorem serverOk_of_withPort {x : Ext} {host : Str → Bool} {s : Str}
    (hh : ∀ h, host h = true → HostOk x h) (hg : withPort host s = true)
    (hp : portTooBig host s = false) : ServerOk x s := by
  obtain ⟨h, hhost, rfl | ⟨p, rfl, hport⟩⟩ := withPort_iff.1 hg
  · exact ⟨s, hh s hhost, .inl rfl⟩
  · refine ⟨h, hh h hhost, .inr ⟨p, rfl, isValidPort_iff.2 ⟨hport, ?_⟩⟩⟩
    have := false_of_cut hp hhost
    simpa [hport] using this

theorem withPort_not_mem {host : Str → Bool} {s : Str} {c : Nat} (hc : c < 45 ∨ c = 47)
    (hh : ∀ h, host h = true → c ∉ h) (hg : withPort host s = true) : c ∉ s := by
  obtain ⟨h, hhost, rfl | ⟨p, rfl, hport⟩⟩ := withPort_iff.1 hg
  · exact hh s hhost
  · intro hm
    simp only [List.mem_append, List.mem_cons] at hm
    rcases hm with hm | rfl | hm
    · exact hh h hhost hm
    · omega
    · simp only [isPort, Bool.and_eq_true, List.all_eq_true] at hport
      have := isDigit_range (isDigit_eq c ▸ hport.2 c hm)
      omega

theorem delimited_of_delimOk {x : Ext} {sigil : Nat} {s lp srv : Str} {lpOk : Str → Bool}
    (h : DelimOk x sigil s lp srv) (hl : lpOk lp = true) :
    (max255 s && delimited sigil lpOk (structServerName x.isIpv6) s) = true := by
  obtain ⟨he, hlen, _, hsrv⟩ := h
  rw [Bool.and_eq_true]
  exact ⟨decide_eq_true hlen, delimited_iff.2 ⟨lp, srv, he, hl, structServerName_of_serverOk hsrv⟩⟩

/-- From the specification's cut to the code's: the localpart has no colon, so the cut is at the
first colon. -/
theorem delimOk_of_delimited {x : Ext} {host lpOk : Str → Bool} {sigil : Nat} {s : Str}
    (hh : ∀ h, host h = true → HostOk x h) (hlp : ∀ l, lpOk l = true → 58 ∉ l)
    (hlen : max255 s = true) (hd : delimited sigil lpOk (withPort host) s = true)
    (hp : delimited sigil (fun _ => true) (portTooBig host) s = false) :
    ∃ lp srv, DelimOk x sigil s lp srv ∧ lpOk lp = true := by
  obtain ⟨l, srv, rfl, h1, h2⟩ := delimited_iff.1 hd
  simp only [delimited, beq_self_eq_true, Bool.true_and] at hp
  exact ⟨l, srv, ⟨rfl, of_decide_eq_true hlen, hlp l h1,
    serverOk_of_withPort hh h2 (false_of_cut hp rfl)⟩, h1⟩

theorem userIdChar_facts {l : Str} (h : nonEmptyAll userIdChar l = true) : 58 ∉ l ∧ 0 ∉ l :=
  have hall := (nonEmptyAll_iff.1 h).2
  ⟨fun hm => absurd (hall 58 hm) (by decide +kernel),
    fun hm => absurd (hall 0 hm) (by decide +kernel)⟩

theorem nonEmptyLocalpart_facts {l : Str} (h : (!l.isEmpty && localpartOk l) = true) :
    58 ∉ l ∧ 0 ∉ l := by
  rw [Bool.and_eq_true] at h
  exact localpartOk_iff.1 h.2

end Ruma.Ids
