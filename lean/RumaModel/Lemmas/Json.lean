/-
  Facts about the shared JSON value model (`Model/Json.lean`) that the proofs of every property use when
  they evaluate a concrete case: `JVal`'s hand-written `==` decides equality (and with it equality of
  `Except` values and `Obj.Sorted` are decidable), `bs` is injective, and two ways of keeping `bs` of a
  string literal cheap for the kernel.
-/
import RumaModel.Model.Json
namespace Ruma

mutual
theorem jval_eq_of_beq (a b : JVal) (h : a.beq b = true) : a = b := by
  cases a <;> cases b <;> simp only [JVal.beq, beq_iff_eq, Bool.false_eq_true] at h
  · rfl
  · subst h; rfl
  · subst h; rfl
  · rfl
  · subst h; rfl
  · exact congrArg _ (jval_eqL_of_beqL _ _ h)
  · exact congrArg _ (jval_eqO_of_beqO _ _ h)
theorem jval_eqL_of_beqL (a b : List JVal) (h : JVal.beqL a b = true) : a = b := by
  cases a <;> cases b <;> simp only [JVal.beqL, Bool.and_eq_true, Bool.false_eq_true] at h
  · rfl
  · rw [jval_eq_of_beq _ _ h.1, jval_eqL_of_beqL _ _ h.2]
theorem jval_eqO_of_beqO (a b : List (Str × JVal)) (h : JVal.beqO a b = true) : a = b := by
  cases a with
  | nil => cases b <;> simp only [JVal.beqO, Bool.false_eq_true] at h; rfl
  | cons x xs =>
    cases b with
    | nil => simp only [JVal.beqO, Bool.false_eq_true] at h
    | cons y ys =>
      obtain ⟨k, v⟩ := x
      obtain ⟨l, w⟩ := y
      simp only [JVal.beqO, Bool.and_eq_true, beq_iff_eq] at h
      rw [h.1.1, jval_eq_of_beq _ _ h.1.2, jval_eqO_of_beqO _ _ h.2]
end

mutual
theorem jval_beq_self (a : JVal) : a.beq a = true := by
  cases a <;> simp only [JVal.beq, beq_self_eq_true]
  · exact jval_beqL_self _
  · exact jval_beqO_self _
theorem jval_beqL_self (a : List JVal) : JVal.beqL a a = true := by
  cases a with
  | nil => rfl
  | cons x xs => simp only [JVal.beqL, jval_beq_self x, jval_beqL_self xs, Bool.and_self]
theorem jval_beqO_self (a : List (Str × JVal)) : JVal.beqO a a = true := by
  cases a with
  | nil => rfl
  | cons x xs =>
    obtain ⟨k, v⟩ := x
    simp only [JVal.beqO, beq_self_eq_true, jval_beq_self v, jval_beqO_self xs, Bool.and_self]
end

/-- `JVal` is a nested inductive type, for which `deriving DecidableEq` is not available; its hand-written
`==` decides equality. With this and the two instances below, a statement about a concrete event or object
(`redact … e = .ok e'`, `Obj.Sorted e`) is a closed proposition that the kernel can evaluate. -/
instance : DecidableEq JVal := fun a b =>
  if h : a.beq b = true then isTrue (jval_eq_of_beq a b h)
  else isFalse (fun e => h (e ▸ jval_beq_self a))

deriving instance DecidableEq for Except

instance (o : List (Str × α)) : Decidable (Obj.Sorted o) :=
  inferInstanceAs (Decidable (List.Pairwise _ _))

/-! The kernel evaluates `bs "literal"` through `String.toList`, which encodes the literal to a byte array and
decodes that again, in time quadratic in its length. Before a concrete case goes to `decide +kernel`:
* where the literals stand in the goal (after unfolding what hides them), `rw [bs_ofList]` once per literal
  (a literal unifies with `String.ofList _`) or `simp -index only [bs_ofList]` for all of them at once
  leaves maps over character lists, which are evaluated once however often the string is used;
* where they sit inside definitions that the kernel unfolds (a table of type strings),
  `rw [bs_eq_asciiBytes]` exchanges `bs` itself for a function that reads the bytes of the encoding:
  linear, but done again at every use of the string. -/

theorem bs_ofList (l : List Char) : bs (String.ofList l) = l.map Char.toNat := by
  rw [bs, String.toList_ofList]

/-- `bs`, read off the string's UTF-8 bytes when they are all ASCII. -/
def asciiBytes (s : String) : Str :=
  let b := s.toByteArray.data.toList.map UInt8.toNat
  if b.all (· < 128) then b else bs s

theorem bs_eq_asciiBytes : bs = asciiBytes := by
  funext s
  -- a character whose bytes are all below `0x80` is encoded by one byte, its code point: a longer
  -- encoding starts with a byte from `0xc0` on
  have hc : ∀ c : Char, ((String.utf8EncodeChar c).map UInt8.toNat).all (· < 128) = true →
      (String.utf8EncodeChar c).map UInt8.toNat = [c.toNat] := by
    intro c h
    have hv : c.val.toNat = c.toNat := rfl
    unfold String.utf8EncodeChar at h ⊢
    grind [UInt8.toNat_ofNat']
  simp only [asciiBytes]
  split
  · next h =>
    rw [← String.utf8Encode_toList, List.utf8Encode, List.toList_data_toByteArray] at h ⊢
    unfold bs
    generalize s.toList = l at h ⊢
    induction l with
    | nil => rfl
    | cons c t ih =>
      rw [List.flatMap_cons, List.map_append, List.all_append, Bool.and_eq_true] at h
      rw [List.flatMap_cons, List.map_append, hc c h.1, ← ih h.2]; rfl
  · rfl

/-- Byte strings written as literals are equal only if the literals are; `simp` decides the latter
syntactically, whereas evaluating `bs` decodes the literal character by character. -/
theorem bs_inj {a b : String} : bs a = bs b ↔ a = b :=
  ⟨fun h => String.toList_inj.mp ((List.map_inj_right fun _ _ => Char.toNat_inj.mp).mp h), congrArg bs⟩

end Ruma
