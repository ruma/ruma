/-
  C11 — helper lemmas, part 1: percent-coding, UTF-8, splitting, bytes of encoded segments.
  Core Lean only.
-/
import RumaModel.Model.MatrixUri
import RumaModel.Spec.MatrixUri
import RumaModel.Lemmas.Json
namespace Ruma.MatrixUri
open Ruma Ruma.Spec.MatrixUri

theorem Bytes.nil : Bytes [] := fun _ h => by simp at h
theorem Bytes.cons {b : Nat} {t : Str} (hb : b < 256) (ht : Bytes t) : Bytes (b :: t) :=
  List.forall_mem_cons.2 ⟨hb, ht⟩
theorem Bytes.head {b : Nat} {t : Str} (h : Bytes (b :: t)) : b < 256 := h b (by simp)
theorem Bytes.tail {b : Nat} {t : Str} (h : Bytes (b :: t)) : Bytes t := fun x hx => h x (by simp [hx])
theorem Bytes.append {a b : Str} (ha : Bytes a) (hb : Bytes b) : Bytes (a ++ b) :=
  List.forall_mem_append.2 ⟨ha, hb⟩
theorem Bytes.of_subset {a b : Str} (hb : Bytes b) (h : ∀ x ∈ a, x ∈ b) : Bytes a :=
  fun x hx => hb x (h x hx)

/-- One step down a chain `if c₁ then some a₁ else if c₂ then some a₂ else … none`. -/
theorem ite_some {α : Type} {c : Prop} [Decidable c] {a x : α} {r : Option α}
    (h : (if c then some a else r) = some x) : c ∧ a = x ∨ r = some x := by
  split at h
  · exact .inl ⟨‹c›, Option.some.inj h⟩
  · exact .inr h

theorem of_ite_eq {α : Type} {c : Prop} [Decidable c] {r b g : α}
    (h : (if c then r else b) = g) (hb : b ≠ g) : c ∧ r = g := by
  split at h
  · exact ⟨‹c›, h⟩
  · exact absurd h hb

theorem hexVal_hexUpper (n : Nat) (h : n < 16) : hexVal (hexUpper n) = some n := by
  unfold hexUpper
  split
  · rw [hexVal, if_pos (by omega), Nat.add_sub_cancel_left]
  · rw [hexVal, if_neg (by omega), if_pos (by omega), Nat.add_sub_cancel_left]

theorem hexVal_some {c x : Nat} (h : hexVal c = some x) : c < 128 ∧ x < 16 := by
  unfold hexVal at h
  obtain ⟨_, rfl⟩ | h := ite_some h
  · omega
  obtain ⟨_, rfl⟩ | h := ite_some h
  · omega
  obtain ⟨_, rfl⟩ | h := ite_some h
  · omega
  · cases h

@[simp] theorem decodeFrom_nil (k : Nat) : decodeFrom k [] = [] := by
  cases k <;> rfl

@[simp] theorem decodeFrom_succ (k b) (t : Str) : decodeFrom (k + 1) (b :: t) = decodeFrom k t := rfl

theorem percentDecode_cons_ne (b : Nat) (t : Str) (h : b ≠ 37) :
    percentDecode (b :: t) = b :: percentDecode t := by
  simp [percentDecode, decodeFrom, h]

theorem percentDecode_escape (h l x y : Nat) (t : Str) (hx : hexVal h = some x) (hy : hexVal l = some y) :
    percentDecode (37 :: h :: l :: t) = (16 * x + y) :: percentDecode t := by
  simp [percentDecode, decodeFrom, escapeAt, hx, hy]

theorem percentDecode_pct_lit (t : Str) (h : escapeAt t = none) :
    percentDecode (37 :: t) = 37 :: percentDecode t := by
  simp [percentDecode, decodeFrom, h]

theorem percentDecode_hexUpper (c : Nat) (t : Str) (hc : c < 256) :
    percentDecode (37 :: hexUpper (c / 16) :: hexUpper (c % 16) :: t) = c :: percentDecode t := by
  rw [percentDecode_escape _ _ _ _ _ (hexVal_hexUpper _ (by omega)) (hexVal_hexUpper _ (by omega)),
    Nat.div_add_mod]

/-- With every hex digit in the set, no encoded text starts with a hex digit, so a bare `%` in
front of it is no escape. -/
theorem escapeAt_percentEncode (set : Nat → Bool)
    (hall : ∀ c, (hexVal c).isSome = true → set c = true) (t : Str) :
    escapeAt (percentEncode set t) = none := by
  have hd : ∀ c, (percentEncode set t).head? = some c → hexVal c = none := by
    intro c hc
    cases t with
    | nil => cases hc
    | cons a t =>
      unfold percentEncode at hc
      split at hc
      · cases hc; decide
      · rename_i hne
        cases hc
        cases hv : hexVal c with
        | none => rfl
        | some x => simp [hall c (by simp [hv])] at hne
  unfold escapeAt
  split
  · rename_i a b t e
    simp [hd a (by simp [e])]
  · rfl

/-- Decoding inverts encoding if `%` is in the set or every hex digit is; `percent_roundtrip_fails`
is the converse. -/
theorem percent_roundtrip_of (set : Nat → Bool)
    (h : set 37 = true ∨ ∀ c, (hexVal c).isSome = true → set c = true) (b : Str) (hb : Bytes b) :
    percentDecode (percentEncode set b) = b := by
  induction b with
  | nil => rfl
  | cons c t ih =>
    unfold percentEncode
    split
    · rw [percentDecode_hexUpper c _ hb.head, ih hb.tail]
    · rename_i hne
      by_cases h37 : c = 37
      · subst h37
        have hall := h.resolve_left (by simpa using hne)
        rw [percentDecode_pct_lit _ (escapeAt_percentEncode set hall t), ih hb.tail]
      · rw [percentDecode_cons_ne _ _ h37, ih hb.tail]

theorem percent_roundtrip_fails (set : Nat → Bool) (h : Nat) (x : Nat) (hx : hexVal h = some x)
    (h37 : set 37 = false) (hh : set h = false) :
    percentDecode (percentEncode set [37, h, h]) ≠ [37, h, h] := by
  have h1 : ¬ (128 ≤ h) := by have := (hexVal_some hx).1; omega
  simp [percentEncode, h37, hh, h1, percentDecode, decodeFrom, escapeAt, hx]

/-- What `percent_encode` writes is a percent-encoding of its input in the sense of RFC 3986. -/
theorem percentEncode_denotes (set : Nat → Bool) (h37 : set 37 = true) (b : Str) (hb : Bytes b) :
    PctDenotes (percentEncode set b) b := by
  induction b with
  | nil => exact .nil
  | cons c t ih =>
    have hc : c < 256 := hb.head
    unfold percentEncode
    split
    · have := PctDenotes.esc (hexUpper (c / 16)) (hexUpper (c % 16)) (c / 16) (c % 16)
        (hexVal_hexUpper _ (by omega)) (hexVal_hexUpper _ (by omega)) (ih hb.tail)
      rwa [Nat.div_add_mod] at this
    · rename_i hne
      have : c ≠ 37 := by intro h; subst h; simp [h37] at hne
      exact .lit c this (ih hb.tail)

theorem validFrom_drop (k : Nat) (t : Str) : validFrom k t = validFrom 0 (t.drop k) := by
  induction t generalizing k with
  | nil => cases k <;> simp [validFrom]
  | cons b t ih =>
    cases k with
    | zero => simp
    | succ k => simp [validFrom, ih k]

theorem lossyFrom_of_valid (k : Nat) (s : Str) (h : validFrom k s = true) : lossyFrom k s = s.drop k := by
  induction s generalizing k with
  | nil => cases k <;> simp [lossyFrom]
  | cons b t ih =>
    cases k with
    | succ k => simp [validFrom] at h; simp [lossyFrom, ih k h]
    | zero =>
      simp [validFrom] at h
      simp [lossyFrom, h.1, ih _ h.2]

theorem utf8Lossy_of_valid (s : Str) (h : validUtf8 s = true) : utf8Lossy s = s := by
  unfold utf8Lossy; simpa using lossyFrom_of_valid 0 s h

/-- How `utf8Step` reads one continuation byte: it must satisfy `p`, then `F` reads on; `n` bytes
were accepted before it. -/
def need (p : Nat → Bool) (n : Nat) (F : Str → Bool × Nat) : Str → Bool × Nat
  | b :: t => if p b then F t else (false, n)
  | [] => (false, n)

/-- A reader that has accepted `d` bytes before it starts and, when it accepts with count `k`, has
looked at the next `k - d` bytes only. -/
def ReadsPrefix (d : Nat) (F : Str → Bool × Nat) : Prop :=
  ∀ t k, F t = (true, k) → d ≤ k ∧ k - d ≤ t.length ∧ ∀ r, F (t.take (k - d) ++ r) = (true, k)

theorem ReadsPrefix.done (d : Nat) : ReadsPrefix d (fun _ => (true, d)) := by
  intro t k h
  cases h
  exact ⟨Nat.le_refl _, by omega, fun _ => rfl⟩

theorem ReadsPrefix.need {p : Nat → Bool} {d : Nat} {F : Str → Bool × Nat}
    (h : ReadsPrefix (d + 1) F) : ReadsPrefix d (need p d F) := by
  intro t k hk
  cases t with
  | nil => cases hk
  | cons b t =>
    simp only [MatrixUri.need] at hk
    split at hk
    · rename_i hp
      obtain ⟨h1, h2, h3⟩ := h t k hk
      have e : k - d = (k - (d + 1)) + 1 := by omega
      refine ⟨by omega, by simp only [List.length_cons]; omega, fun r => ?_⟩
      rw [e, List.take_succ_cons, List.cons_append]
      simp only [MatrixUri.need, hp, if_true]
      exact h3 r
    · cases hk

theorem ReadsPrefix.ite {c : Prop} [Decidable c] {d : Nat} {F G : Str → Bool × Nat}
    (hF : ReadsPrefix d F) (hG : ReadsPrefix d G) :
    ReadsPrefix d (fun t => if c then F t else G t) := by
  split <;> assumption

theorem utf8Step_readsPrefix (b : Nat) : ReadsPrefix 0 (utf8Step b) := by
  show ReadsPrefix 0 fun t =>
    if b < 128 then (true, 0)
    else if 194 ≤ b ∧ b ≤ 223 then need isCont 0 (fun _ => (true, 1)) t
    else if 224 ≤ b ∧ b ≤ 239 then need (second3 b) 0 (need isCont 1 fun _ => (true, 2)) t
    else if 240 ≤ b ∧ b ≤ 244 then
      need (second4 b) 0 (need isCont 1 (need isCont 2 fun _ => (true, 3))) t
    else (false, 0)
  exact .ite (.done 0) (.ite (ReadsPrefix.done 1).need (.ite (ReadsPrefix.done 2).need.need
    (.ite (ReadsPrefix.done 3).need.need.need fun t k h => by cases h)))

theorem validFrom_chunk (b : Nat) (t r : Str) (k : Nat) (h : utf8Step b t = (true, k)) :
    validFrom 0 (b :: t.take k ++ r) = validFrom 0 r := by
  obtain ⟨_, hk, hr⟩ := utf8Step_readsPrefix b t k h
  rw [Nat.sub_zero] at hk hr
  simp only [List.cons_append, validFrom, hr r, Bool.true_and]
  rw [validFrom_drop, List.drop_left' (by simp only [List.length_take]; omega)]

theorem validFrom_replacement (r : Str) : validFrom 0 (replacement ++ r) = validFrom 0 r := rfl

theorem valid_lossyFrom (k : Nat) (s : Str) : validFrom 0 (lossyFrom k s) = true := by
  induction s generalizing k with
  | nil => cases k <;> simp [lossyFrom, validFrom]
  | cons b t ih =>
    cases k with
    | succ k => simpa [lossyFrom] using ih k
    | zero =>
      simp only [lossyFrom]
      split
      · rename_i hv
        have : utf8Step b t = (true, (utf8Step b t).2) := by rw [← hv]
        rw [validFrom_chunk b t _ _ this]; exact ih _
      · rw [validFrom_replacement]; exact ih _

theorem validUtf8_utf8Lossy (s : Str) : validUtf8 (utf8Lossy s) = true := valid_lossyFrom 0 s

theorem splitHT_append_left (c : Nat) (a r : Str) (h : c ∉ a) :
    splitHT c (a ++ r) = (a ++ (splitHT c r).1, (splitHT c r).2) := by
  induction a with
  | nil => rfl
  | cons b t ih =>
    simp only [List.mem_cons, not_or] at h
    simp [splitHT, Ne.symm h.1, ih h.2]

theorem splitHT_not_mem (c : Nat) (a : Str) (h : c ∉ a) : splitHT c a = (a, []) := by
  simpa [splitHT] using splitHT_append_left c a [] h

theorem splitOn_not_mem (c : Nat) (a : Str) (h : c ∉ a) : splitOn c a = [a] := by
  simp [splitOn, splitHT_not_mem c a h]

theorem splitOn_append (c : Nat) (a r : Str) (h : c ∉ a) :
    splitOn c (a ++ c :: r) = a :: splitOn c r := by
  simp [splitOn, splitHT_append_left c a _ h, splitHT]

theorem splitOnce_append_left (c : Nat) (a r : Str) (h : c ∉ a) :
    splitOnce c (a ++ r) = (splitOnce c r).map fun p => (a ++ p.1, p.2) := by
  induction a with
  | nil => cases hr : splitOnce c r <;> simp [hr]
  | cons b t ih =>
    simp only [List.mem_cons, not_or] at h
    cases hr : splitOnce c r <;> simp [splitOnce, Ne.symm h.1, ih h.2, hr]

theorem splitOnce_not_mem (c : Nat) (a : Str) (h : c ∉ a) : splitOnce c a = none := by
  simpa [splitOnce] using splitOnce_append_left c a [] h

theorem splitOnce_append (c : Nat) (a r : Str) (h : c ∉ a) :
    splitOnce c (a ++ c :: r) = some (a, r) := by
  simp [splitOnce_append_left c a _ h, splitOnce]

theorem stripPrefix_append (p s : Str) : stripPrefix p (p ++ s) = some s := by
  induction p with
  | nil => cases s <;> rfl
  | cons a p ih => simp [stripPrefix, ih]

theorem stripSuffixByte_of_last_ne (c : Nat) (s : Str) (h : s.getLast? ≠ some c) :
    stripSuffixByte c s = s := by
  simp [stripSuffixByte, h]

theorem stripPrefixByte_of_head_ne (c : Nat) (s : Str) (h : s.head? ≠ some c) :
    stripPrefixByte c s = s := by
  cases s with
  | nil => rfl
  | cons b t =>
    have : b ≠ c := by intro e; apply h; simp [e]
    simp [stripPrefixByte, this]

/-- Join with a one-byte separator (`[a,b,c] ↦ a ++ sep :: b ++ sep :: c`). -/
def joinWith (c : Nat) : List Str → Str
  | [] => []
  | [p] => p
  | p :: q :: r => p ++ c :: joinWith c (q :: r)

theorem splitOn_joinWith (c : Nat) (ps : List Str) (hne : ps ≠ []) (h : ∀ p ∈ ps, c ∉ p) :
    splitOn c (joinWith c ps) = ps := by
  induction ps with
  | nil => exact absurd rfl hne
  | cons p r ih =>
    cases r with
    | nil => simpa [joinWith] using splitOn_not_mem c p (h p (by simp))
    | cons q r =>
      simp only [joinWith]
      rw [splitOn_append c p _ (h p (by simp)), ih (by simp) (fun x hx => h x (by simp [hx]))]

/-- The bytes of an escape: `%` and the upper-case hex digits. -/
def escBytes : Str := 37 :: (List.range 16).map hexUpper

theorem percentEncode_forall (set : Nat → Bool) (P : Nat → Prop) (hesc : ∀ c ∈ escBytes, P c)
    (hlit : ∀ c, c < 128 → set c = false → P c) (b : Str) (hb : Bytes b) :
    ∀ c ∈ percentEncode set b, P c := by
  induction b with
  | nil => simp [percentEncode]
  | cons x t ih =>
    have hx : x < 256 := hb.head
    have hex : ∀ n, n < 16 → P (hexUpper n) := fun n hn =>
      hesc _ (List.mem_cons_of_mem _ (List.mem_map.2 ⟨n, List.mem_range.2 hn, rfl⟩))
    unfold percentEncode
    split
    · exact List.forall_mem_cons.2 ⟨hesc 37 (List.mem_cons_self ..), List.forall_mem_cons.2
        ⟨hex _ (by omega), List.forall_mem_cons.2 ⟨hex _ (by omega), ih hb.tail⟩⟩⟩
    · rename_i hne
      simp only [Bool.or_eq_true, decide_eq_true_eq, not_or, Nat.not_le, Bool.not_eq_true] at hne
      exact List.forall_mem_cons.2 ⟨hlit x hne.1 hne.2, ih hb.tail⟩

theorem urlSafe_bounds {c : Nat} (h : urlSafe c = true) :
    33 ≤ c ∧ c ≤ 126 ∧ c ≠ 34 ∧ c ≠ 35 ∧ c ≠ 60 ∧ c ≠ 62 ∧ c ≠ 63 := by
  simp only [urlSafe, Bool.and_eq_true, decide_eq_true_eq, bne_iff_ne] at h
  omega

/-- ruma's path set against the bytes `Url::parse` keeps and the separator of a `matrix:` path:
a comparison of tables over ASCII. -/
theorem pathSet_lit : ∀ c, c < 128 → pathSet c = false → urlSafe c = true ∧ c ≠ 47 := by
  decide +kernel

theorem encPath_byte (s : Str) (hs : Bytes s) (c : Nat) (hc : c ∈ encPath s) :
    urlSafe c = true ∧ c ≠ 47 :=
  percentEncode_forall pathSet (fun c => urlSafe c = true ∧ c ≠ 47)
    (by decide +kernel) pathSet_lit s hs c hc

/-- The query-value set is the path set and `&` `+` `=`. -/
theorem encQuery_byte (s : Str) (hs : Bytes s) (c : Nat) (hc : c ∈ encQuery s) :
    urlSafe c = true ∧ c ≠ 47 ∧ c ≠ 38 ∧ c ≠ 43 ∧ c ≠ 61 := by
  refine percentEncode_forall queryValueSet (fun c => urlSafe c = true ∧ c ≠ 47 ∧ c ≠ 38 ∧ c ≠ 43 ∧ c ≠ 61)
    (by decide +kernel) (fun c hc hq => ?_) s hs c hc
  simp only [queryValueSet, Bool.or_eq_false_iff, beq_eq_false_iff_ne] at hq
  exact ⟨(pathSet_lit c hc hq.1.1.1).1, (pathSet_lit c hc hq.1.1.1).2, hq.1.1.2, hq.1.2, hq.2⟩
end Ruma.MatrixUri
