/-
  C11 — helper lemmas, part 2: `parse_with_sigil` / `parse_with_type` applied to the output of
  `to_string_with_sigil` / `to_string_with_type`.
-/
import RumaModel.Lemmas.MatrixUri
namespace Ruma.MatrixUri
open Ruma Ruma.Spec.MatrixUri

theorem percentEncode_ne_nil (set : Nat → Bool) (s : Str) (h : s ≠ []) : percentEncode set s ≠ [] := by
  cases s with
  | nil => exact absurd rfl h
  | cons b t => unfold percentEncode; split <;> simp

theorem not_mem_encPath (s : Str) (hs : Bytes s) : 47 ∉ encPath s ∧ 63 ∉ encPath s := by
  constructor
  · intro h; exact (encPath_byte s hs 47 h).2 rfl
  · intro h; exact (urlSafe_bounds (encPath_byte s hs 63 h).1).2.2.2.2.2.2 rfl

theorem head_ne_of_not_mem {c : Nat} {s : Str} (h : c ∉ s) : s.head? ≠ some c :=
  fun e => h (List.mem_of_mem_head? e)

theorem getLast_ne_of_not_mem {c : Nat} {s : Str} (h : c ∉ s) : s.getLast? ≠ some c :=
  fun e => h (List.mem_of_getLast? e)

theorem decodeUtf8_encPath (s : Str) (h : IsStr s) : decodeUtf8 (encPath s) = some s := by
  unfold decodeUtf8 encPath
  rw [percent_roundtrip_of pathSet (.inl (by decide)) s h.1]
  simp [h.2]

/-- The single-identifier branch of `parse_with_sigil`. -/
def singleBranch (V : Validators) (id : Str) : Res MatrixId :=
  match id.head? with
  | some 64 => if V.user id then .ok (.user id) else .err
  | some 33 => if V.room id then .ok (.room id) else .err
  | some 35 => if V.alias id then .ok (.roomAlias id) else .err
  | some 36 => .err
  | _ => .err

/-- The arm of `parse_with_sigil` that accepts a room (or alias) and an event in it. -/
def eventBranch (V : Validators) (room ev : Str) : Res MatrixId :=
  if V.roomOrAlias room then
    if V.event ev then .ok (.event room ev) else .err
  else .err

/-- The two-identifier branch of `parse_with_sigil`: room then event, or event then room. -/
def pairBranch (V : Validators) (first second : Str) : Res MatrixId :=
  if isRoomSigil first.head? && second.head? == some 36 then eventBranch V first second
  else if first.head? == some 36 && isRoomSigil second.head? then eventBranch V second first
  else .err

theorem parseWithSigil_eq (V : Validators) (s0 : Str) :
    parseWithSigil V s0 =
      (let s := stripSuffixByte 47 (stripPrefixByte 47 s0)
       if s = [] then .err
       else if 1 < s.count 47 then .err
       else
         match splitOnce 47 s with
         | some (firstRaw, secondRaw) =>
           match decodeUtf8 firstRaw with
           | none => .err
           | some first =>
             match decodeUtf8 secondRaw with
             | none => .err
             | some second => pairBranch V first second
         | none =>
           match decodeUtf8 s with
           | none => .err
           | some id => singleBranch V id) := rfl

theorem parseWithSigil_noslash (V : Validators) (E s : Str) (h47 : 47 ∉ E) (hne : E ≠ [])
    (hd : decodeUtf8 E = some s) : parseWithSigil V E = singleBranch V s := by
  rw [parseWithSigil_eq, stripPrefixByte_of_head_ne 47 _ (head_ne_of_not_mem h47),
    stripSuffixByte_of_last_ne 47 _ (getLast_ne_of_not_mem h47)]
  have hc : List.count 47 E = 0 := List.count_eq_zero_of_not_mem h47
  simp only [hne, hc, Nat.not_lt_zero, if_false, splitOnce_not_mem 47 _ h47, hd]

theorem getLast?_append_cons (A B : Str) (c : Nat) (hB : B ≠ []) :
    (A ++ c :: B).getLast? = B.getLast? := by
  cases B with
  | nil => exact absurd rfl hB
  | cons y t =>
    rw [List.getLast?_append, List.getLast?_cons_cons]
    cases h : (y :: t).getLast? with
    | none => simp at h
    | some v => rfl

theorem head?_append_ne {c : Nat} {A : Str} (B : Str) (hA : c ∉ A) (hne : A ≠ []) :
    (A ++ B).head? ≠ some c := by
  cases A with
  | nil => exact absurd rfl hne
  | cons x t => intro e; exact hA (by simp at e; simp [e])

theorem count_sep (A B : Str) (c : Nat) (hA : c ∉ A) (hB : c ∉ B) :
    List.count c (A ++ c :: B) = 1 := by
  simp [List.count_append, List.count_eq_zero_of_not_mem hA,
    List.count_eq_zero_of_not_mem hB]

theorem parseWithSigil_pair (V : Validators) (A B a b : Str) (hA : 47 ∉ A) (hB : 47 ∉ B)
    (hAne : A ≠ []) (hBne : B ≠ []) (ha : decodeUtf8 A = some a) (hb : decodeUtf8 B = some b) :
    parseWithSigil V (A ++ 47 :: B) = pairBranch V a b := by
  have hlast : (A ++ 47 :: B).getLast? ≠ some 47 := by
    rw [getLast?_append_cons A B 47 hBne]; exact getLast_ne_of_not_mem hB
  rw [parseWithSigil_eq, stripPrefixByte_of_head_ne 47 _ (head?_append_ne _ hA hAne),
    stripSuffixByte_of_last_ne 47 _ hlast]
  have hne : A ++ 47 :: B ≠ [] := by simp
  simp only [hne, count_sep A B 47 hA hB, Nat.lt_irrefl, if_false, splitOnce_append 47 A B hA, ha, hb]

theorem parseWithSigil_lead (V : Validators) (E : Str) (h : E.head? ≠ some 47) :
    parseWithSigil V (47 :: E) = parseWithSigil V E := by
  unfold parseWithSigil
  rw [stripPrefixByte_of_head_ne 47 E h]
  rfl

theorem isStr_tail {sg : Nat} {t : Str} (h : IsStr (sg :: t)) : Bytes t := h.1.tail

theorem decodeUtf8_sigil_enc (sg : Nat) (t : Str) (h : IsStr (sg :: t)) (hsg : sg ≠ 37) :
    decodeUtf8 (sg :: encPath t) = some (sg :: t) := by
  unfold decodeUtf8 encPath
  rw [percentDecode_cons_ne sg _ hsg, percent_roundtrip_of pathSet (.inl (by decide)) t h.1.tail]
  simp [h.2]

theorem idOk_cons {acc : Str → Bool} {sg : Nat} {s : Str} (h : IdOk acc sg s) :
    ∃ t, s = sg :: t := by
  obtain ⟨_, hh, _⟩ := h
  cases s with
  | nil => cases hh
  | cons x t => cases hh; exact ⟨t, rfl⟩

theorem roomOrAliasOk_isStr {V : Validators} {r : Str} (h : RoomOrAliasOk V r) : IsStr r :=
  h.elim (·.1) (·.1)

theorem pairBranch_of_ok {V : Validators} {r e : Str} (hr : RoomOrAliasOk V r)
    (he : IdOk V.event sigilEvent e) : pairBranch V r e = .ok (.event r e) := by
  have hroa : isRoomSigil r.head? = true ∧ V.roomOrAlias r = true := by
    rcases hr with ⟨_, hh, hv⟩ | ⟨_, hh, hv⟩ <;>
      simp [isRoomSigil, Validators.roomOrAlias, hh, hv, sigilRoomId, sigilAlias]
  simp [pairBranch, eventBranch, hroa.1, hroa.2, he.2.1, he.2.2, sigilEvent]

theorem parseWithSigil_encPath (V : Validators) {acc : Str → Bool} {sg : Nat} {s : Str}
    (h : IdOk acc sg s) :
    parseWithSigil V (encPath s) = singleBranch V s ∧ 63 ∉ encPath s ∧
      (encPath s).getLast? ≠ some 47 := by
  obtain ⟨t, rfl⟩ := idOk_cons h
  have hm := not_mem_encPath _ h.1.1
  exact ⟨parseWithSigil_noslash V _ _ hm.1 (percentEncode_ne_nil _ _ (List.cons_ne_nil _ _))
    (decodeUtf8_encPath _ h.1), hm.2, getLast_ne_of_not_mem hm.1⟩

/-- `parse_with_sigil` reads a well-formed identifier back from what `to_string_with_sigil` writes;
that text has no `?` and does not end in `/`. -/
theorem sigil_roundtrip (V : Validators) (id : MatrixId) (h : MatrixIdOk V id) :
    parseWithSigil V (toStringWithSigil id) = .ok id ∧ 63 ∉ toStringWithSigil id ∧
      (toStringWithSigil id).getLast? ≠ some 47 := by
  cases id with
  | user s | room s | roomAlias s =>
    obtain ⟨t, rfl⟩ := idOk_cons h
    exact ⟨(parseWithSigil_encPath V h).1.trans (if_pos h.2.2), (parseWithSigil_encPath V h).2⟩
  | event r e =>
    obtain ⟨hr, he⟩ := h
    obtain ⟨_, he63, helast⟩ := parseWithSigil_encPath V he
    obtain ⟨et, rfl⟩ := idOk_cons he
    have hrs := roomOrAliasOk_isStr hr
    have hrne : r ≠ [] := by
      rcases hr with hr | hr <;> obtain ⟨rt, rfl⟩ := idOk_cons hr <;> exact List.cons_ne_nil _ _
    have hene : encPath (sigilEvent :: et) ≠ [] := percentEncode_ne_nil _ _ (List.cons_ne_nil _ _)
    refine ⟨?_, ?_, ?_⟩
    · rw [toStringWithSigil, parseWithSigil_pair V _ _ _ _ (not_mem_encPath _ hrs.1).1
        (not_mem_encPath _ he.1.1).1 (percentEncode_ne_nil _ _ hrne) hene
        (decodeUtf8_encPath _ hrs) (decodeUtf8_encPath _ he.1)]
      exact pairBranch_of_ok hr he
    · simp [toStringWithSigil, (not_mem_encPath r hrs.1).2, he63]
    · rw [toStringWithSigil, getLast?_append_cons _ _ 47 hene]; exact helast

theorem stripTypeSuffix_append (Q X : Str) (hX : 47 ∉ X)
    (hQ : List.count 47 Q ≠ 1 ∧ List.count 47 Q ≠ 3) :
    stripTypeSuffix (Q ++ 47 :: X) = Q ++ 47 :: X := by
  unfold stripTypeSuffix
  cases X with
  | nil =>
    have : (Q ++ [47]).dropLast = Q := by simp
    rw [this]
    simp [hQ.1, hQ.2]
  | cons y t =>
    have : (Q ++ 47 :: y :: t).getLast? ≠ some 47 := by
      rw [getLast?_append_cons Q (y :: t) 47 (by simp)]; exact getLast_ne_of_not_mem hX
    rw [if_neg (fun h => this h.1)]

/-- `parse_with_type` on `<type>/<X>`. -/
theorem parseWithType_single (V : Validators) (ty X : Str) (sg : Nat) (hty : 47 ∉ ty)
    (htyne : ty ≠ []) (hX : 47 ∉ X) (hsg : sigilOfType ty = some sg) :
    parseWithType V (ty ++ 47 :: X) = parseWithSigil V (47 :: sg :: X) := by
  unfold parseWithType
  rw [stripPrefixByte_of_head_ne 47 _ (head?_append_ne _ hty htyne),
    stripTypeSuffix_append ty X hX (by simp [List.count_eq_zero_of_not_mem hty])]
  have hne : ty ++ 47 :: X ≠ [] := by simp
  simp only [hne, count_sep ty X 47 hty hX, if_false, ne_eq, not_true_eq_false, false_and,
    splitOn_append 47 ty X hty, splitOn_not_mem 47 X hX, typeLoop, hsg, List.nil_append]

/-- `parse_with_type` on `<type>/<X>/<type>/<Y>`. -/
theorem parseWithType_pair (V : Validators) (ty1 X ty2 Y : Str) (sg1 sg2 : Nat)
    (hty1 : 47 ∉ ty1) (hty1ne : ty1 ≠ []) (hX : 47 ∉ X) (hty2 : 47 ∉ ty2) (hY : 47 ∉ Y)
    (hsg1 : sigilOfType ty1 = some sg1) (hsg2 : sigilOfType ty2 = some sg2) :
    parseWithType V (ty1 ++ 47 :: (X ++ 47 :: (ty2 ++ 47 :: Y))) =
      parseWithSigil V (47 :: sg1 :: X ++ 47 :: sg2 :: Y) := by
  unfold parseWithType
  have hc1 := List.count_eq_zero_of_not_mem hty1
  have hc2 := List.count_eq_zero_of_not_mem hX
  have hc3 := List.count_eq_zero_of_not_mem hty2
  have hc4 := List.count_eq_zero_of_not_mem hY
  have hassoc : ty1 ++ 47 :: (X ++ 47 :: (ty2 ++ 47 :: Y)) = (ty1 ++ 47 :: (X ++ 47 :: ty2)) ++ 47 :: Y := by
    simp
  rw [stripPrefixByte_of_head_ne 47 _ (head?_append_ne _ hty1 hty1ne)]
  rw [hassoc, stripTypeSuffix_append _ Y hY (by simp [List.count_append, hc1, hc2, hc3]), ← hassoc]
  have hne : ty1 ++ 47 :: (X ++ 47 :: (ty2 ++ 47 :: Y)) ≠ [] := by simp
  have hcount : List.count 47 (ty1 ++ 47 :: (X ++ 47 :: (ty2 ++ 47 :: Y))) = 3 := by
    simp [List.count_append, hc1, hc2, hc3, hc4]
  simp only [hne, hcount, if_false, ne_eq, not_true_eq_false, and_false,
    splitOn_append 47 ty1 _ hty1, splitOn_append 47 X _ hX, splitOn_append 47 ty2 _ hty2,
    splitOn_not_mem 47 Y hY, typeLoop, hsg1, hsg2, List.nil_append]

/-- The spec's table of types, as `parse_with_type` needs it: each type is a non-empty word without
`/` that `sigilOfType` maps back to its sigil, no sigil is `%` or `/`, and `Url::parse` keeps the
bytes of a type. -/
theorem typeOfSigil_some {sg : Nat} {ty : Str} (h : typeOfSigil sg = some ty) :
    47 ∉ ty ∧ ty ≠ [] ∧ sigilOfType ty = some sg ∧ sg ≠ 37 ∧ sg ≠ 47 ∧
      ∀ c ∈ ty, urlSafe c = true := by
  have table : ∀ p ∈ [(sigilUser, bs "u"), (sigilAlias, bs "r"), (sigilRoomId, bs "roomid"),
      (sigilEvent, bs "e")],
      47 ∉ p.2 ∧ p.2 ≠ [] ∧ sigilOfType p.2 = some p.1 ∧ p.1 ≠ 37 ∧ p.1 ≠ 47 ∧
        ∀ c ∈ p.2, urlSafe c = true := by decide +kernel
  refine table (sg, ty) ?_
  unfold typeOfSigil at h
  obtain ⟨rfl, rfl⟩ | h := ite_some h
  · exact .head _
  obtain ⟨rfl, rfl⟩ | h := ite_some h
  · exact .tail _ (.head _)
  obtain ⟨rfl, rfl⟩ | h := ite_some h
  · exact .tail _ (.tail _ (.head _))
  obtain ⟨rfl, rfl⟩ | h := ite_some h
  · exact .tail _ (.tail _ (.tail _ (.head _)))
  · cases h

theorem parseWithType_typed (V : Validators) {sg : Nat} {ty : Str} (t : Str)
    (hty : typeOfSigil sg = some ty) (h : IsStr (sg :: t)) :
    parseWithType V (ty ++ 47 :: encPath t) = singleBranch V (sg :: t) := by
  obtain ⟨h47, hne, hsg, h37, hs47, _⟩ := typeOfSigil_some hty
  have hX := (not_mem_encPath t h.1.tail).1
  rw [parseWithType_single V ty _ sg h47 hne hX hsg, parseWithSigil_lead V _ (by simp [hs47])]
  exact parseWithSigil_noslash V _ _ (by simp [hX, Ne.symm hs47]) (by simp)
    (decodeUtf8_sigil_enc sg t h h37)

theorem parseWithType_typed_pair (V : Validators) {sg1 sg2 : Nat} {ty1 ty2 : Str} (t1 t2 : Str)
    (h1 : typeOfSigil sg1 = some ty1) (h2 : typeOfSigil sg2 = some ty2)
    (hs1 : IsStr (sg1 :: t1)) (hs2 : IsStr (sg2 :: t2)) :
    parseWithType V (ty1 ++ 47 :: (encPath t1 ++ 47 :: (ty2 ++ 47 :: encPath t2))) =
      pairBranch V (sg1 :: t1) (sg2 :: t2) := by
  obtain ⟨a47, ane, asg, a37, as47, _⟩ := typeOfSigil_some h1
  obtain ⟨b47, _, bsg, b37, bs47, _⟩ := typeOfSigil_some h2
  have hX := (not_mem_encPath t1 hs1.1.tail).1
  have hY := (not_mem_encPath t2 hs2.1.tail).1
  rw [parseWithType_pair V _ _ _ _ sg1 sg2 a47 ane hX b47 hY asg bsg]
  show parseWithSigil V (47 :: ((sg1 :: encPath t1) ++ 47 :: sg2 :: encPath t2)) = _
  rw [parseWithSigil_lead V _ (by simp [as47])]
  exact parseWithSigil_pair V _ _ _ _ (by simp [hX, Ne.symm as47]) (by simp [hY, Ne.symm bs47])
    (by simp) (by simp) (decodeUtf8_sigil_enc sg1 t1 hs1 a37) (decodeUtf8_sigil_enc sg2 t2 hs2 b37)

theorem typed_safe {sg : Nat} {ty : Str} (R : Str) (hty : typeOfSigil sg = some ty)
    (hR : ∀ c ∈ R, urlSafe c = true) :
    (∀ c ∈ ty ++ 47 :: R, urlSafe c = true) ∧ (ty ++ 47 :: R).head? ≠ some 47 := by
  obtain ⟨h47, hne, _, _, _, hsafe⟩ := typeOfSigil_some hty
  refine ⟨fun c hc => ?_, head?_append_ne _ h47 hne⟩
  rcases List.mem_append.1 hc with hc | hc
  · exact hsafe c hc
  · rcases List.mem_cons.1 hc with rfl | hc
    · decide
    · exact hR c hc

theorem append_slash {a b : Str} (X : Str) (h : a = b ++ [47]) : a ++ X = b ++ 47 :: X := by
  rw [h, List.append_assoc]; rfl

theorem toStringWithType_user (x : Nat) (t : Str) :
    toStringWithType (.user (x :: t)) = .ok (bs "u" ++ 47 :: encPath t) :=
  congrArg Res.ok (append_slash _ (by decide +kernel))

theorem toStringWithType_room (x : Nat) (t : Str) :
    toStringWithType (.room (x :: t)) = .ok (bs "roomid" ++ 47 :: encPath t) :=
  congrArg Res.ok (append_slash _ (by decide +kernel))

theorem toStringWithType_roomAlias (x : Nat) (t : Str) :
    toStringWithType (.roomAlias (x :: t)) = .ok (bs "r" ++ 47 :: encPath t) :=
  congrArg Res.ok (append_slash _ (by decide +kernel))

theorem toStringWithType_event (x y : Nat) (t e : Str) (h : x = 33 ∨ x = 35) :
    toStringWithType (.event (x :: t) (y :: e)) =
      .ok ((if x = 33 then bs "roomid" else bs "r") ++
        47 :: (encPath t ++ 47 :: (bs "e" ++ 47 :: encPath e))) := by
  have he : bs "/e/" = 47 :: (bs "e" ++ [47]) := by decide +kernel
  rw [toStringWithType, he]
  rcases h with rfl | rfl
  · rw [if_pos rfl, if_pos rfl, append_slash (a := bs "roomid/") (b := bs "roomid") _ (by decide +kernel)]
    simp only [List.append_assoc, List.cons_append, List.nil_append]
  · rw [if_neg (by decide), if_pos rfl, if_neg (by decide),
      append_slash (a := bs "r/") (b := bs "r") _ (by decide +kernel)]
    simp only [List.append_assoc, List.cons_append, List.nil_append]

/-- `parse_with_type` reads a well-formed identifier back from what `to_string_with_type` writes,
and `Url::parse` keeps that text as an opaque path. -/
theorem typed_roundtrip (V : Validators) (id : MatrixId) (h : MatrixIdOk V id) :
    ∃ p, toStringWithType id = .ok p ∧ parseWithType V p = .ok id ∧
      p.all urlSafe = true ∧ p.head? ≠ some 47 := by
  have enc : ∀ t : Str, Bytes t → ∀ c ∈ encPath t, urlSafe c = true :=
    fun t ht c hc => (encPath_byte t ht c hc).1
  have single : ∀ {sg : Nat} {ty : Str} (t : Str) (id : MatrixId), typeOfSigil sg = some ty →
      IsStr (sg :: t) → toStringWithType id = .ok (ty ++ 47 :: encPath t) →
      singleBranch V (sg :: t) = .ok id →
      ∃ p, toStringWithType id = .ok p ∧ parseWithType V p = .ok id ∧
        p.all urlSafe = true ∧ p.head? ≠ some 47 := by
    intro sg ty t id hty hs hto hb
    have hsafe := typed_safe _ hty (enc t hs.1.tail)
    exact ⟨_, hto, (parseWithType_typed V t hty hs).trans hb, List.all_eq_true.mpr hsafe.1, hsafe.2⟩
  cases id with
  | user s =>
    obtain ⟨t, rfl⟩ := idOk_cons h
    exact single t _ rfl h.1 (toStringWithType_user _ t) (if_pos h.2.2)
  | room s =>
    obtain ⟨t, rfl⟩ := idOk_cons h
    exact single t _ rfl h.1 (toStringWithType_room _ t) (if_pos h.2.2)
  | roomAlias s =>
    obtain ⟨t, rfl⟩ := idOk_cons h
    exact single t _ rfl h.1 (toStringWithType_roomAlias _ t) (if_pos h.2.2)
  | event r e =>
    obtain ⟨hr, he⟩ := h
    obtain ⟨et, rfl⟩ := idOk_cons he
    have h2 := (typed_safe _ (sg := sigilEvent) rfl (enc et he.1.1.tail)).1
    have rest : ∀ rt, Bytes rt →
        ∀ c ∈ encPath rt ++ 47 :: (bs "e" ++ 47 :: encPath et), urlSafe c = true := by
      intro rt hrt c hc
      rcases List.mem_append.1 hc with hc | hc
      · exact enc rt hrt c hc
      · rcases List.mem_cons.1 hc with rfl | hc
        · decide
        · exact h2 c hc
    rcases hr with hr | hr <;> obtain ⟨rt, rfl⟩ := idOk_cons hr
    · have hs := typed_safe _ (sg := sigilRoomId) rfl (rest rt hr.1.1.tail)
      exact ⟨_, toStringWithType_event _ _ rt et (.inl rfl),
        (parseWithType_typed_pair V rt et rfl rfl hr.1 he.1).trans (pairBranch_of_ok (.inl hr) he),
        List.all_eq_true.mpr hs.1, hs.2⟩
    · have hs := typed_safe _ (sg := sigilAlias) rfl (rest rt hr.1.1.tail)
      exact ⟨_, toStringWithType_event _ _ rt et (.inr rfl),
        (parseWithType_typed_pair V rt et rfl rfl hr.1 he.1).trans (pairBranch_of_ok (.inr hr) he),
        List.all_eq_true.mpr hs.1, hs.2⟩
end Ruma.MatrixUri
