/-
  C11 — helper lemmas, part 3: the query part (`via=`, `action=`) written by `Display` and read by
  `form_urlencoded::parse`.
-/
import RumaModel.Lemmas.MatrixUriId
namespace Ruma.MatrixUri
open Ruma Ruma.Spec.MatrixUri

theorem joinWith_cons_cons (c : Nat) (p q : Str) (r : List Str) :
    joinWith c (p :: q :: r) = p ++ c :: joinWith c (q :: r) := rfl

theorem joinWith_append_singleton (c : Nat) (ps : List Str) (p : Str) (h : ps ≠ []) :
    joinWith c (ps ++ [p]) = joinWith c ps ++ c :: p := by
  induction ps with
  | nil => exact absurd rfl h
  | cons a r ih =>
    cases r with
    | nil => simp [joinWith]
    | cons b r =>
      have := ih (by simp)
      simp only [List.cons_append] at this ⊢
      rw [joinWith_cons_cons, joinWith_cons_cons, this]
      simp

theorem joinWith_forall {P : Nat → Prop} {c : Nat} (hc : P c) (ps : List Str)
    (h : ∀ p ∈ ps, ∀ x ∈ p, P x) : ∀ x ∈ joinWith c ps, P x := by
  induction ps with
  | nil => simp [joinWith]
  | cons p r ih =>
    cases r with
    | nil => simpa [joinWith] using h p (by simp)
    | cons q r =>
      rw [joinWith_cons_cons]
      intro x hx
      simp only [List.mem_append, List.mem_cons] at hx
      rcases hx with hx | rfl | hx
      · exact h p (by simp) x hx
      · exact hc
      · exact ih (fun y hy => h y (by simp [hy])) x hx

/-- One `key=<encoded value>` item of a query. -/
def item (kv : Str × Str) : Str := kv.1 ++ 61 :: encQuery kv.2

/-- The pairs `form_urlencoded::parse` should return for the `via` servers. -/
def viaPairs (vs : List Str) : List (Str × Str) := vs.map fun v => (bs "via", v)

theorem fmtVias_nil (first : Bool) : fmtVias first [] = ([], first) := rfl

theorem fmtVias_cons (first : Bool) (v : Str) (vs : List Str) :
    fmtVias first (v :: vs) =
      ((if first then 63 else 38) :: joinWith 38 ((viaPairs (v :: vs)).map item), false) := by
  have h1 : bs "?via=" = 63 :: (bs "via" ++ [61]) := by decide +kernel
  have h2 : bs "&via=" = 38 :: (bs "via" ++ [61]) := by decide +kernel
  induction vs generalizing first v with
  | nil => cases first <;> simp [fmtVias, joinWith, viaPairs, item, h1, h2]
  | cons w r ih =>
    unfold fmtVias
    rw [ih false w]
    cases first <;> simp [joinWith, viaPairs, item, h1, h2]

theorem formDecode_encQuery (s : Str) (h : IsStr s) : formDecode (encQuery s) = s := by
  unfold formDecode
  have hmap : (encQuery s).map (fun b => if b = 43 then 32 else b) = encQuery s :=
    (List.map_congr_left fun b hb => if_neg (encQuery_byte s h.1 b hb).2.2.2.1).trans (List.map_id' _)
  rw [hmap]
  unfold encQuery
  rw [percent_roundtrip_of queryValueSet (.inl (by decide)) s h.1, utf8Lossy_of_valid s h.2]

/-- The two keys `Display for MatrixUri` writes: what the proofs below need of a key. -/
theorem queryKeys_ok : ∀ k ∈ [bs "via", bs "action"],
    k ≠ [] ∧ 61 ∉ k ∧ formDecode k = k ∧ ∀ c ∈ k, urlSafe c = true ∧ c ≠ 47 ∧ c ≠ 38 := by
  decide +kernel

/-- Pairs with one of the two keys and a `str` value. -/
def PairsOk (pairs : List (Str × Str)) : Prop :=
  ∀ kv ∈ pairs, kv.1 ∈ [bs "via", bs "action"] ∧ IsStr kv.2

theorem item_props (kv : Str × Str) (hk : kv.1 ∈ [bs "via", bs "action"]) (hv : IsStr kv.2) :
    formPair (item kv) = kv ∧ item kv ≠ [] ∧
      ∀ c ∈ item kv, urlSafe c = true ∧ c ≠ 47 ∧ c ≠ 38 := by
  obtain ⟨_, h61, hdec, hsafe⟩ := queryKeys_ok _ hk
  refine ⟨?_, by simp [item], ?_⟩
  · unfold formPair item
    rw [splitOnce_append 61 _ _ h61]
    simp [hdec, formDecode_encQuery _ hv]
  · intro c hc
    simp only [item, List.mem_append, List.mem_cons] at hc
    rcases hc with hc | rfl | hc
    · exact hsafe c hc
    · decide
    · have := encQuery_byte _ hv.1 c hc
      exact ⟨this.1, this.2.1, this.2.2.1⟩

theorem formParse_joinWith (items : List Str) (hne : items ≠ [])
    (h : ∀ p ∈ items, p ≠ [] ∧ 38 ∉ p) :
    formParse (joinWith 38 items) = items.map formPair := by
  unfold formParse
  rw [splitOn_joinWith 38 items hne (fun p hp => (h p hp).2)]
  congr 1
  apply List.filter_eq_self.mpr
  intro p hp
  simp [(h p hp).1]

/-- The query written for a non-empty list of pairs parses back to the pairs, and `Url::parse`
keeps its bytes. -/
theorem query_props (pairs : List (Str × Str)) (hne : pairs ≠ []) (h : PairsOk pairs) :
    formParse (joinWith 38 (pairs.map item)) = pairs ∧
      ∀ c ∈ joinWith 38 (pairs.map item), urlSafe c = true ∧ c ≠ 47 := by
  have hi : ∀ p ∈ pairs.map item, ∀ c ∈ p, urlSafe c = true ∧ c ≠ 47 ∧ c ≠ 38 := by
    intro p hp
    obtain ⟨kv, hkv, rfl⟩ := List.mem_map.1 hp
    exact (item_props kv (h kv hkv).1 (h kv hkv).2).2.2
  constructor
  · rw [formParse_joinWith _ (by simpa using hne), List.map_map]
    · exact (List.map_congr_left fun kv hkv => (item_props kv (h kv hkv).1 (h kv hkv).2).1).trans
        (List.map_id _)
    · intro p hp
      obtain ⟨kv, hkv, rfl⟩ := List.mem_map.1 hp
      exact ⟨(item_props kv (h kv hkv).1 (h kv hkv).2).2.1, fun h38 => (hi _ hp 38 h38).2.2 rfl⟩
  · exact joinWith_forall (by decide) _ fun p hp c hc => ⟨(hi p hp c hc).1, (hi p hp c hc).2.1⟩

theorem viaPairs_ok (V : Validators) (vs : List Str) (h : ∀ v ∈ vs, ServerOk V v) :
    PairsOk (viaPairs vs) := by
  intro kv hkv
  obtain ⟨v, hv, rfl⟩ := List.mem_map.1 hkv
  exact ⟨.head _, (h v hv).1⟩

theorem viaOfPairs_map (V : Validators) (vs : List Str) (h : ∀ v ∈ vs, V.server v = true) :
    viaOfPairs V (viaPairs vs) = some vs := by
  induction vs with
  | nil => rfl
  | cons v r ih =>
    have ih := ih (fun x hx => h x (by simp [hx]))
    simp only [viaPairs] at ih
    simp [viaPairs, viaOfPairs, h v (by simp), ih]

theorem queryLoop_vias (V : Validators) (vs : List Str) (rest : List (Str × Str)) (acc : List Str)
    (act : Option Action) (h : ∀ v ∈ vs, V.server v = true) :
    queryLoop V (viaPairs vs ++ rest) acc act = queryLoop V rest (acc ++ vs) act := by
  induction vs generalizing acc with
  | nil => simp [viaPairs]
  | cons v r ih =>
    simp only [viaPairs, List.map_cons, List.cons_append, queryLoop, if_true, h v (by simp)]
    rw [← viaPairs, ih _ (fun x hx => h x (by simp [hx]))]
    simp

theorem ofStr_asStr (a : Action) (h : ActionOk a) : Action.ofStr a.asStr = a := by
  cases a with
  | join => decide +kernel
  | chat => decide +kernel
  | custom s => simp [Action.ofStr, Action.asStr, h.2.1, h.2.2]
end Ruma.MatrixUri
