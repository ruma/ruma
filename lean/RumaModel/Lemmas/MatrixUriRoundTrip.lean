/-
  C11 — helper lemmas, part 4: the text `Display for MatrixUri` writes, as path and query.
-/
import RumaModel.Lemmas.MatrixUriQuery
namespace Ruma.MatrixUri
open Ruma Ruma.Spec.MatrixUri

/-- The pairs `form_urlencoded::parse` should return for the query `Display for MatrixUri` writes. -/
def queryPairs (via : List Str) (action : Option Action) : List (Str × Str) :=
  viaPairs via ++ (match action with | none => [] | some a => [(bs "action", a.asStr)])

/-- The query `Url::parse` should report for the formatted text. -/
def queryOf (via : List Str) (action : Option Action) : Option Str :=
  if queryPairs via action = [] then none else some (joinWith 38 ((queryPairs via action).map item))

/-- What `Display for MatrixUri` writes after the path. -/
theorem fmtQuery_eq (via : List Str) (action : Option Action) :
    (fmtVias true via).1 ++
      (match action with
       | none => []
       | some a => (if (fmtVias true via).2 then bs "?action=" else bs "&action=") ++ encQuery a.asStr) =
    queryText (queryOf via action) := by
  have h1 : bs "?action=" = 63 :: (bs "action" ++ [61]) := by decide +kernel
  have h2 : bs "&action=" = 38 :: (bs "action" ++ [61]) := by decide +kernel
  unfold queryOf queryPairs
  cases via with
  | nil =>
    cases action with
    | none => rfl
    | some a => simp [fmtVias_nil, viaPairs, queryText, joinWith, item, h1]
  | cons v r =>
    have hne : viaPairs (v :: r) ≠ [] := by simp [viaPairs]
    rw [fmtVias_cons, if_pos rfl]
    cases action with
    | none => simp [queryText, hne]
    | some a =>
      rw [if_neg (by simp), List.map_append, List.map_cons, List.map_nil,
        joinWith_append_singleton 38 _ _ (by simpa using hne)]
      simp [queryText, item, h2]

theorem formatUri_eq (u : Uri) (p : Str) (hp : toStringWithType u.id = .ok p) :
    formatUri u = .ok (bs "matrix:" ++ p ++ queryText (queryOf u.via u.action)) := by
  unfold formatUri
  rw [hp]
  simp only [List.append_assoc]
  exact congrArg (fun q => Res.ok (bs "matrix:" ++ (p ++ q))) (fmtQuery_eq u.via u.action)

theorem actionOk_isStr (a : Action) (h : ActionOk a) : IsStr a.asStr := by
  cases a with
  | join => exact ⟨by unfold Bytes; decide, by decide⟩
  | chat => exact ⟨by unfold Bytes; decide, by decide⟩
  | custom s => exact h.1

theorem queryPairs_ok (V : Validators) (u : Uri) (h : UriOk V u) :
    PairsOk (queryPairs u.via u.action) := by
  obtain ⟨_, hvia, hact⟩ := h
  intro kv hkv
  rcases List.mem_append.1 hkv with hkv | hkv
  · exact viaPairs_ok V _ hvia kv hkv
  · cases ha : u.action with
    | none => simp [ha] at hkv
    | some a =>
      simp [ha] at hkv; subst hkv
      exact ⟨.tail _ (.head _), actionOk_isStr a (hact a ha)⟩

end Ruma.MatrixUri
