/-
  C11 — helper lemmas, part 6: the reference `Url::parse` meets the two assumptions.
-/
import RumaModel.Lemmas.MatrixUriWf
namespace Ruma.MatrixUri
open Ruma Ruma.Spec.MatrixUri

theorem urlParseRef_keeps : UrlKeepsSafeText urlParseRef := by
  intro p q hp hhead hq
  have hp' := List.all_eq_true.mp hp
  have hb : ∀ c, urlSafe c = true →
      c ≠ 63 ∧ c ≠ 35 ∧ (33 ≤ c && c ≤ 126 && c != 34 && c != 60 && c != 62) = true := by
    intro c hc
    have := urlSafe_bounds hc
    simp only [Bool.and_eq_true, decide_eq_true_eq, bne_iff_ne]
    omega
  have hp63 : 63 ∉ p := fun h => (hb 63 (hp' 63 h)).1 rfl
  have hrest : ∀ c ∈ p ++ queryText q,
      c ≠ 35 ∧ (33 ≤ c && c ≤ 126 && c != 34 && c != 60 && c != 62) = true := by
    intro c hc
    rcases List.mem_append.1 hc with hc | hc
    · exact (hb c (hp' c hc)).2
    · cases q with
      | none => cases hc
      | some q' =>
        rcases List.mem_cons.1 hc with rfl | hc
        · decide
        · exact (hb c (List.all_eq_true.mp (hq q' rfl) c hc)).2
  have hh : ((p ++ queryText q).head? != some 47) = true := by
    cases p with
    | nil => cases q <;> simp [queryText]
    | cons a t => simpa using hhead
  unfold urlParseRef
  rw [List.append_assoc, stripPrefix_append]
  simp only [List.all_eq_true.mpr fun c hc => (hrest c hc).2, hh, Bool.and_self, if_true,
    splitHT_not_mem 35 _ fun h => (hrest 35 h).1 rfl]
  cases q with
  | none => simp only [queryText, List.append_nil, splitOnce_not_mem 63 p hp63]
  | some q' => simp only [queryText, splitOnce_append 63 p q' hp63]

theorem urlParseRef_bytes : UrlReturnsBytes urlParseRef := by
  intro s u h
  unfold urlParseRef at h
  split at h
  · cases h
  · rename_i rest _
    split at h
    · rename_i hc
      simp only [Bool.and_eq_true] at hc
      have hrest : Bytes rest := by
        intro c hcm
        have := List.all_eq_true.mp hc.1 c hcm
        simp at this; omega
      have hnf : Bytes (splitHT 35 rest).1 := bytes_splitOn 35 hrest _ (List.mem_cons_self ..)
      dsimp only at h
      split at h
      · rename_i p q heq
        cases h
        have := bytes_splitOnce hnf heq
        exact ⟨this.1, fun q0 hq0 => by cases hq0; exact this.2⟩
      · cases h
        exact ⟨hnf, fun q0 hq0 => by cases hq0⟩
    · cases h

end Ruma.MatrixUri
