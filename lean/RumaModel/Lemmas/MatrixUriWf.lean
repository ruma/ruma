/-
  C11 — helper lemmas, part 5: parsing never panics; parsed values are well formed.
-/
import RumaModel.Lemmas.MatrixUriRoundTrip
namespace Ruma.MatrixUri
open Ruma Ruma.Spec.MatrixUri

theorem ite_ne_panic {α : Type} {c : Prop} [Decidable c] {a b : Res α} (ha : a ≠ .panic)
    (hb : b ≠ .panic) : (if c then a else b) ≠ .panic := by
  split <;> assumption

theorem singleBranch_ne_panic (V : Validators) (id : Str) : singleBranch V id ≠ .panic := by
  unfold singleBranch
  split
  · exact ite_ne_panic nofun nofun
  · exact ite_ne_panic nofun nofun
  · exact ite_ne_panic nofun nofun
  · nofun
  · nofun

theorem pairBranch_ne_panic (V : Validators) (a b : Str) : pairBranch V a b ≠ .panic :=
  have ev : ∀ r e, eventBranch V r e ≠ .panic := fun _ _ =>
    ite_ne_panic (ite_ne_panic nofun nofun) nofun
  ite_ne_panic (ev a b) (ite_ne_panic (ev b a) nofun)

theorem parseWithSigil_ne_panic (V : Validators) (s : Str) : parseWithSigil V s ≠ .panic := by
  rw [parseWithSigil_eq]
  refine ite_ne_panic nofun (ite_ne_panic nofun ?_)
  split
  · split
    · nofun
    · split
      · nofun
      · exact pairBranch_ne_panic V _ _
  · split
    · nofun
    · exact singleBranch_ne_panic V _

theorem parseWithType_ne_panic (V : Validators) (s : Str) : parseWithType V s ≠ .panic := by
  unfold parseWithType
  refine ite_ne_panic nofun (ite_ne_panic nofun ?_)
  split
  · nofun
  · exact parseWithSigil_ne_panic V _

theorem escapeAt_lt (t : Str) (v : Nat) (h : escapeAt t = some v) : v < 256 := by
  unfold escapeAt at h
  split at h
  · split at h
    · rename_i hx hy
      cases h
      have := (hexVal_some hx).2; have := (hexVal_some hy).2; omega
    · cases h
  · cases h

theorem bytes_decodeFrom (k : Nat) (s : Str) (h : Bytes s) : Bytes (decodeFrom k s) := by
  induction s generalizing k with
  | nil => simp [Bytes.nil]
  | cons b t ih =>
    cases k with
    | succ k => simpa using ih k h.tail
    | zero =>
      unfold decodeFrom
      split
      · split
        · rename_i v hv; exact Bytes.cons (escapeAt_lt t v hv) (ih 2 h.tail)
        · exact Bytes.cons (by omega) (ih 0 h.tail)
      · exact Bytes.cons h.head (ih 0 h.tail)

theorem bytes_lossyFrom (k : Nat) (s : Str) (h : Bytes s) : Bytes (lossyFrom k s) := by
  induction s generalizing k with
  | nil => cases k <;> simp [lossyFrom, Bytes.nil]
  | cons b t ih =>
    cases k with
    | succ k => simpa [lossyFrom] using ih k h.tail
    | zero =>
      simp only [lossyFrom]
      apply Bytes.append
      · split
        · exact Bytes.cons h.head (Bytes.of_subset h.tail (fun x hx => List.mem_of_mem_take hx))
        · unfold Bytes replacement; decide
      · exact ih _ h.tail

theorem isStr_formDecode (s : Str) (h : Bytes s) : IsStr (formDecode s) := by
  refine ⟨bytes_lossyFrom 0 _ (bytes_decodeFrom 0 _ ?_), validUtf8_utf8Lossy _⟩
  intro x hx
  simp only [List.mem_map] at hx
  obtain ⟨y, hy, rfl⟩ := hx
  split
  · omega
  · exact h y hy

theorem decodeUtf8_some (x d : Str) (hx : Bytes x) (h : decodeUtf8 x = some d) : IsStr d := by
  unfold decodeUtf8 at h
  split at h
  · cases h; exact ⟨bytes_decodeFrom 0 x hx, by assumption⟩
  · cases h

theorem bytes_stripPrefixByte (c : Nat) {s : Str} (h : Bytes s) : Bytes (stripPrefixByte c s) := by
  cases s with
  | nil => exact h
  | cons b t =>
    simp only [stripPrefixByte]
    split
    · exact h.tail
    · exact h

theorem bytes_dropLast {s : Str} (h : Bytes s) : Bytes s.dropLast :=
  h.of_subset (List.dropLast_subset s)

theorem bytes_stripSuffixByte (c : Nat) {s : Str} (h : Bytes s) : Bytes (stripSuffixByte c s) := by
  unfold stripSuffixByte
  split
  · exact bytes_dropLast h
  · exact h

theorem bytes_stripTypeSuffix {s : Str} (h : Bytes s) : Bytes (stripTypeSuffix s) := by
  unfold stripTypeSuffix
  split
  · exact bytes_dropLast h
  · exact h

theorem bytes_stripPrefix {p s r : Str} (hs : Bytes s) (h : stripPrefix p s = some r) : Bytes r := by
  induction p generalizing s with
  | nil => cases s <;> (cases h; exact hs)
  | cons a p ih =>
    cases s with
    | nil => cases h
    | cons b t =>
      simp only [stripPrefix] at h
      split at h
      · exact ih hs.tail h
      · cases h

theorem bytes_splitOnce {c : Nat} {s a r : Str} (hs : Bytes s) (h : splitOnce c s = some (a, r)) :
    Bytes a ∧ Bytes r := by
  induction s generalizing a with
  | nil => cases h
  | cons b t ih =>
    unfold splitOnce at h
    split at h
    · cases h; exact ⟨.nil, hs.tail⟩
    · split at h
      · rename_i a' r' heq
        cases h
        exact ⟨.cons hs.head (ih hs.tail heq).1, (ih hs.tail heq).2⟩
      · cases h

theorem bytes_splitOn (c : Nat) {s : Str} (hs : Bytes s) : ∀ p ∈ splitOn c s, Bytes p := by
  suffices h : Bytes (splitHT c s).1 ∧ ∀ p ∈ (splitHT c s).2, Bytes p from
    List.forall_mem_cons.2 h
  induction s with
  | nil => exact ⟨.nil, by simp [splitHT]⟩
  | cons b t ih =>
    have ih := ih hs.tail
    unfold splitHT
    split
    · exact ⟨.nil, List.forall_mem_cons.2 ih⟩
    · exact ⟨.cons hs.head ih.1, ih.2⟩

theorem singleBranch_ok (V : Validators) (s : Str) (id : MatrixId) (hs : IsStr s)
    (h : singleBranch V s = .ok id) : MatrixIdOk V id := by
  unfold singleBranch at h
  split at h
  · obtain ⟨hv, h⟩ := of_ite_eq h nofun; cases h; exact ⟨hs, ‹_›, hv⟩
  · obtain ⟨hv, h⟩ := of_ite_eq h nofun; cases h; exact ⟨hs, ‹_›, hv⟩
  · obtain ⟨hv, h⟩ := of_ite_eq h nofun; cases h; exact ⟨hs, ‹_›, hv⟩
  · cases h
  · cases h

theorem roomOrAliasOk_of (V : Validators) (s : Str) (hs : IsStr s) (h : V.roomOrAlias s = true) :
    RoomOrAliasOk V s := by
  unfold Validators.roomOrAlias at h
  split at h
  · rename_i hh; exact Or.inr ⟨hs, hh, h⟩
  · rename_i hh; exact Or.inl ⟨hs, hh, h⟩
  · cases h

theorem eventBranch_ok (V : Validators) (r e : Str) (id : MatrixId) (hr : IsStr r) (he : IsStr e)
    (h36 : e.head? = some 36) (h : eventBranch V r e = .ok id) : MatrixIdOk V id := by
  obtain ⟨hroa, h⟩ := of_ite_eq h nofun
  obtain ⟨hev, h⟩ := of_ite_eq h nofun
  cases h
  exact ⟨roomOrAliasOk_of V r hr hroa, he, h36, hev⟩

theorem pairBranch_ok (V : Validators) (a b : Str) (id : MatrixId) (ha : IsStr a) (hb : IsStr b)
    (h : pairBranch V a b = .ok id) : MatrixIdOk V id := by
  unfold pairBranch at h
  split at h
  · rename_i hc
    simp only [Bool.and_eq_true, beq_iff_eq] at hc
    exact eventBranch_ok V a b id ha hb hc.2 h
  · split at h
    · rename_i hc
      simp only [Bool.and_eq_true, beq_iff_eq] at hc
      exact eventBranch_ok V b a id hb ha hc.1 h
    · cases h

theorem parseWithSigil_ok (V : Validators) (s : Str) (id : MatrixId) (hs : Bytes s)
    (h : parseWithSigil V s = .ok id) : MatrixIdOk V id := by
  rw [parseWithSigil_eq] at h
  dsimp only at h
  have hs' := bytes_stripSuffixByte 47 (bytes_stripPrefixByte 47 hs)
  split at h
  · cases h
  · split at h
    · cases h
    · split at h
      · rename_i a r heq
        have hm := bytes_splitOnce hs' heq
        split at h
        · cases h
        · rename_i first hf
          split at h
          · cases h
          · rename_i second hsec
            exact pairBranch_ok V first second id
              (decodeUtf8_some a first hm.1 hf) (decodeUtf8_some r second hm.2 hsec) h
      · split at h
        · cases h
        · rename_i d hd
          exact singleBranch_ok V d id (decodeUtf8_some _ d hs' hd) h

theorem sigilOfType_lt (ty : Str) (sg : Nat) (h : sigilOfType ty = some sg) : sg < 256 := by
  unfold sigilOfType at h
  obtain ⟨_, rfl⟩ | h := ite_some h
  · decide
  obtain ⟨_, rfl⟩ | h := ite_some h
  · decide
  obtain ⟨_, rfl⟩ | h := ite_some h
  · decide
  obtain ⟨_, rfl⟩ | h := ite_some h
  · decide
  · cases h

theorem bytes_typeLoop (pieces : List Str) (acc id : Str) (hp : ∀ p ∈ pieces, Bytes p)
    (hacc : Bytes acc) (h : typeLoop pieces acc = some id) : Bytes id := by
  fun_induction typeLoop pieces acc with
  | case1 ty idw rest acc hnone => cases h
  | case2 ty idw rest acc sg hsg ih =>
    apply ih (fun p hp' => hp p (by simp [hp'])) _ h
    exact hacc.append (Bytes.cons (by omega) (Bytes.cons (sigilOfType_lt ty sg hsg) (hp idw (by simp))))
  | case3 pieces acc hne => cases h; exact hacc

theorem parseWithType_ok (V : Validators) (s : Str) (id : MatrixId) (hs : Bytes s)
    (h : parseWithType V s = .ok id) : MatrixIdOk V id := by
  unfold parseWithType at h
  dsimp only at h
  split at h
  · cases h
  · split at h
    · cases h
    · split at h
      · cases h
      · rename_i idtext hloop
        exact parseWithSigil_ok V idtext id (bytes_typeLoop _ [] idtext
          (bytes_splitOn 47 (bytes_stripTypeSuffix (bytes_stripPrefixByte 47 hs))) Bytes.nil hloop) h

theorem formPair_isStr (seq : Str) (h : Bytes seq) : IsStr (formPair seq).1 ∧ IsStr (formPair seq).2 := by
  unfold formPair
  split
  · rename_i n v heq
    have := bytes_splitOnce h heq
    exact ⟨isStr_formDecode n this.1, isStr_formDecode v this.2⟩
  · exact ⟨isStr_formDecode seq h, isStr_formDecode [] Bytes.nil⟩

theorem formParse_isStr (q : Str) (h : Bytes q) : ∀ kv ∈ formParse q, IsStr kv.1 ∧ IsStr kv.2 := by
  intro kv hkv
  simp only [formParse, List.mem_map, List.mem_filter] at hkv
  obtain ⟨seq, ⟨hseq, _⟩, rfl⟩ := hkv
  exact formPair_isStr seq (bytes_splitOn 38 h seq hseq)

theorem viaOfPairs_ok (V : Validators) (pairs : List (Str × Str)) (vs : List Str)
    (hp : ∀ kv ∈ pairs, IsStr kv.2) (h : viaOfPairs V pairs = some vs) :
    ∀ v ∈ vs, ServerOk V v := by
  induction pairs generalizing vs with
  | nil => cases h; simp
  | cons kv t ih =>
    obtain ⟨k, v⟩ := kv
    simp only [viaOfPairs] at h
    obtain ⟨_, h⟩ := of_ite_eq h nofun
    obtain ⟨hsv, h⟩ := of_ite_eq h nofun
    split at h
    · rename_i vs' hvs'
      cases h
      exact List.forall_mem_cons.2 ⟨⟨hp (k, v) (by simp), hsv⟩,
        ih vs' (fun kv hkv => hp kv (by simp [hkv])) hvs'⟩
    · cases h

theorem ofStr_ok (s : Str) (h : IsStr s) : ActionOk (Action.ofStr s) := by
  unfold Action.ofStr
  by_cases h1 : s = bs "join"
  · rw [if_pos h1]; trivial
  by_cases h2 : s = bs "chat"
  · rw [if_neg h1, if_pos h2]; trivial
  · rw [if_neg h1, if_neg h2]; exact ⟨h, h1, h2⟩

theorem queryLoop_ok (V : Validators) (pairs : List (Str × Str)) (acc via : List Str)
    (act action : Option Action) (hp : ∀ kv ∈ pairs, IsStr kv.2)
    (hacc : ∀ v ∈ acc, ServerOk V v) (hact : ∀ a, act = some a → ActionOk a)
    (h : queryLoop V pairs acc act = some (via, action)) :
    (∀ v ∈ via, ServerOk V v) ∧ ∀ a, action = some a → ActionOk a := by
  induction pairs generalizing acc act with
  | nil => simp [queryLoop] at h; obtain ⟨rfl, rfl⟩ := h; exact ⟨hacc, hact⟩
  | cons kv t ih =>
    obtain ⟨k, v⟩ := kv
    have hv : IsStr v := hp (k, v) (by simp)
    have ht : ∀ kv ∈ t, IsStr kv.2 := fun kv hkv => hp kv (by simp [hkv])
    simp only [queryLoop] at h
    by_cases hk : k = bs "via"
    · rw [if_pos hk] at h
      obtain ⟨hsv, h⟩ := of_ite_eq h nofun
      refine ih (acc ++ [v]) act ht ?_ hact h
      intro x hx
      rcases List.mem_append.1 hx with hx | hx
      · exact hacc x hx
      · cases List.mem_singleton.1 hx; exact ⟨hv, hsv⟩
    · rw [if_neg hk] at h
      obtain ⟨_, h⟩ := of_ite_eq h nofun
      split at h
      · cases h
      · refine ih acc _ ht hacc ?_ h
        intro a ha; cases ha; exact ofStr_ok v hv

end Ruma.MatrixUri
