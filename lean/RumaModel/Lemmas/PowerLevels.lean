/-
  C20 — lemmas relating the helper model (`Model/PowerLevels.lean`) to the accessors of the
  authorization model (`Model/Auth.lean`): whenever the rules of a room version can read a
  power-levels content in full (`authWF`), the helper can deserialize it (`ofContent`), and every
  level the rules read is the level the helper holds (`Agree`).
-/
import RumaModel.Model.PowerLevels
import RumaModel.Lemmas.Auth
namespace Ruma.PowerLevels
open Ruma Ruma.Auth Ruma.Ident

variable {rules : AuthRules}

theorem okB_iff {α} {x : Res α} : okB x = true ↔ ∃ a, x = .ok a := by
  cases x <;> simp [okB]

theorem okB_bind {α β} {x : Res α} {g : α → Res β} (hx : okB x = true) (hg : ∀ a, okB (g a) = true) :
    okB (x >>= g) = true := by
  obtain ⟨a, rfl⟩ := okB_iff.mp hx
  exact hg a

theorem plInt_serde_of_ok {v : JVal} {i : Int} (h : plInt rules v = .ok i) :
    plInt serdeRules v = .ok i := by
  cases v with
  | str s =>
    cases hr : rules.integerPowerLevels with
    | true => simp [plInt, hr] at h
    | false => simpa [plInt, hr, serdeRules, AuthRules.v1] using h
  | int i => simpa [plInt] using h
  | _ => simp [plInt] at h

theorem intMapEntries_cons_ok {keyOf : Str → Option Str} {k : Str} {v : JVal}
    {t : List (Str × JVal)} {m : PLMap} :
    intMapEntries rules keyOf ((k, v) :: t) = .ok m ↔
      ∃ k' i rest, keyOf k = some k' ∧ plInt rules v = .ok i ∧ intMapEntries rules keyOf t = .ok rest ∧
        m = (k', i) :: rest := by
  simp only [intMapEntries]
  cases keyOf k with
  | none => exact ⟨fun h => (nomatch h), fun ⟨_, _, _, h, _⟩ => (nomatch h)⟩
  | some k' =>
    simp only [bind_eq_ok, Option.some.injEq, Except.ok.injEq]
    constructor
    · rintro ⟨i, hi, rest, hr, hm⟩
      exact ⟨k', i, rest, rfl, hi, hr, hm.symm⟩
    · rintro ⟨_, i, rest, rfl, hi, hr, hm⟩
      exact ⟨i, hi, rest, hr, hm.symm⟩

theorem intMapEntries_serde_of_ok {keyOf : Str → Option Str} :
    ∀ {kvs : List (Str × JVal)} {m : PLMap}, intMapEntries rules keyOf kvs = .ok m →
      intMapEntries serdeRules keyOf kvs = .ok m
  | [], _, h => h
  | (_, _) :: _, _, h => by
    obtain ⟨k', i, rest, hk, hi, hrest, rfl⟩ := intMapEntries_cons_ok.mp h
    exact intMapEntries_cons_ok.mpr ⟨k', i, rest, hk, plInt_serde_of_ok hi, intMapEntries_serde_of_ok hrest, rfl⟩

theorem intMapEntries_get_ok {keyOf : Str → Option Str} :
    ∀ {kvs : List (Str × JVal)} {m : PLMap}, intMapEntries rules keyOf kvs = .ok m →
      ∀ k v, Obj.get kvs k = some v → ∃ i, plInt rules v = .ok i
  | [], _, _, k, v, hg => by simp [Obj.get] at hg
  | (k0, v0) :: t, _, h, k, v, hg => by
    obtain ⟨_, i, rest, -, hi, hrest, -⟩ := intMapEntries_cons_ok.mp h
    simp only [Obj.get] at hg
    split at hg
    · cases hg
      exact ⟨i, hi⟩
    · exact intMapEntries_get_ok hrest k v hg

/-- The helper's default of an integer field. -/
def helperDefault : PLField → Int
  | .usersDefault | .eventsDefault | .invite => 0
  | .stateDefault | .kick | .ban | .redact => defaultPowerLevel

theorem intField_of_getAsInt {c : Obj} {fld : PLField} {o : Option Int}
    (h : getAsInt rules c fld = .ok o) :
    intField c fld.key (helperDefault fld) = .ok (o.getD fld.default) := by
  unfold getAsInt at h
  unfold intField
  cases hg : Obj.get c fld.key with
  | none =>
    simp only [hg, Except.ok.injEq] at h
    subst h
    cases fld <;> rfl
  | some v =>
    simp only [hg, exceptMap_eq_ok] at h
    obtain ⟨i, hi, rfl⟩ := h
    exact plInt_serde_of_ok hi

theorem mapField_of_getAsIntMap {c : Obj} {key : Str} {keyOf : Str → Option Str}
    {m : Option PLMap} (h : getAsIntMap rules c key keyOf = .ok m) :
    mapField c key keyOf = .ok (m.getD []) := by
  unfold getAsIntMap at h
  unfold mapField
  cases hg : Obj.get c key with
  | none =>
    simp only [hg, Except.ok.injEq] at h
    subst h
    rfl
  | some v =>
    cases v with
    | obj kvs =>
      simp only [hg, exceptMap_eq_ok] at h
      obtain ⟨l, hl, rfl⟩ := h
      exact intMapEntries_serde_of_ok hl
    | _ => simp [hg] at h

theorem notificationsField_of_plNotifications {c : Obj} {m : Option PLMap}
    (h : plNotifications rules c = .ok m) : okB (notificationsField c) = true := by
  unfold plNotifications getAsIntMap at h
  unfold notificationsField
  cases hg : Obj.get c (bs "notifications") with
  | none => rfl
  | some v =>
    cases v with
    | obj o =>
      simp only [hg, exceptMap_eq_ok] at h
      obtain ⟨l, hl, -⟩ := h
      simp only [intField]
      cases hr : Obj.get o (bs "room") with
      | none => rfl
      | some w =>
        obtain ⟨i, hi⟩ := intMapEntries_get_ok hl _ _ hr
        exact okB_iff.mpr ⟨i, plInt_serde_of_ok hi⟩
    | _ => simp [hg] at h

theorem authWF_fields {c : Obj} (h : authWF rules c = true) :
    (∀ fld, ∃ o, getAsInt rules c fld = .ok o) ∧
    (∃ m, plEvents rules c = .ok m) ∧ (∃ m, plUsers rules c = .ok m) ∧
    (∃ m, plNotifications rules c = .ok m) := by
  simp only [authWF, Bool.and_eq_true, List.all_eq_true] at h
  obtain ⟨⟨⟨h1, h2⟩, h3⟩, h4⟩ := h
  exact ⟨fun fld => okB_iff.mp (h1 fld (PLField.mem_all fld)), okB_iff.mp h2, okB_iff.mp h3, okB_iff.mp h4⟩

theorem ofContent_isSome_of_authWF {c : Obj} (h : authWF rules c = true) :
    (ofContent c).isSome = true := by
  obtain ⟨hint, ⟨me, hme⟩, ⟨mu, hmu⟩, ⟨mn, hmn⟩⟩ := authWF_fields h
  have hi : ∀ fld, okB (intField c fld.key (helperDefault fld)) = true := fun fld =>
    (hint fld).elim fun _ ho => okB_iff.mpr ⟨_, intField_of_getAsInt ho⟩
  have hm {key keyOf m} (h : getAsIntMap rules c key keyOf = .ok m) : okB (mapField c key keyOf) = true :=
    okB_iff.mpr ⟨_, mapField_of_getAsIntMap h⟩
  have : okB (ofContentR c) = true :=
    okB_bind (hi .ban) fun _ => okB_bind (hm hme) fun _ => okB_bind (hi .eventsDefault) fun _ =>
    okB_bind (hi .invite) fun _ => okB_bind (hi .kick) fun _ => okB_bind (hi .redact) fun _ =>
    okB_bind (hi .stateDefault) fun _ => okB_bind (hm hmu) fun _ => okB_bind (hi .usersDefault) fun _ =>
    okB_bind (notificationsField_of_plNotifications hmn) fun _ => rfl
  unfold ofContent
  cases hr : ofContentR c with
  | ok p => rfl
  | error e => rw [hr] at this; cases this

theorem ofContent_eq_some {c : Obj} {p : Levels} : ofContent c = some p ↔ ofContentR c = .ok p := by
  unfold ofContent
  cases ofContentR c <;> simp

theorem ofContentR_eq_ok {c : Obj} {p : Levels} :
    ofContentR c = .ok p ↔
      intField c (bs "ban") defaultPowerLevel = .ok p.ban ∧
      mapField c (bs "events") (fun k => some (canonType k)) = .ok p.events ∧
      intField c (bs "events_default") 0 = .ok p.eventsDefault ∧
      intField c (bs "invite") 0 = .ok p.invite ∧
      intField c (bs "kick") defaultPowerLevel = .ok p.kick ∧
      intField c (bs "redact") defaultPowerLevel = .ok p.redact ∧
      intField c (bs "state_default") defaultPowerLevel = .ok p.stateDefault ∧
      mapField c (bs "users") (fun k => if validUserId k then some k else none) = .ok p.users ∧
      intField c (bs "users_default") 0 = .ok p.usersDefault ∧
      notificationsField c = .ok p.notificationsRoom := by
  simp only [ofContentR, bind_eq_ok]
  constructor
  · rintro ⟨_, h1, _, h2, _, h3, _, h4, _, h5, _, h6, _, h7, _, h8, _, h9, _, h10, hp⟩
    cases hp
    exact ⟨h1, h2, h3, h4, h5, h6, h7, h8, h9, h10⟩
  · rintro ⟨h1, h2, h3, h4, h5, h6, h7, h8, h9, h10⟩
    exact ⟨_, h1, _, h2, _, h3, _, h4, _, h5, _, h6, _, h7, _, h8, _, h9, _, h10, rfl⟩

theorem int_field_agree {c : Obj} {fld : PLField} {x : Int}
    (hwf : ∃ o, getAsInt rules c fld = .ok o)
    (hx : intField c fld.key (helperDefault fld) = .ok x) :
    getAsIntOrDefault rules c fld = .ok x := by
  obtain ⟨o, ho⟩ := hwf
  rw [intField_of_getAsInt ho] at hx
  cases hx
  simp only [getAsIntOrDefault, ho, Except.map]

theorem map_field_agree {c : Obj} {key : Str} {keyOf : Str → Option Str}
    {m : Option PLMap} {l : PLMap}
    (hm : getAsIntMap rules c key keyOf = .ok m) (hl : mapField c key keyOf = .ok l) (k : Str) :
    m.bind (lastGet · k) = lastGet l k := by
  rw [mapField_of_getAsIntMap hm] at hl
  cases hl
  cases m <;> rfl

/-- What the rules read from a power-levels event is what the helper holds. -/
structure Agree (rules : AuthRules) (pl : Event) (p : Levels) : Prop where
  user : ∀ u creator, plUserLevel rules (some pl) u creator = .ok (p.forUser u)
  ban : plIntOrDefault rules (some pl) .ban = .ok p.ban
  kick : plIntOrDefault rules (some pl) .kick = .ok p.kick
  invite : plIntOrDefault rules (some pl) .invite = .ok p.invite
  redact : plIntOrDefault rules (some pl) .redact = .ok p.redact
  state : ∀ t, plEventLevel rules (some pl) t true = .ok (p.forState t)
  message : ∀ t, plEventLevel rules (some pl) t false = .ok (p.forMessage t)

theorem agree_of_wf {pl : Event} {p : Levels}
    (hwf : authWF rules pl.content = true) (hp : ofContent pl.content = some p) :
    Agree rules pl p := by
  obtain ⟨hint, ⟨me, hme⟩, ⟨mu, hmu⟩, -⟩ := authWF_fields hwf
  obtain ⟨f1, f2, f3, f4, f5, f6, f7, f8, f9, -⟩ := ofContentR_eq_ok.mp (ofContent_eq_some.mp hp)
  have hev (t : Str) (b : Bool) : plEventLevel rules (some pl) t b =
      .ok (match lastGet p.events t with
        | some l => l
        | none => if b then p.stateDefault else p.eventsDefault) := by
    simp only [plEventLevel, hme, bind, Except.bind, map_field_agree hme f2 t]
    cases lastGet p.events t with
    | some l => rfl
    | none =>
      cases b
      · exact int_field_agree (hint _) f3
      · exact int_field_agree (hint _) f7
  refine ⟨fun u creator => ?_, int_field_agree (hint _) f1, int_field_agree (hint _) f5,
    int_field_agree (hint _) f4, int_field_agree (hint _) f6, fun t => hev t true, fun t => hev t false⟩
  simp only [plUserLevel, hmu, bind, Except.bind, map_field_agree hmu f8 u, Levels.forUser]
  cases lastGet p.users u with
  | some l => rfl
  | none => exact int_field_agree (hint _) f9

end Ruma.PowerLevels
