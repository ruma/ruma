/-
  C20 — what `settingOk` provides (`Setting`), and `authCheck` computed along each path of
  `auth_check` under that setting, with the levels the helper holds substituted for the levels the
  rules read.
-/
import RumaModel.Lemmas.PowerLevels
namespace Ruma.PowerLevels
open Ruma Ruma.Auth Ruma.Ident

theorem ok_bind {α β} (a : α) (g : α → Res β) : (Except.ok a >>= g) = g a := rfl
theorem error_bind {α β} (e : Unit) (g : α → Res β) : ((Except.error e : Res α) >>= g) = .error e := rfl
theorem require_true : require true = .ok () := rfl
theorem require_false : require false = .error () := rfl

variable {rules : AuthRules} {f : Fetch} {ev : Event} {p : Levels}

theorem authCheck_eq_okB (rules : AuthRules) (ev : Event) (f : Fetch) :
    authCheck rules ev f = okB (authCheckR rules ev f) := by
  unfold authCheck
  cases authCheckR rules ev f <;> rfl

theorem okB_require (c : Bool) : okB (require c) = c := by
  cases c <;> rfl

theorem okB_require_bind (c : Bool) (x : Res Unit) : okB (require c >>= fun _ => x) = (c && okB x) := by
  cases c <;> rfl

theorem tThirdPartyInvite_ne_tCreate : tThirdPartyInvite ≠ tCreate := mt bs_inj.mp (by simp)
theorem tThirdPartyInvite_ne_tMember : tThirdPartyInvite ≠ tMember := mt bs_inj.mp (by simp)
theorem tThirdPartyInvite_ne_tAliases : tThirdPartyInvite ≠ tAliases := mt bs_inj.mp (by simp)
theorem tRedaction_ne_tCreate : tRedaction ≠ tCreate := mt bs_inj.mp (by simp)
theorem tRedaction_ne_tMember : tRedaction ≠ tMember := mt bs_inj.mp (by simp)
theorem tRedaction_ne_tAliases : tRedaction ≠ tAliases := mt bs_inj.mp (by simp)
theorem tRedaction_ne_tPowerLevels : tRedaction ≠ tPowerLevels := mt bs_inj.mp (by simp)
theorem tRedaction_ne_tThirdPartyInvite : tRedaction ≠ tThirdPartyInvite := mt bs_inj.mp (by simp)

theorem aliasesCase_false {t : Str} (h : t ≠ tAliases) :
    (rules.specialCaseRoomAliases && t == tAliases) = false := by
  rw [beq_eq_false_iff_ne.mpr h, Bool.and_false]

/-- What `settingOk` provides, `p` being the helper's levels of the room. -/
structure Setting (rules : AuthRules) (f : Fetch) (ev : Event) (p : Levels) (create pl : Event)
    (creator : Str) (fed : Bool) : Prop where
  fetched : fetchCreate f = .ok create
  cited : ev.authEvents.contains create.eventId = true
  federate : createFederate create.content = .ok fed
  admitted : (fed || userServer create.sender == userServer ev.sender) = true
  creatorOk : createCreator rules create = .ok creator
  joined : userMembership f ev.sender = .ok mJoin
  powerLevels : fetchPowerLevels f = some pl
  wf : authWF rules pl.content = true
  levels : ofContent pl.content = some p

theorem Setting.agree {rules f ev p create pl creator fed} (h : Setting rules f ev p create pl creator fed) :
    Agree rules pl p :=
  agree_of_wf h.wf h.levels

theorem setting_of_ok (h : settingOk rules f ev = true) (hp : roomLevels f = some p) :
    ∃ create pl creator fed, Setting rules f ev p create pl creator fed := by
  simp only [settingOk, Bool.and_eq_true] at h
  obtain ⟨⟨hc, hj⟩, hpl⟩ := h
  unfold createOk at hc
  unfold senderJoined at hj
  unfold roomLevels at hp
  unfold plContent at hpl hp
  cases hcr : f tCreate [] with
  | none => simp [hcr] at hc
  | some create =>
  cases hf : createFederate create.content with
  | error e => simp [hcr, hf] at hc
  | ok fed =>
  cases hm : userMembership f ev.sender with
  | error e => simp [hm] at hj
  | ok m =>
  cases hfp : fetchPowerLevels f with
  | none => simp [hfp] at hpl
  | some pl =>
    simp only [hcr, hf, Bool.and_eq_true, okB_iff] at hc
    obtain ⟨⟨hcit, hfed⟩, creator, hcreator⟩ := hc
    simp only [hm, beq_iff_eq] at hj
    simp only [hfp, Option.map_some, Bool.and_eq_true, Option.bind_some] at hpl hp
    exact ⟨create, pl, creator, fed, fetchCreate_eq_ok.mpr hcr, hcit, hf, hfed, hcreator, hj ▸ hm,
      hfp, hpl.2, hp⟩

theorem memberTarget_inv {m t : Str} (h : memberTarget ev m = some t) :
    ev.type = tMember ∧ ev.stateKey = some t ∧ validUserId t = true ∧ contentMembership ev.content = .ok m := by
  unfold memberTarget at h
  split at h
  · split at h
    · split at h
      · rename_i hty _ _ t' m' hsk hm hv
        cases h
        rw [Bool.and_eq_true, beq_iff_eq] at hv
        exact ⟨eq_of_beq hty, hsk, hv.1, hv.2 ▸ hm⟩
      · cases h
    · cases h
  · cases h

theorem membershipOf_inv {u m : Str} (h : membershipOf f u = some m) :
    userMembership f u = .ok m := by
  unfold membershipOf at h
  split at h
  · cases h
    assumption
  · cases h

theorem authCheckR_member_eq {rules f ev p create pl creator fed} {m target : Str}
    (hS : Setting rules f ev p create pl creator fed) (ht : memberTarget ev m = some target) :
    authCheckR rules ev f =
      if m == mJoin then checkMemberJoin rules ev target create f
      else if m == mInvite then checkMemberInvite rules ev target create f
      else if m == mLeave then checkMemberLeave rules ev target create f
      else if m == mBan then checkMemberBan rules ev target create f
      else if m == mKnock && rules.knocking then checkMemberKnock rules ev target f
      else .error () := by
  obtain ⟨hty, hsk, hv, hm⟩ := memberTarget_inv ht
  have : authCheckR rules ev f = checkRoomMember rules ev create f := by
    simp only [authCheckR, hty, beq_eq_false_iff_ne.mpr tMember_ne_tCreate,
      aliasesCase_false tMember_ne_tAliases, hS.fetched, hS.cited, hS.federate, hS.admitted, ok_bind,
      require_true, beq_self_eq_true, Bool.false_eq_true, if_false, if_true]
  rw [this, checkRoomMember_eq hsk hm, hv, require_true, ok_bind]

theorem authCheck_ban {target : Str} (hs : settingOk rules f ev = true) (hp : roomLevels f = some p)
    (ht : memberTarget ev mBan = some target) :
    authCheck rules ev f = p.userCanBanUser ev.sender target := by
  obtain ⟨create, pl, creator, fed, hS⟩ := setting_of_ok hs hp
  rw [authCheck_eq_okB, authCheckR_member_eq hS ht]
  simp only [beq_iff_eq, mBan_ne_mJoin, mBan_ne_mInvite, mBan_ne_mLeave, if_false, if_true, checkMemberBan,
    hS.joined, hS.creatorOk, hS.powerLevels, hS.agree.user, hS.agree.ban, ok_bind, beq_self_eq_true, require_true,
    okB_require, Levels.userCanBanUser]

theorem authCheck_leave {target tm : Str} (hs : settingOk rules f ev = true) (hp : roomLevels f = some p)
    (ht : memberTarget ev mLeave = some target) (hne : target ≠ ev.sender)
    (htm : membershipOf f target = some tm) :
    authCheck rules ev f =
      (!(tm == mBan && decide (p.forUser ev.sender < p.ban)) &&
        (decide (p.forUser ev.sender ≥ p.kick) && decide (p.forUser target < p.forUser ev.sender))) := by
  obtain ⟨create, pl, creator, fed, hS⟩ := setting_of_ok hs hp
  rw [authCheck_eq_okB, authCheckR_member_eq hS ht]
  simp only [beq_iff_eq, mLeave_ne_mJoin, mLeave_ne_mInvite, hne.symm, if_false, if_true, checkMemberLeave,
    hS.joined, hS.creatorOk, hS.powerLevels, hS.agree.user, hS.agree.ban, hS.agree.kick, membershipOf_inv htm,
    ok_bind, beq_self_eq_true, require_true, okB_require_bind, okB_require]

theorem authCheck_invite {target tm : Str} (hs : settingOk rules f ev = true) (hp : roomLevels f = some p)
    (ht : memberTarget ev mInvite = some target)
    (htpi : contentThirdPartyInvite ev.content = .ok none)
    (htm : membershipOf f target = some tm) :
    authCheck rules ev f = (!(tm == mJoin || tm == mBan) && p.userCanInvite ev.sender) := by
  obtain ⟨create, pl, creator, fed, hS⟩ := setting_of_ok hs hp
  rw [authCheck_eq_okB, authCheckR_member_eq hS ht]
  simp only [beq_iff_eq, mInvite_ne_mJoin, if_false, if_true, checkMemberInvite, htpi,
    hS.joined, hS.creatorOk, hS.powerLevels, hS.agree.user, hS.agree.invite, membershipOf_inv htm,
    ok_bind, beq_self_eq_true, require_true, okB_require_bind, okB_require, Levels.userCanInvite]

theorem authCheck_general_eq {rules f ev p create pl creator fed} (hS : Setting rules f ev p create pl creator fed)
    (h1 : ev.type ≠ tCreate) (h2 : ev.type ≠ tMember)
    (h3 : (rules.specialCaseRoomAliases && ev.type == tAliases) = false) :
    authCheck rules ev f =
      if ev.type == tThirdPartyInvite then p.userCanInvite ev.sender
      else
        (decide (p.forUser ev.sender ≥
            (if ev.stateKey.isSome then p.forState ev.type else p.forMessage ev.type)) &&
         (!foreignUserStateKey ev &&
         okB (if ev.type == tPowerLevels then checkRoomPowerLevels rules ev (some pl) (p.forUser ev.sender)
         else if rules.specialCaseRoomRedaction && ev.type == tRedaction then
           checkRoomRedaction rules ev (some pl) (p.forUser ev.sender)
         else .ok ()))) := by
  have hreq : plEventLevel rules (some pl) ev.type ev.stateKey.isSome =
      .ok (if ev.stateKey.isSome then p.forState ev.type else p.forMessage ev.type) := by
    cases ev.stateKey.isSome
    · exact hS.agree.message ev.type
    · exact hS.agree.state ev.type
  rw [authCheck_eq_okB]
  simp only [authCheckR, beq_eq_false_iff_ne.mpr h1, h3, beq_eq_false_iff_ne.mpr h2, hS.fetched, hS.cited,
    hS.federate, hS.admitted, hS.joined, hS.creatorOk, hS.powerLevels, hS.agree.user, hS.agree.invite, hreq,
    ok_bind, require_true, Bool.false_eq_true, if_false, beq_self_eq_true]
  rw [apply_ite okB, okB_require, okB_require_bind, okB_require_bind]
  rfl

theorem authCheck_thirdPartyInvite (hs : settingOk rules f ev = true) (hp : roomLevels f = some p)
    (hty : ev.type = tThirdPartyInvite) :
    authCheck rules ev f = p.userCanInvite ev.sender := by
  obtain ⟨create, pl, creator, fed, hS⟩ := setting_of_ok hs hp
  rw [authCheck_general_eq hS (hty ▸ tThirdPartyInvite_ne_tCreate) (hty ▸ tThirdPartyInvite_ne_tMember)
    (aliasesCase_false (hty ▸ tThirdPartyInvite_ne_tAliases)), if_pos (beq_iff_eq.mpr hty)]

theorem foreignUserStateKey_none (h : ev.stateKey = none) : foreignUserStateKey ev = false := by
  simp only [foreignUserStateKey, h]

theorem authCheck_levelOnly (hs : settingOk rules f ev = true) (hp : roomLevels f = some p)
    (hown : msgOwnRule rules ev.type = false) (hfk : foreignUserStateKey ev = false) :
    authCheck rules ev f = decide (p.forUser ev.sender ≥
      (if ev.stateKey.isSome then p.forState ev.type else p.forMessage ev.type)) := by
  obtain ⟨create, pl, creator, fed, hS⟩ := setting_of_ok hs hp
  simp only [msgOwnRule, Bool.or_eq_false_iff] at hown
  obtain ⟨⟨⟨⟨⟨h1, h2⟩, h3⟩, h4⟩, h5⟩, h6⟩ := hown
  rw [authCheck_general_eq hS (beq_eq_false_iff_ne.mp h1) (beq_eq_false_iff_ne.mp h2) h5]
  simp only [h3, h4, h6, hfk, Bool.false_eq_true, if_false, Bool.not_false, Bool.and_true, okB]

theorem authCheck_powerLevels (hs : settingOk rules f ev = true) (hp : roomLevels f = some p)
    (hty : ev.type = tPowerLevels) (hsk : ev.stateKey = some []) :
    ∃ pl, plContent f = some pl.content ∧ authWF rules pl.content = true ∧ ofContent pl.content = some p ∧
      authCheck rules ev f = (p.userCanSendState ev.sender tPowerLevels &&
        okB (checkRoomPowerLevels rules ev (some pl) (p.forUser ev.sender))) := by
  obtain ⟨create, pl, creator, fed, hS⟩ := setting_of_ok hs hp
  refine ⟨pl, by rw [plContent, hS.powerLevels]; rfl, hS.wf, hS.levels, ?_⟩
  rw [authCheck_general_eq hS (hty ▸ tPowerLevels_ne_tCreate) (hty ▸ tPowerLevels_ne_tMember)
    (aliasesCase_false (hty ▸ tPowerLevels_ne_tAliases))]
  simp only [hty, hsk, beq_eq_false_iff_ne.mpr tPowerLevels_ne_tThirdPartyInvite, beq_self_eq_true,
    Bool.false_eq_true, if_false, if_true, Option.isSome_some, foreignUserStateKey, List.head?_nil,
    Levels.userCanSendState]
  rfl

theorem authCheck_redaction (hs : settingOk rules f ev = true) (hp : roomLevels f = some p)
    (hty : ev.type = tRedaction) (hsk : ev.stateKey = none) :
    authCheck rules ev f = (p.userCanRedactOwnEvent ev.sender &&
      (!rules.specialCaseRoomRedaction || redactsSameServer ev || decide (p.forUser ev.sender ≥ p.redact))) := by
  obtain ⟨create, pl, creator, fed, hS⟩ := setting_of_ok hs hp
  rw [authCheck_general_eq hS (hty ▸ tRedaction_ne_tCreate) (hty ▸ tRedaction_ne_tMember)
    (aliasesCase_false (hty ▸ tRedaction_ne_tAliases))]
  simp only [hty, hsk, beq_eq_false_iff_ne.mpr tRedaction_ne_tThirdPartyInvite,
    beq_eq_false_iff_ne.mpr tRedaction_ne_tPowerLevels, beq_self_eq_true, Bool.and_true,
    Bool.false_eq_true, if_false, Option.isSome_none, foreignUserStateKey_none hsk, Bool.not_false,
    Bool.true_and, Levels.userCanRedactOwnEvent, Levels.userCanSendMessage]
  congr 1
  cases rules.specialCaseRoomRedaction with
  | false => rfl
  | true =>
    simp only [if_true, checkRoomRedaction, hS.agree.redact, ok_bind, redactsSameServer, Bool.not_true,
      Bool.false_or]
    by_cases h : p.forUser ev.sender ≥ p.redact
    · simp only [h, if_true, decide_true, Bool.or_true, okB]
    · simp only [h, if_false, decide_false, Bool.or_false, okB_require]

end Ruma.PowerLevels
