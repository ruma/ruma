/-
  C20 — lemmas for candidate `m.room.power_levels` events: `check_room_power_levels` when at most the
  `users` object differs from the current content (in particular when nothing does);
  `check_power_level_maps` when one key differs; what the rules read from a `users` object after
  `Obj.erase` / `Obj.insert`; and from these the canonical change of one user's level.
-/
import RumaModel.Lemmas.PowerLevelsAuth
import RumaModel.Lemmas.Json
import RumaModel.Lemmas.SignObj
namespace Ruma

theorem JVal.eqL_of_beqL : ∀ (a b : List JVal), JVal.beqL a b = true → a = b := jval_eqL_of_beqL
theorem JVal.eqO_of_beqO : ∀ (a b : List (Str × JVal)), JVal.beqO a b = true → a = b := jval_eqO_of_beqO

end Ruma

namespace Ruma.PowerLevels
open Ruma Ruma.Auth Ruma.Ident

variable {rules : AuthRules}

theorem intFieldsMap_ok {c : Obj} :
    ∀ {l : List PLField}, (∀ fld ∈ l, ∃ v, getAsInt rules c fld = .ok v) →
      ∃ m, intFieldsMap rules c l = .ok m := by
  intro l
  induction l with
  | nil => intro _; exact ⟨[], rfl⟩
  | cons fld t ih =>
    intro h
    obtain ⟨v, hv⟩ := h fld (List.mem_cons_self ..)
    obtain ⟨m, hm⟩ := ih (fun f hf => h f (List.mem_cons_of_mem _ hf))
    simp only [intFieldsMap, hv, hm, ok_bind]
    exact ⟨_, rfl⟩

theorem intFieldsMap_congr {c c' : Obj}
    (h : ∀ fld, getAsInt rules c' fld = getAsInt rules c fld) (l : List PLField) :
    intFieldsMap rules c' l = intFieldsMap rules c l := by
  induction l with
  | nil => rfl
  | cons fld t ih => simp only [intFieldsMap, h, ih]

theorem checkIntFields_same {c : Obj} {newInts : List (PLField × Int)} {sl : Int} :
    ∀ {l : List PLField}, (∀ fld ∈ l, ∃ v, getAsInt rules c fld = .ok v ∧ fieldsGet newInts fld = v) →
      checkIntFields rules c newInts sl l = .ok () := by
  intro l
  induction l with
  | nil => intro _; rfl
  | cons fld t ih =>
    intro h
    obtain ⟨v, hv, hg⟩ := h fld (List.mem_cons_self ..)
    simp only [checkIntFields, hv, ok_bind, hg, beq_self_eq_true, if_true]
    exact ih (fun f hf => h f (List.mem_cons_of_mem _ hf))

theorem checkPowerLevelMaps_same (m : Option PLMap) (sl : Int) (rej : Str → Int → Bool) :
    checkPowerLevelMaps m m sl rej = true := by
  simp [checkPowerLevelMaps]

theorem checkRoomPowerLevels_users_only {ev pl : Event} {sl : Int} {nu cu : Option PLMap}
    (hwf : authWF rules pl.content = true)
    (hgi : ∀ fld, getAsInt rules ev.content fld = getAsInt rules pl.content fld)
    (hev : plEvents rules ev.content = plEvents rules pl.content)
    (hno : plNotifications rules ev.content = plNotifications rules pl.content)
    (hnu : plUsers rules ev.content = .ok nu) (hcu : plUsers rules pl.content = .ok cu) :
    checkRoomPowerLevels rules ev (some pl) sl =
      require (checkPowerLevelMaps cu nu sl (fun u l => u ≠ ev.sender && decide (l ≥ sl))) := by
  obtain ⟨hint, ⟨me, hme⟩, -, ⟨mn, hmn⟩⟩ := authWF_fields hwf
  obtain ⟨newInts, hni⟩ := intFieldsMap_ok (l := PLField.all) (fun fld _ => hint fld)
  have hcif : checkIntFields rules pl.content newInts sl PLField.all = .ok () :=
    checkIntFields_same (fun fld hf => intFieldsMap_get hni PLField.all_nodup fld hf)
  simp only [checkRoomPowerLevels, intFieldsMap_congr hgi, hni, hev, hno, hnu, hme, hmn, hcu, hcif, ok_bind,
    checkPowerLevelMaps_same, require_true]
  cases rules.limitNotificationsPowerLevels <;> rfl

theorem checkRoomPowerLevels_same {ev pl : Event} {sl : Int}
    (hc : ev.content = pl.content) (hwf : authWF rules pl.content = true) :
    checkRoomPowerLevels rules ev (some pl) sl = .ok () := by
  obtain ⟨-, -, ⟨cu, hcu⟩, -⟩ := authWF_fields hwf
  rw [checkRoomPowerLevels_users_only hwf (fun _ => by rw [hc]) (by rw [hc]) (by rw [hc]) (hc ▸ hcu) hcu,
    checkPowerLevelMaps_same, require_true]

theorem plfield_key_ne_users (fld : PLField) : fld.key ≠ bs "users" := by
  cases fld <;> exact mt bs_inj.mp (by simp)

theorem checkRoomPowerLevels_users_change {ev pl : Event} {sl : Int} {newUsers : JVal}
    {nu cu : Option PLMap}
    (hc : ev.content = Obj.insert pl.content (bs "users") newUsers)
    (hwf : authWF rules pl.content = true)
    (hnu : plUsers rules ev.content = .ok nu) (hcu : plUsers rules pl.content = .ok cu) :
    checkRoomPowerLevels rules ev (some pl) sl =
      require (checkPowerLevelMaps cu nu sl (fun u l => u ≠ ev.sender && decide (l ≥ sl))) := by
  refine checkRoomPowerLevels_users_only hwf (fun fld => ?_) ?_ ?_ hnu hcu
  · rw [getAsInt, getAsInt, hc, Obj.get_insert_ne _ _ _ _ (plfield_key_ne_users fld)]
  · rw [plEvents, plEvents, getAsIntMap, getAsIntMap, hc, Obj.get_insert_ne _ _ _ _ (mt bs_inj.mp (by simp))]
  · rw [plNotifications, plNotifications, getAsIntMap, getAsIntMap, hc,
      Obj.get_insert_ne _ _ _ _ (mt bs_inj.mp (by simp))]

theorem checkPowerLevelMaps_one_key {cur new : Option PLMap} {sl : Int} {rej : Str → Int → Bool} {t : Str}
    {x : Option Int}
    (hnew : ∀ k, new.bind (lastGet · k) = if k = t then x else cur.bind (lastGet · k))
    (hdiff : cur.bind (lastGet · t) ≠ x) :
    checkPowerLevelMaps cur new sl rej =
      !((cur.bind (lastGet · t)).any (rej t) || x.any (fun y => decide (y > sl))) := by
  have hn : new.bind (lastGet · t) = x := by rw [hnew, if_pos rfl]
  have hbeq : (cur.bind (lastGet · t) == x) = false := beq_eq_false_iff_ne.mpr hdiff
  have hmem : t ∈ plKeys cur ++ plKeys new := by
    cases hc : cur.bind (lastGet · t) with
    | some c => exact List.mem_append_left _ (bindLastGet_mem_plKeys hc)
    | none =>
      cases hx : x with
      | some y => exact List.mem_append_right _ (bindLastGet_mem_plKeys (hn.trans hx))
      | none => exact absurd (hc.trans hx.symm) hdiff
  simp only [checkPowerLevelMaps]
  rw [Bool.eq_iff_iff, List.all_eq_true]
  -- the two `match`es of the definition are `Option.any`, as `cases` on their arguments shows
  constructor
  · intro h
    have := h t hmem
    rw [hn, hbeq, Bool.false_or] at this
    revert this
    cases cur.bind (lastGet · t) <;> cases x <;> exact id
  · intro h k _
    by_cases hk : k = t
    · subst hk
      rw [hn, hbeq, Bool.false_or]
      revert h
      cases cur.bind (lastGet · k) <;> cases x <;> exact id
    · rw [hnew, if_neg hk, beq_self_eq_true, Bool.true_or]

/-- `users` keys. -/
def userKey (k : Str) : Option Str := if validUserId k then some k else none

theorem intMapEntries_userKey_cons {k : Str} {v : JVal} {t : List (Str × JVal)} {m : PLMap} :
    intMapEntries rules userKey ((k, v) :: t) = .ok m ↔
      ∃ i rest, validUserId k = true ∧ plInt rules v = .ok i ∧ intMapEntries rules userKey t = .ok rest ∧
        m = (k, i) :: rest := by
  rw [intMapEntries_cons_ok]
  unfold userKey
  constructor
  · rintro ⟨k', i, rest, hk, h⟩
    split at hk
    · cases hk
      exact ⟨i, rest, ‹_›, h⟩
    · cases hk
  · rintro ⟨i, rest, hk, h⟩
    exact ⟨k, i, rest, if_pos hk, h⟩

theorem plUsers_of_get {c : Obj} {u : List (Str × JVal)}
    (h : Obj.get c (bs "users") = some (.obj u)) :
    plUsers rules c = (intMapEntries rules userKey u).map some := by
  simp only [plUsers, getAsIntMap, h]
  rfl

theorem plUsers_of_none {c : Obj} (h : Obj.get c (bs "users") = none) :
    plUsers rules c = .ok none := by
  simp only [plUsers, getAsIntMap, h]

theorem lastGet_isSome_entries {t : Str} :
    ∀ {u : List (Str × JVal)} {mu : PLMap}, intMapEntries rules userKey u = .ok mu →
      (lastGet mu t).isSome = Obj.contains u t
  | [], _, h => by cases h; rfl
  | (k, v) :: u, _, h => by
    obtain ⟨i, rest, -, -, hr, rfl⟩ := intMapEntries_userKey_cons.mp h
    have ih := lastGet_isSome_entries (t := t) hr
    simp only [lastGet, Obj.contains, Obj.get] at ih ⊢
    by_cases hk : k = t
    · rw [if_pos hk, if_pos hk]
      cases lastGet rest t <;> rfl
    · rw [if_neg hk, if_neg hk, ← ih]
      cases lastGet rest t <;> rfl

theorem lastGet_filter (m : PLMap) (t k : Str) :
    lastGet (m.filter (fun p => p.1 ≠ t)) k = if k = t then none else lastGet m k := by
  induction m with
  | nil => simp [lastGet]
  | cons kv rest ih =>
    obtain ⟨k', v⟩ := kv
    by_cases hk : k' = t
    · subst hk
      simp only [List.filter, ne_eq, not_true_eq_false, decide_false, ih]
      by_cases hkt : k = k'
      · simp [hkt]
      · simp only [hkt, if_false, lastGet]
        cases lastGet rest k with
        | some x => rfl
        | none => simp [Ne.symm hkt]
    · simp only [List.filter, ne_eq, hk, not_false_eq_true, decide_true, lastGet, ih]
      by_cases hkt : k = t
      · subst hkt
        simp [hk]
      · simp [hkt]

theorem intMapEntries_erase {t : Str} :
    ∀ {u : List (Str × JVal)} {mu : PLMap}, intMapEntries rules userKey u = .ok mu →
      intMapEntries rules userKey (Obj.erase u t) = .ok (mu.filter (fun p => p.1 ≠ t))
  | [], _, h => by cases h; rfl
  | (k, v) :: u, _, h => by
    obtain ⟨i, rest, hk, hi, hr, rfl⟩ := intMapEntries_userKey_cons.mp h
    have ih := intMapEntries_erase (t := t) hr
    unfold Obj.erase at ih ⊢
    by_cases hkt : k = t
    · simpa only [List.filter, hkt, ne_eq, not_true_eq_false, decide_false] using ih
    · simp only [List.filter, hkt, ne_eq, not_false_eq_true, decide_true]
      exact intMapEntries_userKey_cons.mpr ⟨i, _, hk, hi, ih, rfl⟩

theorem intMapEntries_insert {t : Str} {v : JVal} {i : Int}
    (ht : validUserId t = true) (hv : plInt rules v = .ok i) :
    ∀ {u : List (Str × JVal)} {mu : PLMap}, intMapEntries rules userKey u = .ok mu →
      Obj.contains u t = false →
      ∃ mu', intMapEntries rules userKey (Obj.insert u t v) = .ok mu' ∧
        ∀ k, lastGet mu' k = if k = t then some i else lastGet mu k
  | [], _, h, _ => by
    cases h
    refine ⟨[(t, i)], intMapEntries_userKey_cons.mpr ⟨i, [], ht, hv, rfl, rfl⟩, fun k => ?_⟩
    simp only [lastGet, eq_comm]
  | (k0, v0) :: u, mu, h, hc => by
    obtain ⟨i0, rest, hk0, hi0, hr, rfl⟩ := intMapEntries_userKey_cons.mp h
    have hnone : lastGet ((k0, i0) :: rest) t = none := by
      rw [← Option.not_isSome_iff_eq_none, lastGet_isSome_entries h, hc]
      exact Bool.false_ne_true
    simp only [Obj.contains, Obj.get] at hc
    have hne : ¬ k0 = t := fun e => by rw [if_pos e] at hc; cases hc
    rw [if_neg hne] at hc
    unfold Obj.insert
    rw [if_neg hne]
    by_cases hlt : t < k0
    · rw [if_pos hlt]
      refine ⟨(t, i) :: (k0, i0) :: rest, intMapEntries_userKey_cons.mpr ⟨i, _, ht, hv, h, rfl⟩, fun k => ?_⟩
      rw [lastGet]
      by_cases hkt : k = t
      · rw [hkt, hnone, if_pos rfl]
      · rw [if_neg hkt, if_neg (Ne.symm hkt)]
        cases lastGet ((k0, i0) :: rest) k <;> rfl
    · rw [if_neg hlt]
      obtain ⟨mu', hmu', hget⟩ := intMapEntries_insert ht hv hr hc
      refine ⟨(k0, i0) :: mu', intMapEntries_userKey_cons.mpr ⟨i0, _, hk0, hi0, hmu', rfl⟩, fun k => ?_⟩
      rw [lastGet, lastGet, hget]
      by_cases hkt : k = t
      · rw [if_pos hkt, if_pos hkt]
      · rw [if_neg hkt, if_neg hkt]

theorem checkedLevel_inRange {o : Option Int} {i : Int} (h : checkedLevel o = .ok i) : inRange i = true := by
  cases o with
  | none => simp [checkedLevel] at h
  | some v =>
    simp only [checkedLevel] at h
    split at h
    · simp only [Except.ok.injEq] at h; subst h; assumption
    · cases h

theorem plInt_inRange {v : JVal} {i : Int} (h : plInt rules v = .ok i) :
    inRange i = true := by
  cases v with
  | int j =>
    simp only [plInt] at h
    split at h
    · simp only [Except.ok.injEq] at h; subst h; assumption
    · cases h
  | str s =>
    simp only [plInt] at h
    split at h
    · cases h
    · unfold parseV1String at h
      split at h
      · split at h
        · cases h
        · exact checkedLevel_inRange h
      · exact checkedLevel_inRange h
  | _ => simp [plInt] at h

theorem intMapEntries_inRange {keyOf : Str → Option Str} :
    ∀ {kvs : List (Str × JVal)} {m : PLMap}, intMapEntries rules keyOf kvs = .ok m →
      ∀ p ∈ m, inRange p.2 = true
  | [], _, h, p, hp => by cases h; cases hp
  | (_, _) :: _, _, h, p, hp => by
    obtain ⟨_, i, rest, -, hi, hrest, rfl⟩ := intMapEntries_cons_ok.mp h
    rcases List.mem_cons.mp hp with rfl | hp'
    · exact plInt_inRange hi
    · exact intMapEntries_inRange hrest p hp'

theorem forUser_inRange {c : Obj} {p : Levels} (hp : ofContent c = some p) (u : Str) :
    inRange (p.forUser u) = true := by
  obtain ⟨-, -, -, -, -, -, -, f8, f9, -⟩ := ofContentR_eq_ok.mp (ofContent_eq_some.mp hp)
  unfold Levels.forUser
  cases hl : lastGet p.users u with
  | some l =>
    unfold mapField at f8
    split at f8
    · rw [← Except.ok.inj f8] at hl; cases hl
    · exact intMapEntries_inRange f8 _ (lastGet_mem hl)
    · cases f8
  | none =>
    unfold intField at f9
    split at f9
    · rw [← Except.ok.inj f9]; rfl
    · exact plInt_inRange f9

theorem plUsers_canonicalChange {c c' : Obj} {cu : Option PLMap} {t : Str} {sl : Int}
    (hcu : plUsers rules c = .ok cu) (hv : validUserId t = true) (hsl : inRange sl = true)
    (hcc : canonicalChange c t sl = some c') :
    ∃ newUsers nu, c' = Obj.insert c (bs "users") newUsers ∧ plUsers rules c' = .ok nu ∧
      ∀ k, nu.bind (lastGet · k) =
        if k = t then (if (cu.bind (lastGet · t)).isSome then none else some sl) else cu.bind (lastGet · k) := by
  have hint : plInt rules (.int sl) = .ok sl := by simp only [plInt, hsl, if_true]
  unfold canonicalChange at hcc
  cases hg : Obj.get c (bs "users") with
  | none =>
    rw [plUsers_of_none hg] at hcu
    cases hcu
    simp only [hg, Option.some.injEq] at hcc
    refine ⟨_, some [(t, sl)], hcc.symm, ?_, fun k => ?_⟩
    · rw [← hcc, plUsers_of_get (Obj.get_insert_self _ _ _),
        intMapEntries_userKey_cons.mpr ⟨sl, [], hv, hint, rfl, rfl⟩]
      rfl
    · simp only [Option.bind_some, Option.bind_none, lastGet, Option.isSome_none, Bool.false_eq_true, if_false,
        eq_comm]
  | some uv =>
    cases uv with
    | obj u =>
      rw [plUsers_of_get hg] at hcu
      cases hme : intMapEntries rules userKey u with
      | error e => rw [hme] at hcu; cases hcu
      | ok mu =>
        rw [hme] at hcu
        cases hcu
        simp only [hg] at hcc
        simp only [Option.bind_some, lastGet_isSome_entries hme]
        cases hcon : Obj.contains u t with
        | true =>
          simp only [hcon, if_true, Option.some.injEq] at hcc
          refine ⟨_, some (mu.filter (fun q => q.1 ≠ t)), hcc.symm, ?_, fun k => ?_⟩
          · rw [← hcc, plUsers_of_get (Obj.get_insert_self _ _ _), intMapEntries_erase hme]
            rfl
          · rw [Option.bind_some, lastGet_filter]
            rfl
        | false =>
          simp only [hcon, Bool.false_eq_true, if_false, Option.some.injEq] at hcc
          obtain ⟨mu', hmu', hget⟩ := intMapEntries_insert hv hint hme hcon
          refine ⟨_, some mu', hcc.symm, ?_, fun k => ?_⟩
          · rw [← hcc, plUsers_of_get (Obj.get_insert_self _ _ _), hmu']
            rfl
          · rw [Option.bind_some, hget]
            rfl
    | _ => simp [hg] at hcc

theorem checkRoomPowerLevels_canonical {rules : AuthRules} {ev pl : Event} {p : Levels} {target : Str}
    (hwf : authWF rules pl.content = true) (hof : ofContent pl.content = some p)
    (hv : validUserId target = true)
    (hcc : canonicalChange pl.content target (p.forUser ev.sender) = some ev.content) :
    checkRoomPowerLevels rules ev (some pl) (p.forUser ev.sender) =
      require (ev.sender == target ||
        (match lastGet p.users target with
          | some x => decide (p.forUser ev.sender > x)
          | none => true)) := by
  obtain ⟨-, -, ⟨cu, hcu⟩, -⟩ := authWF_fields hwf
  obtain ⟨-, -, -, -, -, -, -, f8, -, -⟩ := ofContentR_eq_ok.mp (ofContent_eq_some.mp hof)
  obtain ⟨newUsers, nu, hc, hnu, hlook⟩ := plUsers_canonicalChange hcu hv (forUser_inRange hof ev.sender) hcc
  rw [map_field_agree hcu f8 target] at hlook
  rw [checkRoomPowerLevels_users_change hc hwf hnu hcu, checkPowerLevelMaps_one_key hlook,
    map_field_agree hcu f8 target]
  · cases lastGet p.users target with
    | none => simp
    | some x =>
      simp only [Option.isSome_some, if_true, Option.any_some, Option.any_none, Bool.or_false]
      congr 1
      by_cases hst : ev.sender = target
      · simp [hst]
      · have hts : ¬ target = ev.sender := fun e => hst e.symm
        have hb : (ev.sender == target) = false := by simpa using hst
        simp only [ne_eq, hts, not_false_eq_true, decide_true, Bool.true_and, hb, Bool.false_or]
        rw [Bool.eq_iff_iff]
        simp only [Bool.not_eq_true', decide_eq_false_iff_not, decide_eq_true_iff]
        omega
  · rw [map_field_agree hcu f8 target]
    cases lastGet p.users target <;> simp

end Ruma.PowerLevels
