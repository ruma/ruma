/-
  The helper's levels of a REDACTED power-levels event: the three routes a client has to
  `RoomPowerLevels` (redacted JSON as ordinary content, redacted JSON as
  `RedactedRoomPowerLevelsEventContent`, typed `RedactContent::redact`) coincide, for every redaction
  rule set and every content.
-/
import RumaModel.Lemmas.PowerLevels
import RumaModel.Lemmas.Redact
namespace Ruma.PowerLevels
open Ruma Ruma.Auth Ruma.Ident

/-- `redact_content_in_place(content, rules, "m.room.power_levels")` never fails and is the filter by
`powerLevelsKey`. -/
theorem redactContent_powerLevels (r : Redact.Rules) (c : Obj) :
    Redact.redactContent r (bs "m.room.power_levels") c
      = .ok (c.filter (fun e => Redact.powerLevelsKey r e.1)) := by
  simp only [Redact.redactContent, Redact.retainedContentKeys, bs_inj, String.reduceEq, if_false, if_true]
  exact Redact.applySome_byKey _ _

/-! ## Which keys `powerLevelsKey` keeps -/

theorem pk_always (r : Redact.Rules) {k : Str} (h : k ∈ Redact.powerLevelsAlwaysKeys) :
    Redact.powerLevelsKey r k = true := by
  simp only [Redact.powerLevelsKey, List.contains_eq_mem, h, decide_true, if_true]

theorem pk_invite (r : Redact.Rules) : Redact.powerLevelsKey r (bs "invite") = r.keepPowerLevelsInvite := by
  simp [Redact.powerLevelsKey, Redact.powerLevelsAlwaysKeys, bs_inj]

theorem pk_notifications (r : Redact.Rules) : Redact.powerLevelsKey r (bs "notifications") = false := by
  simp [Redact.powerLevelsKey, Redact.powerLevelsAlwaysKeys, bs_inj]

/-! ## Reading the redacted content field by field -/

theorem get_redactedPL (r : Redact.Rules) (c : Obj) (k : Str) :
    Obj.get (redactedPL r c) k = if Redact.powerLevelsKey r k then Obj.get c k else none :=
  Redact.get_filter c (Redact.powerLevelsKey r) k

theorem intField_redactedPL (r : Redact.Rules) (c : Obj) (k : Str) (d : Int) :
    intField (redactedPL r c) k d = if Redact.powerLevelsKey r k then intField c k d else .ok d := by
  unfold intField
  rw [get_redactedPL]
  cases Redact.powerLevelsKey r k <;> rfl

theorem mapField_redactedPL (r : Redact.Rules) (c : Obj) (k : Str) (f : Str → Option Str)
    (hk : k ∈ Redact.powerLevelsAlwaysKeys) :
    mapField (redactedPL r c) k f = mapField c k f := by
  unfold mapField
  rw [get_redactedPL, pk_always r hk]
  rfl

/-- On a content without a `notifications` key the redacted content type and the ordinary content
type give the same levels (and fail together). -/
theorem ofRedactedContentR_eq_of_no_notifications (c : Obj)
    (h : Obj.get c (bs "notifications") = none) : ofRedactedContentR c = ofContentR c := by
  have hn : notificationsField c = .ok defaultPowerLevel := by
    unfold notificationsField; rw [h]
  unfold ofRedactedContentR ofContentR
  rw [hn]
  rfl

/-- Reading the redacted JSON as an ordinary content gives the typed redaction of the original levels:
the eight keys always kept read as before, `invite` reads as before or as absent, and `notifications`
is absent. -/
theorem ofContentR_redactedPL (r : Redact.Rules) (c : Obj) (l : Levels) (h : ofContentR c = .ok l) :
    ofContentR (redactedPL r c) = .ok (redactLevels r.keepPowerLevelsInvite l) := by
  obtain ⟨h1, h2, h3, h4, h5, h6, h7, h8, h9, -⟩ := ofContentR_eq_ok.mp h
  have hi {k d x} (hx : intField c k d = .ok x)
      (hk : k ∈ Redact.powerLevelsAlwaysKeys := by simp [Redact.powerLevelsAlwaysKeys]) :
      intField (redactedPL r c) k d = .ok x := by
    rw [intField_redactedPL, pk_always r hk, if_pos rfl, hx]
  have hm {k f x} (hx : mapField c k f = .ok x)
      (hk : k ∈ Redact.powerLevelsAlwaysKeys := by simp [Redact.powerLevelsAlwaysKeys]) :
      mapField (redactedPL r c) k f = .ok x := by
    rw [mapField_redactedPL r c k f hk, hx]
  have hinv : intField (redactedPL r c) (bs "invite") 0 = .ok (if r.keepPowerLevelsInvite then l.invite else 0) := by
    rw [intField_redactedPL, pk_invite]
    cases r.keepPowerLevelsInvite
    · rfl
    · exact h4
  have hnot : notificationsField (redactedPL r c) = .ok defaultPowerLevel := by
    unfold notificationsField
    rw [get_redactedPL, pk_notifications]
    rfl
  exact ofContentR_eq_ok.mpr ⟨hi h1, hm h2, hi h3, hinv, hi h5, hi h6, hi h7, hm h8, hi h9, hnot⟩

end Ruma.PowerLevels
