/-
  C12 — the chunked regular expression of `matches_word` denotes the glob (`chunks_spec`), its edge
  groups are the spec's word boundaries (`startEdge_iff`, `endEdge_iff`), the reference matchers are
  correct (`chunksDecide_iff`, `rxDecide_iff`).
-/
import RumaModel.Lemmas.PushWord
namespace Ruma.Push
open Ruma.Spec.Glob (Glob WordMatch boundary Glob_nil_iff Glob_star_iff Glob_cons_iff Glob_append Glob_literal)

def qCount (w : Text) : Nat := (w.filter (· == '?')).length

/-- The length condition of `(?s:.){n}` / `(?s:.){n,}` for a run of wildcards. -/
def runLen (w : Text) (u : Text) : Prop :=
  if w.contains '*' then qCount w ≤ u.length else u.length = qCount w

theorem runLen_question (w u : Text) : runLen ('?' :: w) u ↔ ∃ c t, u = c :: t ∧ runLen w t := by
  have hc : ('?' :: w).contains '*' = w.contains '*' := by simp
  have hq : qCount ('?' :: w) = qCount w + 1 := by simp [qCount]
  rw [runLen, hc, hq]
  cases u with
  | nil => simp
  | cons c t => simp [runLen, and_assoc]

theorem runLen_star (w u : Text) : runLen ('*' :: w) u ↔ ∃ v t, u = v ++ t ∧ runLen w t := by
  have hc : ('*' :: w).contains '*' = true := by simp
  have hq : qCount ('*' :: w) = qCount w := by simp [qCount]
  rw [runLen, hc, hq, if_pos rfl]
  constructor
  · -- split `u` so that the tail has the length the rest of the run wants
    intro h
    refine ⟨u.take (u.length - qCount w), u.drop (u.length - qCount w), (List.take_append_drop ..).symm, ?_⟩
    unfold runLen
    split <;> simp <;> omega
  · rintro ⟨v, t, rfl, ht⟩
    unfold runLen at ht
    split at ht <;> simp <;> omega

theorem Glob_run {w : Text} (hw : ∀ c ∈ w, isWild c = true) (u : Text) : Glob w u ↔ runLen w u := by
  induction w generalizing u with
  | nil => simp [Glob_nil_iff, runLen, qCount]
  | cons a w ih =>
    have ih := ih fun c hc => hw c (List.mem_cons_of_mem a hc)
    have ha := hw a List.mem_cons_self
    simp only [isWild, Bool.or_eq_true, beq_iff_eq] at ha
    rcases ha with rfl | rfl
    · simp [runLen_question, Glob_cons_iff, ih]
    · simp [runLen_star, Glob_star_iff, ih]

theorem isWild_eq_false {c : Char} : isWild c = false ↔ c ≠ '*' ∧ c ≠ '?' := by
  simp [isWild, and_comm]

/-- The chunk that `matches_word` pushes for a run `cur` of wildcards (`pw = true`) or of other
characters (`pw = false`) matches what the run matches as a glob. -/
theorem ChunksMatch_run {pw : Bool} {cur : Text} (h : ∀ c ∈ cur, isWild c = pw) (cs : List Chunk) (t : Text) :
    ChunksMatch ((if pw then wildcardsToRegex cur else .lit cur) :: cs) t ↔
      ∃ u r, t = u ++ r ∧ Glob cur u ∧ ChunksMatch cs r := by
  cases pw
  · simp only [Glob_literal fun c hc => isWild_eq_false.1 (h c hc)]
    exact ⟨fun ⟨r, e, h⟩ => ⟨cur, r, e, rfl, h⟩, fun ⟨_, r, e, hu, h⟩ => ⟨r, hu ▸ e, h⟩⟩
  · simp only [Glob_run h, runLen, qCount, wildcardsToRegex, if_true]
    cases cur.contains '*' <;> simp [ChunksMatch]

/-- The chunk list produced from any state of the loop denotes the rest of the glob. -/
theorem chunksGo_spec (rest : Text) : ∀ (pw : Bool) (cur : Text) (first : Bool) (t : Text),
    (∀ c ∈ cur, isWild c = pw) → (first = true → cur = [] ∧ pw = false) →
    (ChunksMatch (chunksGo pw cur first rest) t ↔ Glob (cur ++ rest) t) := by
  induction rest with
  | nil =>
    intro pw cur first t h _
    have := ChunksMatch_run h [] t
    cases pw <;> simpa [chunksGo, ChunksMatch] using this
  | cons c rest ih =>
    intro pw cur first t h hfirst
    -- the run goes on with `c` ...
    have hgo : ∀ pw', isWild c = pw' → (∀ x ∈ cur, isWild x = pw') →
        (ChunksMatch (chunksGo pw' (cur ++ [c]) false rest) t ↔ Glob (cur ++ c :: rest) t) := by
      intro pw' hc h'
      rw [ih pw' (cur ++ [c]) false t (by simpa [or_imp, forall_and, hc] using h') (by simp)]
      simp
    -- ... or ends before `c`
    have hend : ∀ pw', isWild c = pw' → (ChunksMatch ((if pw then wildcardsToRegex cur else .lit cur) ::
        chunksGo pw' [c] false rest) t ↔ Glob (cur ++ c :: rest) t) := by
      intro pw' hc
      rw [ChunksMatch_run h, Glob_append]
      simp only [ih pw' [c] false _ (by simp [hc]) (by simp), List.singleton_append]
    rw [chunksGo]
    cases hc : isWild c <;> cases pw <;>
      simp only [Bool.false_eq_true, if_false, if_true, Bool.not_false, Bool.not_true]
    · exact hgo false hc h
    · exact hend false hc
    · cases first
      · exact hend true hc
      · obtain ⟨rfl, _⟩ := hfirst rfl
        exact hgo true hc (by simp)
    · exact hgo true hc h

theorem chunks_spec (p t : Text) : ChunksMatch (chunks p) t ↔ Glob p t := by
  simpa [chunks] using chunksGo_spec p false [] true t (by simp) (by simp)

theorem wordAt_eq : @wordAt = @Ruma.Spec.Glob.wordAt := rfl
theorem slice_eq : @slice = @Ruma.Spec.Glob.slice := rfl

theorem wordAt_length (s : Text) : wordAt s s.length = false := by
  simp [wordAt]

/-- `(?-u:^|\W|\b)` can end exactly at the spec's word boundaries. -/
theorem startEdge_iff (s : Text) (i : Nat) (hi : i ≤ s.length) : startEdge s i = true ↔ boundary s i := by
  unfold startEdge asciiWordBoundary boundary
  rw [← wordAt_eq]
  by_cases h0 : i = 0
  · subst h0; simp
  · by_cases hl : i = s.length
    · subst hl
      rw [wordAt_length]
      cases wordAt s (s.length - 1) <;> simp [h0]
    · have hlt : i ≤ s.length := hi
      cases wordAt s (i - 1) <;> cases wordAt s i <;> simp [h0, hl, hlt]

/-- `(?-u:\b|\W|$)` can start exactly at the spec's word boundaries. -/
theorem endEdge_iff (s : Text) (j : Nat) (hj : j ≤ s.length) : endEdge s j = true ↔ boundary s j := by
  unfold endEdge asciiWordBoundary boundary
  rw [← wordAt_eq]
  by_cases hl : j = s.length
  · subst hl; simp
  · have hlt : j < s.length := by omega
    by_cases h0 : j = 0
    · subst h0
      cases wordAt s 0 <;> simp [hlt]
    · cases wordAt s (j - 1) <;> cases wordAt s j <;> simp [h0, hl, hlt]

/-- The regular expression that `matches_word` builds for a non-empty pattern matches a text iff
the spec's word-boundary glob matching holds. -/
theorem RegexMatches_chunks_iff (p s : Text) (hp : p ≠ []) :
    RegexMatches (chunks p) s ↔ WordMatch p s := by
  unfold RegexMatches WordMatch
  constructor
  · rintro ⟨i, j, hij, hj, h1, h2, h3⟩
    refine Or.inr ⟨hp, i, j, hij, hj, ?_, (startEdge_iff s i (by omega)).1 h1, (endEdge_iff s j hj).1 h3⟩
    rw [← slice_eq]; exact (chunks_spec p _).1 h2
  · rintro (⟨h, _⟩ | ⟨_, i, j, hij, hj, h2, h1, h3⟩)
    · exact absurd h hp
    · refine ⟨i, j, hij, hj, (startEdge_iff s i (by omega)).2 h1, ?_, (endEdge_iff s j hj).2 h3⟩
      rw [slice_eq]; exact (chunks_spec p _).2 h2

theorem anySuffix_iff (f : Text → Bool) (s : Text) :
    anySuffix f s = true ↔ ∃ u t, s = u ++ t ∧ f t = true := by
  have h : anySuffix f s = Ruma.Spec.Glob.anySuffix f s := by
    induction s with
    | nil => rfl
    | cons c t ih => simp [anySuffix, Ruma.Spec.Glob.anySuffix, ih]
  rw [h]; exact Ruma.Spec.Glob.anySuffix_iff f s

theorem chunksDecide_iff (cs : List Chunk) : ∀ t, chunksDecide cs t = true ↔ ChunksMatch cs t := by
  induction cs with
  | nil => intro t; cases t <;> simp [chunksDecide, ChunksMatch]
  | cons c cs ih =>
    intro t
    cases c with
    | lit l =>
      simp only [chunksDecide, ChunksMatch, Bool.and_eq_true, List.isPrefixOf_iff_prefix, ih]
      constructor
      · rintro ⟨⟨r, rfl⟩, h⟩
        exact ⟨r, rfl, by simpa using h⟩
      · rintro ⟨r, rfl, h⟩
        exact ⟨⟨r, rfl⟩, by simpa using h⟩
    | dots n o =>
      cases o
      · simp only [chunksDecide, ChunksMatch, Bool.and_eq_true, decide_eq_true_eq, ih]
        constructor
        · rintro ⟨hn, h⟩
          exact ⟨t.take n, t.drop n, (List.take_append_drop n t).symm, by simp; omega, h⟩
        · rintro ⟨u, r, rfl, hu, h⟩
          subst hu
          exact ⟨by simp, by simpa using h⟩
      · simp only [chunksDecide, ChunksMatch, Bool.and_eq_true, decide_eq_true_eq, anySuffix_iff, ih]
        constructor
        · rintro ⟨hn, u, r, hur, h⟩
          refine ⟨t.take n ++ u, r, ?_, by simp; omega, h⟩
          rw [List.append_assoc, ← hur, List.take_append_drop]
        · rintro ⟨u, r, rfl, hu, h⟩
          refine ⟨by simp; omega, u.drop n, r, ?_, h⟩
          rw [List.drop_append_of_le_length hu]

theorem rxDecide_iff (cs : List Chunk) (s : Text) : rxDecide cs s = true ↔ RegexMatches cs s := by
  unfold rxDecide RegexMatches
  simp only [List.any_eq_true, List.mem_range, Bool.and_eq_true, decide_eq_true_eq, chunksDecide_iff]
  constructor
  · rintro ⟨i, _, h1, j, hj, ⟨hij, h3⟩, h2⟩
    exact ⟨i, j, hij, by omega, h1, h2, h3⟩
  · rintro ⟨i, j, hij, hj, h1, h2, h3⟩
    exact ⟨i, by omega, h1, j, by omega, ⟨hij, h3⟩, h2⟩

end Ruma.Push
