/-
  C12 — the Boolean evaluation of conditions (`Spec.Push.condHolds`) decides their propositional
  reading (`Spec.Push.CondHolds`); the priority-ordered rule list is sorted by kind.
-/
import RumaModel.Lemmas.PushMatch
namespace Ruma.Push
open Ruma.Spec.Push
open Ruma.Spec.Glob (wordMatchDecide valueDecide wordMatches valueMatches globDecide_iff_Glob wordDecide_iff_WordMatch)

theorem jsonEq_iff (v : PJ) (x : Scalar) : jsonEq v x = true ↔ JsonIs v x := by
  unfold JsonIs
  cases x <;> cases v <;> simp [jsonEq, scalarJson]
  -- integers: the value has to be canonical
  exact ⟨fun ⟨h1, h2⟩ => ⟨h2, h2 ▸ h1⟩, fun ⟨h1, h2⟩ => ⟨h1 ▸ h2, h1⟩⟩

theorem valueDecide_iff (lower : Text → Text) (p s : Text) :
    valueDecide lower p s = true ↔ valueMatches lower p s := globDecide_iff_Glob _ _

theorem wordMatchDecide_iff (lower : Text → Text) (p s : Text) :
    wordMatchDecide lower p s = true ↔ wordMatches lower p s := wordDecide_iff_WordMatch _ _

theorem compare_iff (op : CmpOp) (x n : Nat) :
    Ruma.Spec.Push.compare op x n = true ↔
      match op with
      | .eq => x = n
      | .lt => x < n
      | .gt => x > n
      | .ge => x ≥ n
      | .le => x ≤ n := by
  cases op <;> simp [Ruma.Spec.Push.compare]

theorem keys_ne : keyRoomId ≠ keyContentBody ∧ keySender ≠ keyRoomId ∧ keySender ≠ keyContentBody := by
  decide +kernel

/-- The Boolean evaluation of a condition decides its propositional reading. -/
theorem condHolds_iff (P : Params) (ev : PJ) (ctx : Ctx) (c : Cond) :
    condHolds P ev ctx c = true ↔ CondHolds P ev ctx c := by
  cases c with
  | eventMatch key pattern =>
    have hD : ∀ v, (if key = keyContentBody then wordMatchDecide P.lower pattern v
          else valueDecide P.lower pattern v) = true ↔
        if key = keyContentBody then wordMatches P.lower pattern v else valueMatches P.lower pattern v := by
      intro v
      split
      · exact wordMatchDecide_iff ..
      · exact valueDecide_iff ..
    simp only [condHolds, CondHolds, ← hD]
    by_cases hk : key = keyRoomId
    · simp [hk]
    · cases lookupStr ev key <;> simp [hk]
  | containsDisplayName =>
    simp only [condHolds, CondHolds]
    cases lookupStr ev keyContentBody with
    | none => simp
    | some v =>
      simp only [Option.some.injEq, exists_eq_left']
      exact Ruma.Spec.Glob.literalWordDecide_iff _ _
  | roomMemberCount is =>
    simp only [condHolds, CondHolds, compare_iff]
    cases is.prefix_ <;> exact Iff.rfl
  | senderNotificationPermission key =>
    simp only [condHolds, CondHolds, requiredLevel]
    cases ctx.powerLevels with
    | none => simp
    | some pl =>
      cases lookupStr ev keySender with
      | none => simp
      | some s => by_cases hk : key = keyRoom <;> simp [hk]
  | eventPropertyIs key value =>
    simp only [condHolds, CondHolds]
    cases lookup ev key <;> simp [jsonEq_iff]
  | eventPropertyContains key value =>
    simp only [condHolds, CondHolds]
    cases lookup ev key with
    | none => simp
    | some v => cases v <;> simp [jsonEq_iff]
  | custom => simp [condHolds, CondHolds]

/-- Rules of one kind after rules of more important kinds. -/
theorem sorted_append_kind {α : Type} (g : α → AnyRule) (k : Nat) (hg : ∀ a, kindRank (g a) = k) (l : List α)
    {t : List AnyRule} (ht : t.Pairwise (fun a b => kindRank a ≤ kindRank b) ∧ ∀ x ∈ t, kindRank x ≤ k) :
    (t ++ l.map g).Pairwise (fun a b => kindRank a ≤ kindRank b) ∧ ∀ x ∈ t ++ l.map g, kindRank x ≤ k + 1 := by
  have hl : ∀ x ∈ l.map g, kindRank x = k := by
    intro x hx; obtain ⟨a, _, rfl⟩ := List.mem_map.1 hx; exact hg a
  refine ⟨List.pairwise_append.2 ⟨ht.1, ?_, fun a ha b hb => hl b hb ▸ ht.2 a ha⟩, fun x hx => ?_⟩
  · exact List.pairwise_map.2 (List.pairwise_of_forall fun a b => by rw [hg, hg]; exact Nat.le_refl k)
  · rcases List.mem_append.1 hx with hx | hx
    · exact Nat.le_succ_of_le (ht.2 x hx)
    · exact hl x hx ▸ Nat.le_succ k

theorem orderedRules_sorted (rs : Ruleset) :
    (orderedRules rs).Pairwise (fun a b => kindRank a ≤ kindRank b) :=
  (sorted_append_kind .underride 4 (fun _ => rfl) rs.underride <|
    sorted_append_kind .sender 3 (fun _ => rfl) rs.sender <|
    sorted_append_kind .room 2 (fun _ => rfl) rs.room <|
    sorted_append_kind .content 1 (fun _ => rfl) rs.content <|
    sorted_append_kind (t := []) .override_ 0 (fun _ => rfl) rs.override_ ⟨.nil, by simp⟩).1

end Ruma.Push
