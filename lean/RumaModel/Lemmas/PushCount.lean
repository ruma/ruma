/-
  C12 — `RoomMemberCountIs` as a string: the model's `FromStr` (`MemberCountIs.fromStr`, with Rust's
  `u64::from_str`) against the spec's reading of `is` (`Spec.Push.readAs` / `memberCountDecide`).
-/
import RumaModel.Spec.Push
namespace Ruma.Push
open Ruma.Spec.Push (isDigit decimalValue maxInteger opSpellings MemberCountDenotes MemberCountHolds readAs memberCountDecide)

theorem digitVal_eq (c : Char) : digitVal c = if isDigit c then some (c.toNat - 48) else none := by
  unfold digitVal isDigit
  by_cases h1 : '0' ≤ c <;> by_cases h2 : c ≤ '9' <;> simp [h1, h2]

theorem parseDigits_eq (acc : Nat) (ds : Text) :
    parseDigits acc ds =
      if ds.all isDigit then some (ds.foldl (fun a c => a * 10 + (c.toNat - 48)) acc) else none := by
  induction ds generalizing acc with
  | nil => simp [parseDigits]
  | cons c t ih =>
    simp only [parseDigits, digitVal_eq]
    by_cases h : isDigit c = true <;> simp [h, ih]

/-- The spec's reading of a number: non-empty, digits only, a Matrix integer. -/
def specNumber (ds : Text) : Option Nat :=
  if !ds.isEmpty && ds.all isDigit && decide (decimalValue ds ≤ maxInteger) then some (decimalValue ds)
  else none

theorem specNumber_nondigit (c : Char) (r : Text) (h : isDigit c = false) : specNumber (c :: r) = none := by
  simp [specNumber, h]

/-- `UInt::from_str` rejects exactly the numbers above the spec's limit. -/
theorem maxSafeUInt_test (v : Nat) :
    (if v > maxSafeUInt then none else some v) = if v ≤ maxInteger then some v else none := by
  by_cases h : v ≤ maxInteger
  · rw [if_pos h]; exact if_neg (Nat.not_lt.2 h)
  · rw [if_neg h]; exact if_pos (Nat.lt_of_not_le h)

/-- The overflow test of `u64::from_str` is implied by the limit `2^53 − 1`. -/
theorem u64Max_test (v : Nat) :
    (match (if v ≤ u64Max then some v else none) with
      | some v => if v > maxSafeUInt then none else some v
      | none => none) = if v ≤ maxInteger then some v else none := by
  by_cases h : v ≤ u64Max
  · rw [if_pos h]; exact maxSafeUInt_test v
  · rw [if_neg h, if_neg fun h' => h (Nat.le_trans h' (by decide))]

theorem parseUInt_noplus (s : Text) (h : '+' ∉ s) : parseUInt s = specNumber s := by
  unfold parseUInt parseU64 specNumber
  match s, h with
  | [], _ => rfl
  | [c], h =>
    have hc : c ≠ '+' := fun e => h (e ▸ List.mem_singleton_self c)
    by_cases hm : c = '-'
    · subst hm; rfl
    · simp only [hc, hm, or_self, if_false, parseDigits_eq]
      cases [c].all isDigit
      · rfl
      · exact (maxSafeUInt_test _).trans (by simp [decimalValue])
  | c :: c' :: rest, h =>
    have hc : c ≠ '+' := fun e => h (e ▸ List.mem_cons_self)
    simp only [hc, if_false, parseDigits_eq]
    cases (c :: c' :: rest).all isDigit
    · rfl
    · exact (u64Max_test _).trans (by simp [decimalValue])

theorem readAs_eq (s : Text) (sp : Text × CmpOp) :
    readAs s sp = if sp.1.isPrefixOf s then (specNumber (s.drop sp.1.length)).map (sp.2, ·) else none := by
  unfold readAs specNumber
  by_cases hp : sp.1.isPrefixOf s = true
  · simp only [hp, Bool.true_and, if_true]
    split <;> simp
  · simp [hp]

theorem drop_notMem {c : Char} {s : Text} (n : Nat) (h : c ∉ s) : c ∉ s.drop n :=
  fun hm => h (List.mem_of_mem_drop hm)

theorem nondigit_spellings : ∀ sp ∈ opSpellings, ∀ c ∈ sp.1, isDigit c = false := by decide +kernel

/-- The spellings in the order in which `from_str` tries them: every spelling before its prefixes. -/
def arms : List (Text × CmpOp) :=
  [("<=".toList, .le), ("<".toList, .lt), (">=".toList, .ge), (">".toList, .gt), ("==".toList, .eq), ([], .eq)]

theorem fromStr_eq (s : Text) : MemberCountIs.fromStr s =
    (arms.find? (·.1.isPrefixOf s)).bind fun sp => (parseUInt (s.drop sp.1.length)).map (⟨sp.2, ·⟩) := by
  have hm : ∀ (op : CmpOp) (t : Text), (match parseUInt t with
      | some n => some (⟨op, n⟩ : MemberCountIs) | none => none) = (parseUInt t).map (⟨op, ·⟩) :=
    fun op t => by cases parseUInt t <;> rfl
  unfold MemberCountIs.fromStr arms
  simp only [List.find?_cons]
  cases "<=".toList.isPrefixOf s with
  | true => exact hm ..
  | false =>
  cases "<".toList.isPrefixOf s with
  | true => exact hm ..
  | false =>
  cases ">=".toList.isPrefixOf s with
  | true => exact hm ..
  | false =>
  cases ">".toList.isPrefixOf s with
  | true => exact hm ..
  | false =>
  cases "==".toList.isPrefixOf s <;> exact hm ..

theorem arms_facts : arms.Pairwise (fun a b => ¬ a.1 <+: b.1) ∧ (∀ sp ∈ arms, sp ∈ opSpellings) ∧
    ∀ sp ∈ opSpellings, sp ∈ arms := by decide +kernel

theorem findSome?_eq_of_ne {α β : Type} {f : α → Option β} {x : α} :
    ∀ {l : List α}, x ∈ l → (∀ y ∈ l, y ≠ x → f y = none) → l.findSome? f = f x
  | a :: l, hx, h => by
    rw [List.findSome?_cons]
    by_cases ha : a = x
    · subst ha
      cases hfa : f a with
      | some b => rfl
      | none =>
        refine List.findSome?_eq_none_iff.2 fun y hy => ?_
        by_cases e : y = a
        · exact e ▸ hfa
        · exact h y (List.mem_cons_of_mem _ hy) e
    · rw [h a List.mem_cons_self ha]
      exact findSome?_eq_of_ne ((List.mem_cons.1 hx).resolve_left (Ne.symm ha))
        fun y hy => h y (List.mem_cons_of_mem _ hy)

/-- On a string without `+`, `from_str` reads what the spec's grammar reads: the spelling it settles on
is the only one that can be followed by a number. -/
theorem fromStr_noplus (s : Text) (h : '+' ∉ s) :
    MemberCountIs.fromStr s =
      (opSpellings.findSome? (readAs s)).map fun r => (⟨r.1, r.2⟩ : MemberCountIs) := by
  obtain ⟨hord, harms, hspell⟩ := arms_facts
  -- the spelling `from_str` settles on
  obtain ⟨sp0, h0⟩ : ∃ sp0, arms.find? (·.1.isPrefixOf s) = some sp0 :=
    Option.isSome_iff_exists.1 (List.find?_isSome.2 ⟨([], .eq), by decide, rfl⟩)
  obtain ⟨hp0, as, bs, has, hnot⟩ := List.find?_eq_some_iff_append.1 h0
  -- no other spelling reads `s`: it is no prefix, or a prefix followed by the rest of `sp0`
  have hother : ∀ sp ∈ opSpellings, sp ≠ sp0 → readAs s sp = none := by
    intro sp hsp hne
    rw [readAs_eq]
    split
    · next hp =>
      have hmem : sp ∈ bs := by
        have := hspell sp hsp
        rw [has, List.mem_append, List.mem_cons] at this
        rcases this with h1 | h1 | h1
        · simpa [hp] using hnot sp h1
        · exact absurd h1 hne
        · exact h1
      rw [has] at hord
      have hno : ¬ sp0.1 <+: sp.1 := List.rel_of_pairwise_cons (List.pairwise_append.1 hord).2.1 hmem
      obtain ⟨k, hk⟩ : sp.1 <+: sp0.1 :=
        (List.prefix_or_prefix_of_prefix (List.isPrefixOf_iff_prefix.1 hp) (List.isPrefixOf_iff_prefix.1 hp0)).resolve_right hno
      obtain ⟨t, ht⟩ := List.isPrefixOf_iff_prefix.1 hp0
      cases k with
      | nil => exact absurd ⟨[], by simp [← hk]⟩ hno
      | cons c k =>
        rw [← ht, ← hk, List.append_assoc, List.drop_left, List.cons_append, specNumber_nondigit]
        · rfl
        · exact nondigit_spellings sp0 (harms sp0 (has ▸ by simp)) c (hk ▸ by simp)
    · rfl
  rw [fromStr_eq, h0, findSome?_eq_of_ne (harms sp0 (has ▸ by simp)) hother, readAs_eq, if_pos hp0,
    Option.bind_some, parseUInt_noplus _ (drop_notMem _ h)]
  cases specNumber (s.drop sp0.1.length) <;> rfl

theorem specNumber_eq_some_iff (ds : Text) (n : Nat) :
    specNumber ds = some n ↔ ds ≠ [] ∧ ds.all isDigit = true ∧ decimalValue ds = n ∧ n ≤ maxInteger := by
  simp only [specNumber, Option.ite_none_right_eq_some, Bool.and_eq_true, Bool.not_eq_true',
    decide_eq_true_eq, List.isEmpty_eq_false_iff, Option.some.injEq]
  exact ⟨fun ⟨⟨⟨a, b⟩, c⟩, e⟩ => ⟨a, b, e, e ▸ c⟩, fun ⟨a, b, e, c⟩ => ⟨⟨⟨a, b⟩, e ▸ c⟩, e⟩⟩

theorem readAs_some_iff (s : Text) (sp : Text × CmpOp) (op : CmpOp) (n : Nat) :
    readAs s sp = some (op, n) ↔
      ∃ ds, s = sp.1 ++ ds ∧ sp.2 = op ∧ ds ≠ [] ∧ ds.all isDigit = true ∧ decimalValue ds = n ∧ n ≤ maxInteger := by
  simp only [readAs_eq, ← specNumber_eq_some_iff]
  constructor
  · intro h
    split at h
    · next hp =>
      obtain ⟨t, rfl⟩ := List.isPrefixOf_iff_prefix.1 hp
      rw [List.drop_left, Option.map_eq_some_iff] at h
      obtain ⟨m, hm, he⟩ := h
      cases he
      exact ⟨t, rfl, rfl, hm⟩
    · cases h
  · rintro ⟨ds, rfl, rfl, hd⟩
    rw [if_pos (List.isPrefixOf_iff_prefix.2 ⟨ds, rfl⟩), List.drop_left, hd]
    rfl

theorem spelling_unique : ∀ sp ∈ opSpellings, ∀ sp' ∈ opSpellings, sp.1 = sp'.1 → sp.2 = sp'.2 := by decide +kernel

theorem MemberCountDenotes_unique {s : Text} {op op' : CmpOp} {n n' : Nat}
    (h : MemberCountDenotes s op n) (h' : MemberCountDenotes s op' n') : op = op' ∧ n = n' := by
  obtain ⟨sp, hsp, ds, hs, hop, hne, hd, hv, _⟩ := h
  obtain ⟨sp', hsp', ds', hs', hop', hne', hd', hv', _⟩ := h'
  have key : ∀ (sp : Text × CmpOp) (ds : Text), sp ∈ opSpellings → ds ≠ [] → ds.all isDigit = true →
      (sp.1 ++ ds).takeWhile (fun c => !isDigit c) = sp.1 := by
    intro sp ds hsp hne hd
    obtain ⟨d, ds, rfl⟩ := List.exists_cons_of_ne_nil hne
    rw [List.takeWhile_append_of_pos fun c hc => by simp [nondigit_spellings sp hsp c hc],
      List.takeWhile_cons_of_neg (by simp at hd; simp [hd.1]), List.append_nil]
  have e1 : sp.1 = sp'.1 := by
    rw [← key sp ds hsp hne hd, ← key sp' ds' hsp' hne' hd', ← hs, ← hs']
  have e2 : ds = ds' := by
    rw [hs, e1] at hs'; exact List.append_cancel_left hs'
  refine ⟨?_, ?_⟩
  · rw [← hop, ← hop']; exact spelling_unique sp hsp sp' hsp' e1
  · rw [← hv, ← hv', e2]

theorem findSome_readAs_iff (s : Text) (op : CmpOp) (n : Nat) :
    opSpellings.findSome? (readAs s) = some (op, n) ↔ MemberCountDenotes s op n := by
  constructor
  · intro h
    obtain ⟨sp, hsp, hr⟩ := List.exists_of_findSome?_eq_some h
    exact ⟨sp, hsp, (readAs_some_iff s sp op n).1 hr⟩
  · rintro ⟨sp, hsp, hd⟩
    have hr := (readAs_some_iff s sp op n).2 hd
    cases hf : opSpellings.findSome? (readAs s) with
    | none =>
      have := List.findSome?_eq_none_iff.1 hf sp hsp
      rw [hr] at this; cases this
    | some r =>
      obtain ⟨op', n'⟩ := r
      obtain ⟨sp', hsp', hr'⟩ := List.exists_of_findSome?_eq_some hf
      have hd' : MemberCountDenotes s op' n' := ⟨sp', hsp', (readAs_some_iff s sp' op' n').1 hr'⟩
      obtain ⟨e1, e2⟩ := MemberCountDenotes_unique ⟨sp, hsp, hd⟩ hd'
      rw [e1, e2]

theorem memberCountDecide_true_iff (s : Text) (x : Nat) :
    memberCountDecide s x = some true ↔ MemberCountHolds s x := by
  simp only [memberCountDecide, MemberCountHolds, Option.map_eq_some_iff, Prod.exists, findSome_readAs_iff]

theorem memberCountDecide_none_iff (s : Text) (x : Nat) :
    memberCountDecide s x = none ↔ ¬ ∃ op n, MemberCountDenotes s op n := by
  rw [memberCountDecide, Option.map_eq_none_iff, Option.eq_none_iff_forall_ne_some]
  simp only [Prod.forall, ne_eq, findSome_readAs_iff, not_exists]

theorem isDigit_eq (c : Char) : isDigit c = c.isDigit := by
  simp [isDigit, Char.isDigit, Char.le_def]

theorem all_isDigit_toDigits (n : Nat) : (Nat.toDigits 10 n).all isDigit = true := by
  simp only [List.all_eq_true]
  intro c hc
  rw [isDigit_eq]
  exact Nat.isDigit_of_mem_toDigits (by decide) (by decide) hc

theorem decimalValue_append (a : Text) (c : Char) : decimalValue (a ++ [c]) = decimalValue a * 10 + (c.toNat - 48) := by
  simp [decimalValue, List.foldl_append]

theorem decimalValue_toDigits (n : Nat) : decimalValue (Nat.toDigits 10 n) = n := by
  induction n using Nat.strongRecOn with
  | _ n ih =>
    rw [Nat.toDigits_eq_if (by decide)]
    split
    · rename_i h
      simp [decimalValue, Nat.toNat_digitChar_sub_48_of_lt_ten h]
    · rename_i h
      rw [decimalValue_append, ih (n / 10) (by omega),
        Nat.toNat_digitChar_sub_48_of_lt_ten (Nat.mod_lt _ (by decide))]
      omega

theorem plus_notMem_toDigits (n : Nat) : '+' ∉ Nat.toDigits 10 n := by
  intro h
  have := Nat.isDigit_of_mem_toDigits (by decide) (by decide) h
  revert this; decide

theorem plus_notMem_spellings : ∀ sp ∈ opSpellings, '+' ∉ sp.1 := by decide +kernel

theorem fromStr_spelling (sp : Text × CmpOp) (hsp : sp ∈ opSpellings) (n : Nat) (hn : n ≤ maxInteger) :
    MemberCountIs.fromStr (sp.1 ++ Nat.toDigits 10 n) = some ⟨sp.2, n⟩ := by
  have hplus : '+' ∉ sp.1 ++ Nat.toDigits 10 n := by
    intro h
    rcases List.mem_append.1 h with h | h
    · exact plus_notMem_spellings sp hsp h
    · exact plus_notMem_toDigits n h
  rw [fromStr_noplus _ hplus,
    (findSome_readAs_iff _ sp.2 n).2
      ⟨sp, hsp, Nat.toDigits 10 n, rfl, rfl, Nat.toDigits_ne_nil, all_isDigit_toDigits n,
        decimalValue_toDigits n, hn⟩]
  rfl

theorem fromStr_display (r : MemberCountIs) (hn : r.count ≤ maxSafeUInt) :
    MemberCountIs.fromStr r.display = some r := by
  obtain ⟨op, n⟩ := r
  cases op
  · exact fromStr_spelling ([], .eq) (by decide) n hn
  · exact fromStr_spelling ("<".toList, .lt) (by decide) n hn
  · exact fromStr_spelling (">".toList, .gt) (by decide) n hn
  · exact fromStr_spelling (">=".toList, .ge) (by decide) n hn
  · exact fromStr_spelling ("<=".toList, .le) (by decide) n hn

end Ruma.Push
