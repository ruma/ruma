/-
  C12 — `FlattenedJson::from_raw` inserts exactly the spec's leaves under their property paths
  (`flatten_eq`), hence `get` / `get_str` / `contains_mentions` are the spec's `lookup` /
  `lookupStr` / `hasMentions`.
-/
import RumaModel.Spec.Push
import RumaModel.Model.Push
namespace Ruma.Push
open Ruma.Spec.Push (escape pathString leaves leavesFields canonicalInt jsonEq)

theorem escapeKey_eq (k : Text) : escapeKey k = escape k := by
  unfold escapeKey replaceChar escape
  induction k with
  | nil => rfl
  | cons c t ih =>
    simp only [List.flatMap_cons] at ih ⊢
    by_cases h1 : c = '\\'
    · subst h1; simp [ih]
    · by_cases h2 : c = '.'
      · subst h2; simp [ih]
      · simp [h1, h2, ih]

theorem pathString_append_singleton (l : List Text) (k : Text) (hl : l ≠ []) :
    pathString (l ++ [k]) = pathString l ++ '.' :: escape k := by
  induction l with
  | nil => exact absurd rfl hl
  | cons a t ih =>
    cases t with
    | nil => simp [pathString]
    | cons b t' =>
      have := ih (by simp)
      simp only [List.cons_append] at this ⊢
      simp only [pathString, this, List.append_assoc, List.cons_append]

/-- The `path` argument of `flatten_value` for the keys walked so far (last key first). -/
def pathOf (rpath : List Text) : Option Text :=
  match rpath with
  | [] => none
  | _ :: _ => some (pathString rpath.reverse)

theorem pathOf_getD (rpath : List Text) : (pathOf rpath).getD [] = pathString rpath.reverse := by
  cases rpath <;> simp [pathOf, pathString]

theorem childPath_pathOf (rpath : List Text) (k : Text) :
    some (childPath (pathOf rpath) k) = pathOf (k :: rpath) := by
  cases rpath with
  | nil => simp [pathOf, childPath, escapeKey_eq, pathString]
  | cons a t =>
    show some (pathString (a :: t).reverse ++ '.' :: escapeKey k) = some (pathString (k :: a :: t).reverse)
    rw [escapeKey_eq, List.reverse_cons (a := k), pathString_append_singleton _ _ (by simp)]

/-- The flattened value of a leaf. -/
def toF (v : PJ) : FVal :=
  match FVal.ofJson v with
  | some f => f
  | none => .emptyObj

def entry (e : List Text × PJ) : Text × FVal := (pathString e.1, toF e.2)

theorem intOk_eq (i : Int) : intOk i = canonicalInt i := by
  simp [intOk, canonicalInt, Bool.decide_and]

theorem insertLeaf_some (f : FVal) (rpath : List Text) (m : FMap) :
    insertLeaf (some f) (pathOf rpath) m = (pathString rpath.reverse, f) :: m := by
  rw [insertLeaf, pathOf_getD]

mutual
/-- `flatten_value` inserts exactly the spec's leaves, with their property paths. -/
theorem flattenValue_eq : ∀ (v : PJ) (rpath : List Text) (m : FMap),
    flattenValue v (pathOf rpath) m = ((leaves v rpath).reverse.map entry) ++ m
  | .obj [], rpath, m => insertLeaf_some .emptyObj rpath m
  | .obj (kv :: kvs), rpath, m => by
    rw [flattenValue, leaves]; exact flattenFields_eq (kv :: kvs) rpath m
  | .null, rpath, m => insertLeaf_some .null rpath m
  | .bool b, rpath, m => insertLeaf_some (.bool b) rpath m
  | .int i, rpath, m => by
    simp only [flattenValue, leaves, FVal.ofJson, intOk_eq]
    cases h : canonicalInt i
    · rfl
    · simp [insertLeaf_some, entry, toF, FVal.ofJson, intOk_eq, h]
  | .float, rpath, m => rfl
  | .str s, rpath, m => insertLeaf_some (.str s) rpath m
  | .arr xs, rpath, m => insertLeaf_some (.arr (xs.filterMap Scalar.ofJson)) rpath m
theorem flattenFields_eq : ∀ (kvs : List (Text × PJ)) (rpath : List Text) (m : FMap),
    flattenFields kvs (pathOf rpath) m = ((leavesFields kvs rpath).reverse.map entry) ++ m
  | [], rpath, m => rfl
  | (k, v) :: rest, rpath, m => by
    rw [flattenFields, leavesFields, childPath_pathOf, flattenValue_eq v (k :: rpath) m,
      flattenFields_eq rest rpath]
    simp
end

theorem flatten_eq (ev : PJ) : flatten ev = (leaves ev []).reverse.map entry := by
  have := flattenValue_eq ev [] []
  simpa [flatten, pathOf] using this

theorem get_map_entry (l : List (List Text × PJ)) (k : Text) :
    FMap.get (l.map entry) k = (l.find? fun e => pathString e.1 = k).map fun e => toF e.2 := by
  induction l with
  | nil => rfl
  | cons e t ih =>
    simp only [List.map_cons, FMap.get, entry, List.find?_cons]
    by_cases h : pathString e.1 = k
    · simp [h]
    · simp only [h, if_false, decide_false]
      exact ih

/-- `FlattenedJson::get` is the spec's property lookup. -/
theorem flatten_get (ev : PJ) (k : Text) :
    (flatten ev).get k = (Ruma.Spec.Push.lookup ev k).map toF := by
  rw [flatten_eq, get_map_entry]
  simp only [Ruma.Spec.Push.lookup, Option.map_map]
  rfl

theorem toF_int (i : Int) : toF (.int i) = if canonicalInt i then .int i else .emptyObj := by
  simp only [toF, FVal.ofJson, intOk_eq]
  cases canonicalInt i <;> rfl

/-- `FlattenedJson::get_str` is the spec's string lookup. -/
theorem flatten_getStr (ev : PJ) (k : Text) :
    (flatten ev).getStr k = Ruma.Spec.Push.lookupStr ev k := by
  unfold FMap.getStr Ruma.Spec.Push.lookupStr
  rw [flatten_get]
  cases h : Ruma.Spec.Push.lookup ev k with
  | none => rfl
  | some v =>
    cases v with
    | int i =>
      simp only [Option.map_some, toF_int]
      cases canonicalInt i <;> rfl
    | _ => rfl

/-- `contains_mentions` is the spec's `hasMentions`. -/
theorem flatten_containsMentions (ev : PJ) :
    containsMentions (flatten ev) = Ruma.Spec.Push.hasMentions ev := by
  have h : mentionsKey = Ruma.Spec.Push.mentionsPath ∧
      mentionsPrefix = Ruma.Spec.Push.mentionsPath ++ ['.'] := by decide +kernel
  unfold containsMentions Ruma.Spec.Push.hasMentions
  rw [flatten_eq, List.any_map, List.any_reverse, h.1, h.2]
  rfl

theorem eqScalar_toF (v : PJ) (x : Scalar) : (toF v).eqScalar x = jsonEq v x := by
  cases v with
  | int i => rw [toF_int]; cases h : canonicalInt i <;> cases x <;> simp [FVal.eqScalar, jsonEq, h]
  | _ => cases x <;> rfl

/-- A JSON value equals a scalar iff it converts to that scalar. -/
theorem jsonEq_iff_ofJson (e : PJ) (x : Scalar) : jsonEq e x = true ↔ Scalar.ofJson e = some x := by
  cases e with
  | int i => cases x <;> cases h : canonicalInt i <;> simp [Scalar.ofJson, jsonEq, intOk_eq, h]
  | _ => cases x <;> simp [Scalar.ofJson, jsonEq]

theorem contains_filterMap (xs : List PJ) (x : Scalar) :
    (xs.filterMap Scalar.ofJson).contains x = xs.any (jsonEq · x) := by
  rw [Bool.eq_iff_iff]
  simp [List.mem_filterMap, jsonEq_iff_ofJson]

end Ruma.Push
