/-
  C12 — lemmas about the glob relation and its decision procedures (`Spec/Glob.lean`).
-/
import RumaModel.Spec.Glob
namespace Ruma.Spec.Glob

theorem anySuffix_iff (f : Text → Bool) (s : Text) :
    anySuffix f s = true ↔ ∃ u t, s = u ++ t ∧ f t = true := by
  induction s with
  | nil => simp [anySuffix, and_assoc]
  | cons c s ih =>
    simp only [anySuffix, Bool.or_eq_true, ih]
    constructor
    · rintro (h | ⟨u, t, rfl, hf⟩)
      · exact ⟨[], c :: s, rfl, h⟩
      · exact ⟨c :: u, t, rfl, hf⟩
    · rintro ⟨u, t, h, hf⟩
      cases u with
      | nil => exact Or.inl (h ▸ hf)
      | cons a u => exact Or.inr ⟨u, t, (List.cons.inj h).2, hf⟩

theorem Glob_nil_iff (s : Text) : Glob [] s ↔ s = [] :=
  ⟨fun h => by cases h; rfl, fun h => h ▸ Glob.nil⟩

theorem Glob_star_iff (p s : Text) : Glob ('*' :: p) s ↔ ∃ u t, s = u ++ t ∧ Glob p t := by
  constructor
  · intro h
    cases h with
    | star _ u t h => exact ⟨u, t, rfl, h⟩
    | lit _ _ _ h => exact absurd rfl h
  · rintro ⟨u, t, rfl, h⟩; exact Glob.star p u t h

theorem Glob_cons_iff {a : Char} (ha : a ≠ '*') (p s : Text) :
    Glob (a :: p) s ↔ ∃ c t, s = c :: t ∧ (a = '?' ∨ a = c) ∧ Glob p t := by
  constructor
  · intro h
    cases h with
    | star => exact absurd rfl ha
    | one _ c t h => exact ⟨c, t, rfl, Or.inl rfl, h⟩
    | lit _ _ t _ _ h => exact ⟨a, t, rfl, Or.inr rfl, h⟩
  · rintro ⟨c, t, rfl, hc, h⟩
    by_cases hq : a = '?'
    · exact hq ▸ Glob.one p c t h
    · exact (hc.resolve_left hq) ▸ Glob.lit a p t ha hq h

theorem globDecide_iff_Glob (p s : Text) : globDecide p s = true ↔ Glob p s := by
  induction p generalizing s with
  | nil => simp [globDecide, Glob_nil_iff]
  | cons a p ih =>
    by_cases ha : a = '*'
    · subst ha
      simp only [globDecide, beq_self_eq_true, if_true, anySuffix_iff, Glob_star_iff, ih]
    · rw [Glob_cons_iff ha]
      cases s with
      | nil => simp [globDecide, ha]
      | cons c t => simp [globDecide, ha, ih, and_assoc]

theorem Glob_append (p q t : Text) : Glob (p ++ q) t ↔ ∃ u r, t = u ++ r ∧ Glob p u ∧ Glob q r := by
  induction p generalizing t with
  | nil => exact ⟨fun h => ⟨[], t, rfl, Glob.nil, h⟩, fun ⟨_, _, e, hn, h⟩ => by cases hn; exact e ▸ h⟩
  | cons a p ih =>
    by_cases ha : a = '*'
    · subst ha
      simp only [List.cons_append, Glob_star_iff, ih]
      constructor
      · rintro ⟨u1, _, rfl, u2, r, rfl, hp, hq⟩
        exact ⟨u1 ++ u2, r, (List.append_assoc ..).symm, ⟨u1, u2, rfl, hp⟩, hq⟩
      · rintro ⟨_, r, rfl, ⟨u1, u2, rfl, hp⟩, hq⟩
        exact ⟨u1, u2 ++ r, List.append_assoc .., u2, r, rfl, hp, hq⟩
    · simp only [List.cons_append, Glob_cons_iff ha, ih]
      constructor
      · rintro ⟨c, _, rfl, hc, u2, r, rfl, hp, hq⟩
        exact ⟨c :: u2, r, rfl, ⟨c, u2, rfl, hc, hp⟩, hq⟩
      · rintro ⟨_, r, rfl, ⟨c, u2, rfl, hc, hp⟩, hq⟩
        exact ⟨c, u2 ++ r, rfl, hc, u2, r, rfl, hp, hq⟩

theorem Glob_literal {p : Text} (hp : ∀ c ∈ p, c ≠ '*' ∧ c ≠ '?') (t : Text) : Glob p t ↔ t = p := by
  induction p generalizing t with
  | nil => exact Glob_nil_iff t
  | cons a p ih =>
    have ha := hp a List.mem_cons_self
    rw [Glob_cons_iff ha.1]
    simp only [ha.2, false_or, ih fun c hc => hp c (List.mem_cons_of_mem a hc)]
    constructor
    · rintro ⟨_, _, rfl, rfl, rfl⟩; rfl
    · rintro rfl; exact ⟨a, p, rfl, rfl, rfl⟩

/-- The double loop over the positions of a text in `wordDecide` and `literalWordDecide`. -/
theorem anyRun_iff (q : Text → Bool) (s : Text) :
    ((List.range (s.length + 1)).any fun i => decide (boundary s i) &&
      (List.range (s.length + 1)).any fun j =>
        decide (i ≤ j) && decide (boundary s j) && q (slice s i j)) = true ↔
    ∃ i j, i ≤ j ∧ j ≤ s.length ∧ q (slice s i j) = true ∧ boundary s i ∧ boundary s j := by
  simp only [List.any_eq_true, List.mem_range, Bool.and_eq_true, decide_eq_true_eq]
  constructor
  · rintro ⟨i, _, hi, j, hj, ⟨hij, hbj⟩, hq⟩
    exact ⟨i, j, hij, by omega, hq, hi, hbj⟩
  · rintro ⟨i, j, hij, hj, hq, hi, hbj⟩
    exact ⟨i, by omega, hi, j, by omega, ⟨hij, hbj⟩, hq⟩

theorem wordDecide_iff_WordMatch (p s : Text) : wordDecide p s = true ↔ WordMatch p s := by
  unfold wordDecide WordMatch
  cases p with
  | nil => simp
  | cons a p =>
    rw [List.isEmpty_cons, if_neg Bool.false_ne_true, anyRun_iff (globDecide (a :: p))]
    simp [globDecide_iff_Glob]

theorem literalWordDecide_iff (p s : Text) : literalWordDecide p s = true ↔ LiteralWordMatch p s := by
  unfold literalWordDecide LiteralWordMatch
  cases p with
  | nil => simp
  | cons a p =>
    rw [List.isEmpty_cons, if_neg Bool.false_ne_true, anyRun_iff fun t => decide (t = a :: p)]
    simp

theorem LiteralWordMatch_iff_WordMatch {p : Text} (hp : ∀ c ∈ p, c ≠ '*' ∧ c ≠ '?') (s : Text) :
    LiteralWordMatch p s ↔ WordMatch p s := by
  simp only [LiteralWordMatch, WordMatch, Glob_literal hp]

end Ruma.Spec.Glob
