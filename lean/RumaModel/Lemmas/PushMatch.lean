/-
  C12 — `Ruleset::get_match` refines the spec: conditions (`Cond_applies_eq`), rules
  (`AnyRule_applies_eq`), the iterator (`Iter.find_eq`) and the whole (`getMatch_spec`).
-/
import RumaModel.Lemmas.PushFlatten
import RumaModel.Lemmas.PushPattern
namespace Ruma.Push
open Ruma.Spec.Push (Params condHolds ruleHolds lookupStr lookup)

def paramsOf (E : Ext) : Params := { lower := E.lower, isUserId := E.isUserId }

/-! The model's and the specification's names for keys and rule ids are the same texts. -/
theorem kSender_eq : kSender = Ruma.Spec.Push.keySender := rfl
theorem kContentBody_eq : kContentBody = Ruma.Spec.Push.keyContentBody := rfl
theorem kRoomId_eq : kRoomId = Ruma.Spec.Push.keyRoomId := rfl
theorem idRoomNotif_eq : idRoomNotif = Ruma.Spec.Push.ruleRoomNotif := rfl
theorem idContainsDisplayName_eq : idContainsDisplayName = Ruma.Spec.Push.ruleContainsDisplayName := rfl
theorem idContainsUserName_eq : idContainsUserName = Ruma.Spec.Push.ruleContainsUserName := rfl

theorem selfSent_eq (ev : PJ) (ctx : Ctx) : selfSent (flatten ev) ctx = Ruma.Spec.Push.sentBySelf ev ctx := by
  rw [selfSent, Ruma.Spec.Push.sentBySelf, flatten_getStr, kSender_eq]
  cases lookupStr ev Ruma.Spec.Push.keySender <;> simp

theorem checkEventMatch_eq (E : Ext) (hE : ExtOk E) (ev : PJ) (key pattern : Text) (ctx : Ctx) :
    checkEventMatch E (flatten ev) key pattern ctx =
      .ok (condHolds (paramsOf E) ev ctx (.eventMatch key pattern)) := by
  simp only [checkEventMatch, condHolds, flatten_getStr, matchesPattern_spec E hE, beq_iff_eq,
    kContentBody_eq, kRoomId_eq]
  split
  · rfl
  · cases lookupStr ev key <;> rfl

theorem lookupLevel_eq (users : List (Text × Int)) (u : Text) :
    lookupLevel users u = (users.find? (·.1 = u)).map (·.2) := by
  induction users with
  | nil => rfl
  | cons e t ih =>
    rw [lookupLevel, List.find?_cons]
    by_cases h : e.1 = u <;> simp [h, ih]

theorem senderMayNotify_eq (E : Ext) (ev : PJ) (ctx : Ctx) (key : Text) :
    senderMayNotify E (flatten ev) ctx key =
      condHolds (paramsOf E) ev ctx (.senderNotificationPermission key) := by
  have hl : ∀ pl v, userLevel pl v = Ruma.Spec.Push.levelOf pl v := by
    intro pl v
    rw [userLevel, Ruma.Spec.Push.levelOf, lookupLevel_eq]
    cases List.find? (fun x => decide (x.1 = v)) pl.users <;> rfl
  simp only [senderMayNotify, condHolds, flatten_getStr, kSender_eq, hl]
  cases ctx.powerLevels with
  | none => rfl
  | some pl =>
    cases lookupStr ev Ruma.Spec.Push.keySender with
    | none => rfl
    | some v => cases hu : E.isUserId v <;> simp [paramsOf, hu] <;> rfl

theorem memberCount_eq (is : MemberCountIs) (x : Nat) :
    is.contains x = Ruma.Spec.Push.compare is.prefix_ x is.count := by
  obtain ⟨op, n⟩ := is
  cases op <;> simp only [MemberCountIs.contains, MemberCountIs.startBound, MemberCountIs.endBound,
    Ruma.Spec.Push.compare, Bool.and_true, Bool.true_and]
  -- `==` is a pair of bounds
  rw [Bool.eq_iff_iff]
  simp [Nat.le_antisymm_iff, and_comm]

/-- `PushCondition::applies` (on an event not sent by the user) never panics and decides the
spec's condition. -/
theorem Cond_applies_eq (E : Ext) (hE : ExtOk E) (ev : PJ) (ctx : Ctx)
    (hself : selfSent (flatten ev) ctx = false) (c : Cond) :
    c.applies E (flatten ev) ctx = .ok (condHolds (paramsOf E) ev ctx c) := by
  unfold Cond.applies
  rw [if_neg (by simp [hself])]
  cases c with
  | eventMatch key pattern => exact checkEventMatch_eq E hE ev key pattern ctx
  | containsDisplayName =>
    simp only [flatten_getStr, kContentBody_eq, condHolds]
    cases lookupStr ev Ruma.Spec.Push.keyContentBody with
    | none => rfl
    | some v => exact containsWord_spec E v ctx.displayName
  | roomMemberCount is => simp only [memberCount_eq, condHolds]
  | senderNotificationPermission key => simp only [senderMayNotify_eq]
  | eventPropertyIs key value =>
    simp only [flatten_get, condHolds]
    cases lookup ev key with
    | none => rfl
    | some v => simp [eqScalar_toF]
  | eventPropertyContains key value =>
    simp only [flatten_get, condHolds]
    cases lookup ev key with
    | none => rfl
    | some v =>
      cases v with
      | arr xs => simp only [Option.map_some, toF, FVal.ofJson, contains_filterMap]
      | int i => rw [Option.map_some, toF_int]; cases Ruma.Spec.Push.canonicalInt i <;> rfl
      | _ => rfl
  | custom => rfl

theorem allApply_eq (E : Ext) (hE : ExtOk E) (ev : PJ) (ctx : Ctx)
    (hself : selfSent (flatten ev) ctx = false) (conds : List Cond) :
    allApply E conds (flatten ev) ctx = .ok (conds.all (condHolds (paramsOf E) ev ctx)) := by
  induction conds with
  | nil => rfl
  | cons c rest ih =>
    rw [allApply, Cond_applies_eq E hE ev ctx hself, List.all_cons]
    cases condHolds (paramsOf E) ev ctx c
    · rfl
    · exact ih

theorem CondRule_applies_eq (E : Ext) (hE : ExtOk E) (ev : PJ) (ctx : Ctx)
    (hself : selfSent (flatten ev) ctx = false) (r : CondRule) :
    r.applies E (flatten ev) ctx =
      .ok (r.enabled &&
        !((decide (r.ruleId = Ruma.Spec.Push.ruleRoomNotif) ||
            decide (r.ruleId = Ruma.Spec.Push.ruleContainsDisplayName)) && Ruma.Spec.Push.hasMentions ev) &&
        r.conditions.all (condHolds (paramsOf E) ev ctx)) := by
  rw [CondRule.applies, flatten_containsMentions, allApply_eq E hE ev ctx hself, idRoomNotif_eq,
    idContainsDisplayName_eq]
  generalize ((decide (r.ruleId = Ruma.Spec.Push.ruleRoomNotif) ||
    decide (r.ruleId = Ruma.Spec.Push.ruleContainsDisplayName)) && Ruma.Spec.Push.hasMentions ev) = b
  cases r.enabled <;> cases b <;> rfl

/-- `AnyPushRuleRef::applies` (on an event not sent by the user) never panics and decides whether
the rule holds in the spec's sense. -/
theorem AnyRule_applies_eq (E : Ext) (hE : ExtOk E) (ev : PJ) (ctx : Ctx)
    (hself : selfSent (flatten ev) ctx = false) (r : AnyRule) :
    r.applies E (flatten ev) ctx = .ok (ruleHolds (paramsOf E) ev ctx r) := by
  unfold AnyRule.applies
  rw [if_neg (by simp [hself])]
  cases r with
  | override_ rule => exact CondRule_applies_eq E hE ev ctx hself rule
  | underride rule => exact CondRule_applies_eq E hE ev ctx hself rule
  | content rule =>
    simp only [PatRule.appliesTo]
    rw [idContainsUserName_eq, flatten_containsMentions, kContentBody_eq, checkEventMatch_eq E hE]
    simp only [hself, ruleHolds, Ruma.Spec.Push.enabled, Ruma.Spec.Push.legacyMention,
      Ruma.Spec.Push.conditions, List.all_cons, List.all_nil, Bool.and_true]
    generalize (decide (rule.ruleId = Ruma.Spec.Push.ruleContainsUserName) && Ruma.Spec.Push.hasMentions ev) = b
    cases rule.enabled <;> cases b <;> simp
  | room rule =>
    simp only [kRoomId_eq, checkEventMatch_eq E hE, ruleHolds, Ruma.Spec.Push.enabled,
      Ruma.Spec.Push.legacyMention, Ruma.Spec.Push.conditions, List.all_cons, List.all_nil, Bool.and_true]
    cases rule.enabled <;> simp
  | sender rule =>
    simp only [kSender_eq, checkEventMatch_eq E hE, ruleHolds, Ruma.Spec.Push.enabled,
      Ruma.Spec.Push.legacyMention, Ruma.Spec.Push.conditions, List.all_cons, List.all_nil, Bool.and_true]
    cases rule.enabled <;> simp

/-- What the iterator will still yield, in order. -/
def Iter.toList (it : Iter) : List AnyRule :=
  it.override_.map .override_ ++ it.content.map .content ++ it.room.map .room ++
    it.sender.map .sender ++ it.underride.map .underride

/-- `RulesetIter::next` takes the first rule of the first kind that has one left. -/
theorem Iter.toList_eq : (it : Iter) →
    it.toList = match it.next with | none => [] | some (r, it') => r :: it'.toList
  | ⟨_, _ :: _, _, _, _⟩ => rfl
  | ⟨_ :: _, [], _, _, _⟩ => rfl
  | ⟨[], [], _ :: _, _, _⟩ => rfl
  | ⟨[], [], [], _ :: _, _⟩ => rfl
  | ⟨[], [], [], [], _ :: _⟩ => rfl
  | ⟨[], [], [], [], []⟩ => rfl

/-- `Iterator::find` over the ruleset iterator is `List.find?` over the rules in priority order. -/
theorem Iter.find_eq (pred : AnyRule → Res) (f : AnyRule → Bool) (h : ∀ r, pred r = .ok (f r))
    (it : Iter) : it.find pred = .ok (it.toList.find? f) := by
  fun_induction Iter.find pred it with
  | case1 it hn => rw [Iter.toList_eq, hn]; rfl
  | case2 it r it' hn e he => rw [h] at he; cases he
  | case3 it r it' hn he => rw [Iter.toList_eq, hn]; simp [show f r = true by simpa [h] using he]
  | case4 it r it' hn he ih => rw [Iter.toList_eq, hn, ih]; simp [show f r = false by simpa [h] using he]

theorem iter_toList (rs : Ruleset) : rs.iter.toList = Ruma.Spec.Push.orderedRules rs := rfl

/-- `Ruleset::get_match` never panics and returns the spec's match. -/
theorem getMatch_spec (E : Ext) (hE : ExtOk E) (rs : Ruleset) (ev : PJ) (ctx : Ctx) :
    getMatch E rs ev ctx = .ok (Ruma.Spec.Push.getMatch (paramsOf E) rs ev ctx) := by
  unfold getMatch Ruma.Spec.Push.getMatch
  simp only [← selfSent_eq]
  cases hself : selfSent (flatten ev) ctx
  · simp only [Bool.false_eq_true, if_false]
    rw [Iter.find_eq _ (ruleHolds (paramsOf E) ev ctx)
      (fun r => AnyRule_applies_eq E hE ev ctx hself r), iter_toList]
  · simp

end Ruma.Push
