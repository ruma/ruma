/-
  C12 — property paths are unambiguous: `parsePath` recovers the key path from its path string,
  so `pathString` is injective on non-empty key paths.
-/
import RumaModel.Spec.Push
namespace Ruma.Push
open Ruma.Spec.Push (escape pathString)

/-- Split a property path at its unescaped dots and remove the escaping backslashes.
`cur` is the key read so far, `esc` says that the previous character was an escaping backslash. -/
def parseGo (cur : Text) (esc : Bool) : Text → List Text
  | [] => [cur]
  | c :: t =>
    if esc then parseGo (cur ++ [c]) false t
    else if c = '\\' then parseGo cur true t
    else if c = '.' then cur :: parseGo [] false t
    else parseGo (cur ++ [c]) false t

def parsePath (s : Text) : List Text := parseGo [] false s

theorem parseGo_escape (k : Text) : ∀ (cur rest : Text),
    parseGo cur false (escape k ++ rest) = parseGo (cur ++ k) false rest := by
  induction k with
  | nil => intro cur rest; simp [escape]
  | cons x k ih =>
    intro cur rest
    -- one key character, escaped or not, is read back as itself
    have step : parseGo cur false (escape (x :: k) ++ rest) = parseGo (cur ++ [x]) false (escape k ++ rest) := by
      have hcons : escape (x :: k) = (if x = '.' ∨ x = '\\' then ['\\', x] else [x]) ++ escape k := by
        simp [escape]
      rw [hcons]
      by_cases hx : x = '.' ∨ x = '\\'
      · simp [hx, parseGo]
      · simp [parseGo, (not_or.1 hx).1, (not_or.1 hx).2]
    rw [step, ih, List.append_assoc, List.singleton_append]

theorem parseGo_pathString (ks : List Text) (k : Text) : ∀ cur,
    parseGo cur false (pathString (k :: ks)) = (cur ++ k) :: ks := by
  induction ks generalizing k with
  | nil =>
    intro cur
    have := parseGo_escape k cur []
    simpa [pathString, parseGo] using this
  | cons k2 ks ih =>
    intro cur
    simp only [pathString]
    rw [parseGo_escape]
    have : parseGo (cur ++ k) false ('.' :: pathString (k2 :: ks)) =
        (cur ++ k) :: parseGo [] false (pathString (k2 :: ks)) := by
      simp [parseGo]
    rw [this, ih]; simp

/-- Parsing the property path of a non-empty key path gives the key path back. -/
theorem parsePath_pathString (ks : List Text) (h : ks ≠ []) : parsePath (pathString ks) = ks := by
  obtain ⟨k, t, rfl⟩ := List.exists_cons_of_ne_nil h
  simpa [parsePath] using parseGo_pathString t k []

theorem pathString_injective {ks ks' : List Text} (h : ks ≠ []) (h' : ks' ≠ [])
    (heq : pathString ks = pathString ks') : ks = ks' := by
  rw [← parsePath_pathString ks h, ← parsePath_pathString ks' h', heq]

end Ruma.Push
