/-
  C12 — with unique object keys, distinct leaves of an event have distinct property paths, and
  every leaf is what its own path looks up.
-/
import RumaModel.Lemmas.PushFlatten
import RumaModel.Lemmas.PushPath
namespace Ruma.Push
open Ruma.Spec.Push

mutual
/-- Every leaf below `rpath` has a key path extending `rpath`. -/
theorem leaves_prefix (v : PJ) (rpath : List Text) (e : List Text × PJ) (he : e ∈ leaves v rpath) :
    ∃ suffix, e.1 = rpath.reverse ++ suffix := by
  cases v with
  | obj kvs =>
    cases kvs with
    | nil => exact ⟨[], by simp_all [leaves]⟩
    | cons kv kvs =>
      rw [leaves] at he
      obtain ⟨k, _, s, hs⟩ := leavesFields_prefix (kv :: kvs) rpath e he
      exact ⟨k :: s, hs⟩
  | int i => rw [leaves] at he; split at he <;> exact ⟨[], by simp_all⟩
  | _ => exact ⟨[], by simp_all [leaves]⟩
/-- Every leaf of the fields goes through one of their keys. -/
theorem leavesFields_prefix (kvs : List (Text × PJ)) (rpath : List Text) (e : List Text × PJ)
    (he : e ∈ leavesFields kvs rpath) : ∃ k ∈ kvs.map (·.1), ∃ suffix, e.1 = rpath.reverse ++ k :: suffix := by
  cases kvs with
  | nil => simp [leavesFields] at he
  | cons kv rest =>
    rw [leavesFields] at he
    rcases List.mem_append.1 he with h | h
    · obtain ⟨s, hs⟩ := leaves_prefix kv.2 (kv.1 :: rpath) e h
      exact ⟨kv.1, by simp, s, by simp [hs]⟩
    · obtain ⟨k', hk', s, hs⟩ := leavesFields_prefix rest rpath e h
      exact ⟨k', by simp [hk'] , s, hs⟩
end

mutual
/-- With unique keys, distinct leaves have distinct key paths. -/
theorem leaves_nodup (v : PJ) (rpath : List Text) (h : KeysUnique v) :
    ((leaves v rpath).map (·.1)).Nodup := by
  cases v with
  | obj kvs =>
    cases kvs with
    | nil => simp [leaves]
    | cons kv kvs =>
      rw [leaves]
      unfold KeysUnique at h
      exact leavesFields_nodup (kv :: kvs) rpath h.1 h.2
  | int i => rw [leaves]; split <;> simp
  | _ => simp [leaves]
theorem leavesFields_nodup (kvs : List (Text × PJ)) (rpath : List Text)
    (hk : (kvs.map (·.1)).Nodup) (hu : KeysUniqueFields kvs) : ((leavesFields kvs rpath).map (·.1)).Nodup := by
  cases kvs with
  | nil => simp [leavesFields]
  | cons kv rest =>
    rw [leavesFields, List.map_append]
    unfold KeysUniqueFields at hu
    rw [List.map_cons, List.nodup_cons] at hk
    refine List.nodup_append.2
      ⟨leaves_nodup kv.2 (kv.1 :: rpath) hu.1, leavesFields_nodup rest rpath hk.2 hu.2, ?_⟩
    -- a leaf below `kv.1` and a leaf below another key differ at that key
    intro a ha b hb hab
    obtain ⟨e1, he1, rfl⟩ := List.mem_map.1 ha
    obtain ⟨e2, he2, rfl⟩ := List.mem_map.1 hb
    obtain ⟨s1, hs1⟩ := leaves_prefix kv.2 (kv.1 :: rpath) e1 he1
    obtain ⟨k', hk', s2, hs2⟩ := leavesFields_prefix rest rpath e2 he2
    rw [hs1, hs2, List.reverse_cons, List.append_assoc, List.singleton_append] at hab
    exact hk.1 ((List.cons.inj (List.append_cancel_left hab)).1 ▸ hk')
end

/-- With unique keys, distinct leaves have distinct property paths: dot-path addressing is
unambiguous. -/
theorem leaves_paths_nodup (ev : PJ) (h : KeysUnique ev) :
    ((leaves ev []).map fun e => pathString e.1).Nodup := by
  cases ev with
  | obj kvs =>
    cases kvs with
    | nil => simp [leaves]
    | cons kv kvs =>
      -- key paths below a non-empty object are non-empty, where `pathString` is injective
      have hn := leaves_nodup _ [] h
      rw [List.Nodup, List.pairwise_map] at hn ⊢
      refine hn.imp_of_mem fun {e1 e2} he1 he2 hne hab => hne ?_
      rw [leaves] at he1 he2
      obtain ⟨k1, _, s1, hs1⟩ := leavesFields_prefix (kv :: kvs) [] e1 he1
      obtain ⟨k2, _, s2, hs2⟩ := leavesFields_prefix (kv :: kvs) [] e2 he2
      exact pathString_injective (by simp [hs1]) (by simp [hs2]) hab
  | int i => rw [leaves]; split <;> simp
  | _ => simp [leaves]

theorem find?_of_nodup_map {α β : Type} [DecidableEq β] (f : α → β) :
    ∀ (l : List α), (l.map f).Nodup → ∀ e ∈ l, l.find? (fun x => f x = f e) = some e
  | [], _, e, he => by cases he
  | a :: t, hn, e, he => by
    simp only [List.map_cons, List.nodup_cons] at hn
    rw [List.find?_cons]
    rcases List.mem_cons.1 he with rfl | ht
    · simp
    · have hne : ¬ f a = f e := fun h => hn.1 (h ▸ List.mem_map_of_mem ht)
      simp only [hne, decide_false]
      exact find?_of_nodup_map f t hn.2 e ht

/-- With unique keys every leaf is what its own property path looks up. -/
theorem lookup_leaf (ev : PJ) (h : KeysUnique ev) (e : List Text × PJ) (he : e ∈ leaves ev []) :
    lookup ev (pathString e.1) = some e.2 := by
  unfold lookup
  have hn : ((leaves ev []).reverse.map fun e => pathString e.1).Nodup := by
    rw [List.map_reverse, List.Nodup, List.pairwise_reverse]
    exact (leaves_paths_nodup ev h).imp fun hab => Ne.symm hab
  rw [find?_of_nodup_map (fun e => pathString e.1) _ hn e (List.mem_reverse.2 he)]
  rfl

end Ruma.Push
