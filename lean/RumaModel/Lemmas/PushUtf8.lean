/-
  C12 — why modelling text as code points is faithful to the byte-indexed Rust code: UTF-8 is
  self-synchronising, so the byte-level `str::find` of a valid needle in a valid haystack finds
  exactly the code-point-level occurrences, and its result is a character boundary.
  (Lean's `String` is, like Rust's `str`, a validated UTF-8 byte array; `List.utf8Encode` is core.)
-/
import RumaModel.Lemmas.PushWord
namespace Ruma.Push
open String

theorem ByteArray_append_cancel_of_size {a b c d : ByteArray} (h : a ++ b = c ++ d) (hs : a.size = c.size) :
    a = c ∧ b = d := by
  have h1 : a = c := by
    have := congrArg (fun x => x.extract 0 a.size) h
    simp only [ByteArray.extract_append_eq_left rfl] at this
    rw [hs, ByteArray.extract_append_eq_left rfl] at this
    exact this
  subst h1
  exact ⟨rfl, (ByteArray.append_right_inj a).1 h⟩

/-- Self-synchronisation of UTF-8: wherever the bytes of a non-empty text `cp` occur inside the
bytes of a text `cs`, the occurrence starts and ends on character boundaries and is an occurrence
of `cp` in `cs` as a list of characters. -/
theorem utf8_occurrence (cs cp : List Char) (hcp : cp ≠ []) (pre post : ByteArray)
    (h : cs.utf8Encode = pre ++ cp.utf8Encode ++ post) :
    ∃ a b : List Char, cs = a ++ cp ++ b ∧ a.utf8Encode = pre ∧ b.utf8Encode = post := by
  let s := String.ofList cs
  let p : Pos.Raw := ⟨pre.size⟩
  have hsb : s.toByteArray = pre ++ cp.utf8Encode ++ post := by simp [s, h]
  have hcpsize : 0 < cp.utf8Encode.size := by
    cases cp with
    | nil => exact absurd rfl hcp
    | cons c t =>
      rw [List.utf8Encode_cons]
      have := c.utf8Size_pos
      simp [List.utf8Encode_singleton]; omega
  have hvalid : p.IsValid s := by
    rw [Pos.Raw.isValid_iff_isUTF8FirstByte]
    right
    have hlt : p < s.rawEndPos := by
      simp [Pos.Raw.lt_iff, p, ← size_toByteArray, hsb]
      omega
    refine ⟨hlt, ?_⟩
    have hfirst := (ByteArray.isValidUTF8_utf8Encode (l := cp)).isUTF8FirstByte_getElem_zero hcpsize
    have hidx : pre.size < (pre ++ cp.utf8Encode ++ post).size := by simp; omega
    have hbyte : (pre ++ cp.utf8Encode ++ post)[pre.size]'hidx = cp.utf8Encode[0] := by
      rw [ByteArray.getElem_append_left (by simp; omega), ByteArray.getElem_append_right (Nat.le_refl _)]
      simp
    have hget : s.getUTF8Byte p hlt = (pre ++ cp.utf8Encode ++ post)[pre.size]'hidx := by
      simp only [getUTF8Byte, p]
      congr 1
    rw [hget, hbyte]; exact hfirst
  obtain ⟨s₁, s₂, hs, hp⟩ := Pos.Raw.isValid_iff_exists_append.1 hvalid
  have hs₁size : s₁.toByteArray.size = pre.size := by
    have := congrArg Pos.Raw.byteIdx hp
    simpa [p, ← size_toByteArray] using this.symm
  have hbytes : s₁.toByteArray ++ s₂.toByteArray = pre ++ (cp.utf8Encode ++ post) := by
    rw [← ByteArray.append_assoc, ← hsb, hs]; simp
  obtain ⟨e1, e2⟩ := ByteArray_append_cancel_of_size hbytes hs₁size
  have hpre : cp <+: s₂.toList :=
    List.isPrefix_of_utf8Encode_append_eq_utf8Encode post (by rw [String.utf8Encode_toList]; exact e2.symm)
  obtain ⟨b, hb⟩ := hpre
  refine ⟨s₁.toList, b, ?_, ?_, ?_⟩
  · have := congrArg String.toList hs
    simp only [s, String.toList_ofList, String.toList_append] at this
    rw [this, ← hb, List.append_assoc]
  · rw [String.utf8Encode_toList]; exact e1
  · have : s₂.toList.utf8Encode = cp.utf8Encode ++ post := by rw [String.utf8Encode_toList]; exact e2
    rw [← hb, List.utf8Encode_append] at this
    exact (ByteArray.append_right_inj _).1 this

/-- `str::find(pat)` on the UTF-8 bytes, as a statement: `k` is the offset of the first place where
the bytes of `cp` occur in the bytes of `cs`. -/
def IsFirstByteOcc (cp cs : List Char) (k : Nat) : Prop :=
  (∃ pre post : ByteArray, cs.utf8Encode = pre ++ cp.utf8Encode ++ post ∧ pre.size = k) ∧
  ∀ pre' post' : ByteArray, cs.utf8Encode = pre' ++ cp.utf8Encode ++ post' → k ≤ pre'.size

/-- The code-point-level `findSub` of the model is Rust's byte-level `str::find`: the split it
returns is at the byte offset of the first byte-level occurrence (which is therefore a character
boundary, with `rest` the text from there on), and it returns `none` exactly when the needle's
bytes occur nowhere. -/
theorem findSub_is_byte_find (cp cs : List Char) (hcp : cp ≠ []) :
    (∀ a rest, findSub cp cs = some (a, rest) →
        cs = a ++ rest ∧ IsFirstByteOcc cp cs a.utf8Encode.size) ∧
    (findSub cp cs = none → ¬ ∃ pre post : ByteArray, cs.utf8Encode = pre ++ cp.utf8Encode ++ post) := by
  have hspec := findSub_spec cp cs
  constructor
  · intro a rest h
    rw [h] at hspec
    obtain ⟨hs, ⟨b, hb⟩, hfirst⟩ := hspec
    refine ⟨hs, ⟨a.utf8Encode, b.utf8Encode, ?_, rfl⟩, ?_⟩
    · rw [hs, ← hb]; simp [List.utf8Encode_append, ByteArray.append_assoc]
    · intro pre' post' h'
      obtain ⟨a', b', hs', ha', _⟩ := utf8_occurrence cs cp hcp pre' post' h'
      have hle := hfirst a' b' hs'
      have hp1 : a <+: cs := ⟨rest, hs.symm⟩
      have hp2 : a' <+: cs := ⟨cp ++ b', by rw [hs']; simp⟩
      obtain ⟨x, hx⟩ := List.prefix_of_prefix_length_le hp1 hp2 hle
      rw [← ha', ← hx, List.utf8Encode_append]
      simp
  · intro h ⟨pre, post, hb⟩
    rw [h] at hspec
    obtain ⟨a, b, hs, _, _⟩ := utf8_occurrence cs cp hcp pre post hb
    exact hspec a b hs
end Ruma.Push
