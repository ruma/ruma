/-
  C12 — the hand-written scanner of `matches_word` (pattern without wildcards) finds exactly the
  occurrences of the pattern between word boundaries: `scanLit_correct`. The interesting part is the
  restart after a failed boundary (`skipTo_keeps`, `skipTo_spec`).
-/
import RumaModel.Lemmas.PushGlob
import RumaModel.Model.Glob
namespace Ruma.Push

def lastIsWord (l : Text) : Bool := match l.getLast? with | some c => isWordChar c | none => false
def headIsWord (l : Text) : Bool := match l.head? with | some c => isWordChar c | none => false
/-- Not both neighbours are word characters. -/
def bnd (l r : Text) : Bool := !(lastIsWord l && headIsWord r)

/-- `p` occurs in `s` between word boundaries. -/
def LitOcc (p s : Text) : Prop :=
  ∃ a b, s = a ++ p ++ b ∧ bnd a (p ++ b) = true ∧ bnd (a ++ p) b = true

@[simp] theorem lastIsWord_nil : lastIsWord [] = false := rfl
@[simp] theorem headIsWord_nil : headIsWord [] = false := rfl
@[simp] theorem headIsWord_cons (c : Char) (t : Text) : headIsWord (c :: t) = isWordChar c := rfl

theorem headIsWord_of_prefix {p rest : Text} (hp : p ≠ []) (h : p <+: rest) :
    headIsWord rest = headIsWord p := by
  obtain ⟨t, rfl⟩ := h
  cases p with
  | nil => exact absurd rfl hp
  | cons a t => rfl

theorem lastIsWord_append (l : Text) {r : Text} (h : r ≠ []) : lastIsWord (l ++ r) = lastIsWord r := by
  unfold lastIsWord
  rw [List.getLast?_append, Option.or_of_isSome (List.getLast?_isSome.2 h)]

theorem lastIsWord_append_of_false {l : Text} (h : lastIsWord l = false) (r : Text) :
    lastIsWord (l ++ r) = lastIsWord r := by
  cases r with
  | nil => simpa using h
  | cons c t => exact lastIsWord_append l (List.cons_ne_nil c t)

theorem lastIsWord_of_all {l : Text} (h : ∀ x ∈ l, isWordChar x = false) : lastIsWord l = false := by
  unfold lastIsWord
  cases hg : l.getLast? with
  | none => rfl
  | some c => exact h c (List.mem_of_getLast? hg)

theorem bnd_append_right (a : Text) {p : Text} (hp : p ≠ []) (b : Text) : bnd a (p ++ b) = bnd a p := by
  rw [bnd, bnd, headIsWord_of_prefix hp (List.prefix_append p b)]

theorem bnd_append_left (a : Text) {p : Text} (hp : p ≠ []) (b : Text) : bnd (a ++ p) b = bnd p b := by
  rw [bnd, bnd, lastIsWord_append a hp]

theorem LitOcc_self {p : Text} : LitOcc p p :=
  ⟨[], [], by simp, by simp [bnd], by simp [bnd]⟩

theorem findSub_spec (p s : Text) :
    match findSub p s with
    | none => ∀ a b, s ≠ a ++ p ++ b
    | some (pre, rest) =>
      s = pre ++ rest ∧ p <+: rest ∧ ∀ a b, s = a ++ p ++ b → pre.length ≤ a.length := by
  induction s with
  | nil => cases p <;> simp [findSub]
  | cons c t ih =>
    rw [findSub]
    by_cases hp : p.isPrefixOf (c :: t) = true
    · rw [if_pos hp]
      exact ⟨rfl, List.isPrefixOf_iff_prefix.1 hp, fun _ _ _ => Nat.zero_le _⟩
    · -- an occurrence in `c :: t` does not start at `c`, so it is one in `t`
      have hocc : ∀ a b, c :: t = a ++ p ++ b → ∃ a', a = c :: a' ∧ t = a' ++ p ++ b := by
        intro a b h
        cases a with
        | nil => exact absurd (List.isPrefixOf_iff_prefix.2 ⟨b, h.symm⟩) hp
        | cons x a' => exact ⟨a', by rw [(List.cons.inj h).1], (List.cons.inj h).2⟩
      rw [if_neg hp]
      cases hf : findSub p t with
      | none =>
        rw [hf] at ih
        intro a b h
        obtain ⟨a', _, h'⟩ := hocc a b h
        exact ih a' b h'
      | some ab =>
        rw [hf] at ih
        obtain ⟨h1, h2, h3⟩ := ih
        refine ⟨by rw [h1]; rfl, h2, fun a b h => ?_⟩
        obtain ⟨a', rfl, h'⟩ := hocc a b h
        exact Nat.succ_le_succ (h3 a' b h')

theorem suffix_dropWhile (f : Char → Bool) {c : Char} (hc : f c = false) {t l : Text} (h : c :: t <:+ l) :
    c :: t <:+ l.dropWhile f := by
  induction l with
  | nil => simp at h
  | cons x l ih =>
    rcases List.suffix_cons_iff.1 h with h | h
    · rw [← h, List.dropWhile_cons_of_neg (by simp [hc])]; exact List.suffix_refl _
    · by_cases hx : f x = true
      · rw [List.dropWhile_cons_of_pos hx]; exact ih h
      · rw [List.dropWhile_cons_of_neg hx]; exact h.trans (List.suffix_cons x l)

def nonWord (c : Char) : Bool := !isWordChar c

/-- Where "Find next word" lands. -/
def skipTo (rest : Text) : Text := (rest.dropWhile isWordChar).dropWhile nonWord

theorem skipTo_eq (rest : Text) : skipTo rest = (nextWord rest).getD [] := by
  unfold nextWord skipTo
  split
  · next h => rw [h]; rfl
  · next nw t h =>
    rw [h]
    change (nw :: t).dropWhile (fun c => !isWordChar c) = _
    split <;> simp [*]

theorem skipTo_spec (rest : Text) :
    ∃ X, rest = X ++ skipTo rest ∧ (skipTo rest ≠ [] → X ≠ [] ∧ lastIsWord X = false) := by
  refine ⟨rest.takeWhile isWordChar ++ (rest.dropWhile isWordChar).takeWhile nonWord, ?_, fun h => ?_⟩
  · rw [List.append_assoc, skipTo, List.takeWhile_append_dropWhile, List.takeWhile_append_dropWhile]
  · -- the run of non-word characters is not empty
    have hc := List.head?_dropWhile_not isWordChar rest
    cases hD : rest.dropWhile isWordChar with
    | nil => rw [skipTo, hD] at h; exact absurd rfl h
    | cons c D =>
      rw [hD] at hc
      have hne : (c :: D).takeWhile nonWord ≠ [] := by
        rw [List.takeWhile_cons_of_pos (by simpa [nonWord] using hc)]; exact List.cons_ne_nil _ _
      refine ⟨by simp [hne], ?_⟩
      rw [lastIsWord_append _ hne]
      exact lastIsWord_of_all fun x hx => by
        simpa [nonWord] using List.all_eq_true.1 List.all_takeWhile x hx

theorem occ_shift_nonWord {a p post b : Text} (ha : ∀ x ∈ a, isWordChar x = false)
    (hp : ¬ ∀ x ∈ p, isWordChar x = false) (h : p ++ post = a ++ (p ++ b)) : a = [] := by
  induction p generalizing a with
  | nil => simp at hp
  | cons x p ih =>
    cases a with
    | nil => rfl
    | cons y a =>
      obtain ⟨rfl, h⟩ := List.cons.inj h
      have hx := ha x List.mem_cons_self
      have := ih (a := a ++ [x])
        (by simpa [or_imp, forall_and, hx] using fun z hz => ha z (List.mem_cons_of_mem _ hz))
        (fun h => hp (by simpa [hx] using h)) (by simpa using h)
      simp at this

/-- If the occurrence of `p` at the head of `p ++ post` is not between word boundaries, every later
occurrence that is preceded by a boundary lies in what "Find next word" leaves. -/
theorem skipTo_keeps {p a b post : Text} (hp : p ≠ []) (hdec : p ++ post = a ++ (p ++ b)) (ha : a ≠ [])
    (hstart : bnd a p = true) {pre : Text} (hbad : (bnd pre p && bnd p post) = false) :
    p ++ b <:+ skipTo (p ++ post) := by
  obtain ⟨c0, p', rfl⟩ := List.exists_cons_of_ne_nil hp
  simp only [List.cons_append] at hdec ⊢
  cases hw : isWordChar c0
  · -- the pattern starts with a non-word character: no word character is dropped, and `a` has one
    rw [skipTo, List.dropWhile_cons_of_neg (by simp [hw]), hdec]
    by_cases hall : ∀ x ∈ a, isWordChar x = false
    · refine absurd (occ_shift_nonWord (p := c0 :: p') hall (fun h => ?_) hdec) ha
      simp [bnd, hw, lastIsWord_of_all h] at hbad
    · obtain ⟨y, hy, hyw⟩ : ∃ y ∈ a, isWordChar y = true := by simpa using hall
      obtain ⟨a1, a2, rfl⟩ := List.mem_iff_append.1 hy
      rw [List.append_assoc]
      exact (List.suffix_append a2 _).trans ((List.suffix_cons y _).trans
        (suffix_dropWhile nonWord (by simp [nonWord, hyw]) ⟨a1, rfl⟩))
  · -- the pattern starts with a word character: the character before the occurrence is not one
    rcases List.eq_nil_or_concat a with rfl | ⟨a', x, rfl⟩
    · exact absurd rfl ha
    have hx : isWordChar x = false := by simpa [bnd, lastIsWord, hw] using hstart
    rw [skipTo, hdec, List.concat_eq_append, List.append_assoc]
    exact suffix_dropWhile nonWord (by simp [nonWord, hw])
      ((List.suffix_cons x _).trans (suffix_dropWhile isWordChar hx ⟨a', rfl⟩))

theorem wordBoundaryStart_eq (pre : Text) {rest : Text} (h : rest ≠ []) :
    wordBoundaryStart pre rest = .ok (bnd pre rest) := by
  obtain ⟨c, t, rfl⟩ := List.exists_cons_of_ne_nil h
  change Except.ok (!isWordChar c || !lastIsWord pre) = .ok (!(lastIsWord pre && isWordChar c))
  cases isWordChar c <;> cases lastIsWord pre <;> rfl

theorem wordBoundaryEnd_eq {upto : Text} (h : upto ≠ []) (post : Text) :
    wordBoundaryEnd upto post = .ok (bnd upto post) := by
  unfold wordBoundaryEnd bnd lastIsWord
  cases post with
  | nil => simp
  | cons c t =>
    cases hg : upto.getLast? with
    | none => exact absurd (List.getLast?_eq_none_iff.1 hg) h
    | some cl => cases hcl : isWordChar cl <;> simp [hcl]

theorem LitOcc_restart {p pre post : Text} (hp : p ≠ [])
    (hfirst : ∀ a b, pre ++ (p ++ post) = a ++ p ++ b → pre.length ≤ a.length)
    (hbad : (bnd pre (p ++ post) && bnd (pre ++ p) post) = false) :
    LitOcc p (pre ++ (p ++ post)) ↔ LitOcc p (skipTo (p ++ post)) := by
  simp only [bnd_append_right _ hp, bnd_append_left _ hp] at hbad
  simp only [LitOcc, bnd_append_right _ hp, bnd_append_left _ hp]
  obtain ⟨X, hX, hXl⟩ := skipTo_spec (p ++ post)
  -- the start of an occurrence in what is left is preceded by a boundary there iff it is in the whole
  have key : ∀ a2 b, skipTo (p ++ post) = a2 ++ p ++ b → bnd (pre ++ (X ++ a2)) p = bnd a2 p := by
    intro a2 b h
    obtain ⟨hne, hl⟩ := hXl (by simp [h, hp])
    rw [bnd, bnd, ← List.append_assoc, lastIsWord_append_of_false (by rwa [lastIsWord_append _ hne])]
  constructor
  · rintro ⟨a, b, hab, hg1, hg2⟩
    -- the occurrence starts after the first one
    obtain ⟨a1, rfl⟩ : pre <+: a :=
      List.prefix_of_prefix_length_le ⟨_, rfl⟩ ⟨p ++ b, by rw [hab, List.append_assoc]⟩ (hfirst a b hab)
    rw [List.append_assoc, List.append_assoc, List.append_cancel_left_eq] at hab
    have ha1 : a1 ≠ [] := by
      rintro rfl
      cases List.append_cancel_left hab
      rw [List.append_nil] at hg1
      simp [hg1, hg2] at hbad
    obtain ⟨a2, ha2⟩ := skipTo_keeps hp hab ha1 (by rwa [bnd, lastIsWord_append _ ha1] at hg1) hbad
    obtain rfl : a1 = X ++ a2 :=
      List.append_cancel_right (by rw [← hab, List.append_assoc, ha2, ← hX])
    rw [← List.append_assoc] at ha2
    exact ⟨a2, b, ha2.symm, by rwa [← key a2 b ha2.symm], hg2⟩
  · rintro ⟨a2, b, hab, hg1, hg2⟩
    exact ⟨pre ++ (X ++ a2), b, by rw [hX, hab]; simp, by rwa [key a2 b hab], hg2⟩

theorem scanLit_correct (p : Text) (hp : p ≠ []) (s : Text) :
    ∃ r, scanLit p s = .ok r ∧ (r = true ↔ LitOcc p s) := by
  induction hlen : s.length using Nat.strongRecOn generalizing s with | _ n ih
  rw [scanLit]
  split
  · next hs => exact ⟨true, rfl, iff_of_true rfl (hs ▸ LitOcc_self)⟩
  have hspec := findSub_spec p s
  split
  · next hf =>
    rw [hf] at hspec
    exact ⟨false, rfl, iff_of_false Bool.false_ne_true fun ⟨a, b, h, _⟩ => hspec a b h⟩
  · next pre rest hf =>
    rw [hf] at hspec
    obtain ⟨rfl, ⟨post, rfl⟩, hfirst⟩ := hspec
    have hgood : (if bnd pre (p ++ post) then wordBoundaryEnd (pre ++ p) ((p ++ post).drop p.length)
        else .ok false) = .ok (bnd pre (p ++ post) && bnd (pre ++ p) post) := by
      rw [List.drop_left, wordBoundaryEnd_eq (by simp [hp])]
      cases bnd pre (p ++ post) <;> rfl
    simp only [wordBoundaryStart_eq pre (List.append_ne_nil_of_left_ne_nil hp post), hgood]
    cases hg : bnd pre (p ++ post) && bnd (pre ++ p) post
    · -- the first occurrence is not between word boundaries: find the next word
      simp only
      rw [LitOcc_restart hp hfirst hg, skipTo_eq]
      split
      · next hn =>
        rw [hn]
        exact ⟨false, rfl, iff_of_false Bool.false_ne_true fun ⟨a, b, h, _⟩ => by simp [hp] at h⟩
      · next next hn =>
        rw [hn]
        have := findSub_length hf
        have := nextWord_length hn
        exact ih next.length (by omega) next rfl
    · rw [Bool.and_eq_true] at hg
      exact ⟨true, rfl, iff_of_true rfl ⟨pre, post, (List.append_assoc ..).symm, hg.1, hg.2⟩⟩

open Ruma.Spec.Glob (Glob WordMatch LiteralWordMatch boundary)

theorem isWordChar_eq : @isWordChar = @Ruma.Spec.Glob.isWordChar := rfl

theorem boundary_iff_bnd (l r : Text) : boundary (l ++ r) l.length ↔ bnd l r = true := by
  have hr : Ruma.Spec.Glob.wordAt (l ++ r) l.length = headIsWord r := by
    cases r <;> simp [Ruma.Spec.Glob.wordAt, isWordChar_eq]
  rcases List.eq_nil_or_concat l with rfl | ⟨l', x, rfl⟩
  · simp [boundary, bnd]
  · have hl : Ruma.Spec.Glob.wordAt (l'.concat x ++ r) ((l'.concat x).length - 1) = lastIsWord (l'.concat x) := by
      simp [Ruma.Spec.Glob.wordAt, lastIsWord, isWordChar_eq]
    rw [boundary, hl, hr, bnd]
    cases r with
    | nil => simp
    | cons y r => cases lastIsWord (l'.concat x) <;> cases headIsWord (y :: r) <;> simp

theorem take_append_slice (s : Text) {i j : Nat} (hij : i ≤ j) :
    s.take i ++ Ruma.Spec.Glob.slice s i j = s.take j := by
  rw [Ruma.Spec.Glob.slice, ← List.take_add, Nat.add_sub_cancel' hij]

theorem slice_mid (a p b : Text) : Ruma.Spec.Glob.slice (a ++ p ++ b) a.length (a ++ p).length = p := by
  simp [Ruma.Spec.Glob.slice]

/-- For a non-empty text, occurring literally between word boundaries is `LitOcc`, whatever
characters the text contains. -/
theorem LiteralWordMatch_LitOcc {p : Text} (hp : p ≠ []) (s : Text) : LiteralWordMatch p s ↔ LitOcc p s := by
  simp only [LiteralWordMatch, hp, false_and, false_or, ne_eq, not_false_eq_true, true_and, LitOcc]
  constructor
  · rintro ⟨i, j, hij, hj, rfl, hbi, hbj⟩
    have hdec : s = s.take i ++ Ruma.Spec.Glob.slice s i j ++ s.drop j := by
      rw [take_append_slice s hij, List.take_append_drop]
    refine ⟨s.take i, s.drop j, hdec, (boundary_iff_bnd _ _).1 ?_, (boundary_iff_bnd _ _).1 ?_⟩
    · rwa [← List.append_assoc, ← hdec, List.length_take_of_le (Nat.le_trans hij hj)]
    · rwa [← hdec, take_append_slice s hij, List.length_take_of_le hj]
  · rintro ⟨a, b, rfl, h1, h2⟩
    refine ⟨a.length, (a ++ p).length, by simp, by simp, slice_mid a p b, ?_, (boundary_iff_bnd _ _).2 h2⟩
    rw [List.append_assoc]; exact (boundary_iff_bnd _ _).2 h1

theorem WordMatch_literal {p : Text} (hp : p ≠ []) (hlit : ∀ c ∈ p, c ≠ '*' ∧ c ≠ '?') (s : Text) :
    WordMatch p s ↔ LitOcc p s :=
  (Ruma.Spec.Glob.LiteralWordMatch_iff_WordMatch hlit s).symm.trans (LiteralWordMatch_LitOcc hp s)

/-- `matches_word_impl` with `has_wildcards = false` never panics and decides the literal
occurrence of `p` between word boundaries, for EVERY `p` (its `*` and `?` are ordinary characters). -/
theorem matchesWordImpl_literal (E : Ext) (p s : Text) :
    ∃ b, matchesWordImpl E false p s = .ok b ∧ (b = true ↔ LiteralWordMatch p s) := by
  unfold matchesWordImpl
  by_cases hp : p = []
  · subst hp
    by_cases hs : s = [] <;> simp [hs, LiteralWordMatch]
  · rw [LiteralWordMatch_LitOcc hp]
    by_cases hs : s = p
    · exact ⟨true, by simp [hs], iff_of_true rfl (hs ▸ LitOcc_self)⟩
    · simpa [hs, hp] using scanLit_correct p hp s

theorem not_isWild_of_any {p : Text} (h : p.any isWild = false) : ∀ c ∈ p, c ≠ '*' ∧ c ≠ '?' := by
  simpa [isWild, and_comm] using h

/-- `matches_word` on a pattern without wildcards decides the spec's word matching and never panics. -/
theorem matchesWord_literal (E : Ext) (p s : Text) (hlit : p.any isWild = false) :
    ∃ b, matchesWord E p s = .ok b ∧ (b = true ↔ WordMatch p s) := by
  rw [matchesWord, hlit, ← Ruma.Spec.Glob.LiteralWordMatch_iff_WordMatch (not_isWild_of_any hlit)]
  exact matchesWordImpl_literal E p s

end Ruma.Push
