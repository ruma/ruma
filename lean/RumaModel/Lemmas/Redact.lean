/-
  Helper lemmas for C04 (redaction). Two facts carry the proofs: for every event type but
  `m.room.member` the content rules filter a content by its keys (`retained_byKey`), and the rules the
  spec implies have a closed form in the version number (`rulesOf_eq`), so that the model's and the
  spec's tables are compared with the event type and the key as variables.
-/
import RumaModel.Model.Redact
import RumaModel.Spec.RedactionRules
import RumaModel.Lemmas.Json
namespace Ruma.Redact
open Ruma Ruma.Spec.Redaction

theorem keys_filter {α} (o : List (Str × α)) (p : Str → Bool) :
    Obj.keys (o.filter (fun e => p e.1)) = (Obj.keys o).filter p :=
  List.filter_map.symm

theorem keys_filter_mem {α} (o : List (Str × α)) (p : Str → Bool) (k : Str) :
    k ∈ Obj.keys (o.filter (fun e => p e.1)) ↔ k ∈ Obj.keys o ∧ p k = true := by
  rw [keys_filter, List.mem_filter]

theorem keys_map_of_fst {α} (l : List (Str × α)) (f : Str × α → Str × α) (hf : ∀ p, (f p).1 = p.1) :
    Obj.keys (l.map f) = Obj.keys l := by
  unfold Obj.keys
  rw [List.map_map]
  exact List.map_congr_left (fun p _ => hf p)

theorem keys_setVal (o : Obj) (k : Str) (v : JVal) : Obj.keys (setVal o k v) = Obj.keys o :=
  keys_map_of_fst o _ fun p => by split <;> rfl

theorem get_setVal (o : Obj) (k k' : Str) (v : JVal) :
    Obj.get (setVal o k v) k' = if k' = k then (Obj.get o k').map fun _ => v else Obj.get o k' := by
  induction o with
  | nil => simp [setVal, Obj.get]
  | cons e t ih =>
    simp only [setVal, List.map_cons] at ih ⊢
    by_cases hk : e.1 = k <;> by_cases hk' : e.1 = k' <;> simp_all [Obj.get]

theorem get_setVal_ne (o : Obj) (k k' : Str) (v : JVal) (h : k' ≠ k) :
    Obj.get (setVal o k v) k' = Obj.get o k' := by
  rw [get_setVal, if_neg h]

theorem get_setVal_eq (o : Obj) (k : Str) (v : JVal) {x : JVal} (h : Obj.get o k = some x) :
    Obj.get (setVal o k v) k = some v := by
  rw [get_setVal, if_pos rfl, h]
  rfl

theorem setVal_setVal (o : Obj) (k : Str) (v : JVal) : setVal (setVal o k v) k v = setVal o k v := by
  simp only [setVal, List.map_map]
  apply List.map_congr_left
  intro e _
  simp only [Function.comp]
  split <;> simp_all

theorem setVal_filter (o : Obj) (p : Str → Bool) (k : Str) (v : JVal) :
    setVal (o.filter (fun e => p e.1)) k v = (setVal o k v).filter (fun e => p e.1) := by
  rw [setVal, setVal, List.filter_map]
  congr 1
  apply List.filter_congr
  intro e _
  simp only [Function.comp]
  split <;> rfl

theorem get_filter {α} (o : List (Str × α)) (p : Str → Bool) (k : Str) :
    Obj.get (o.filter (fun e => p e.1)) k = if p k then Obj.get o k else none := by
  induction o with
  | nil => simp [Obj.get]
  | cons e t ih =>
    by_cases ha : p e.1 = true <;> by_cases hk : e.1 = k <;> simp_all [Obj.get]

theorem filter_filter_same {α} (o : List α) (p : α → Bool) : (o.filter p).filter p = o.filter p := by
  simp [List.filter_filter]

theorem get_mem_keys {α} (o : List (Str × α)) (k : Str) : Obj.get o k ≠ none ↔ k ∈ Obj.keys o := by
  induction o with
  | nil => simp [Obj.get, Obj.keys]
  | cons e t ih =>
    by_cases hk : e.1 = k
    · simp [Obj.get, Obj.keys, hk]
    · simpa [Obj.get, Obj.keys, hk, Ne.symm hk] using ih

theorem applySome_byKey (p : Str → Bool) (o : Obj) :
    applySome (byKey p) o = .ok (o.filter (fun e => p e.1)) := by
  induction o with
  | nil => rfl
  | cons e t ih =>
    obtain ⟨a, b⟩ := e
    by_cases h : p a = true <;> simp [applySome, byKey, h, ih]

theorem applySome_cons_ok {f : RetainFn} {p : Str × JVal} {t c' : Obj}
    (h : applySome f (p :: t) = .ok c') :
    (f p.1 p.2 = .ok none ∧ applySome f t = .ok c') ∨
      ∃ v' t', f p.1 p.2 = .ok (some v') ∧ applySome f t = .ok t' ∧ c' = (p.1, v') :: t' := by
  simp only [applySome] at h
  split at h
  · cases h
  · exact .inl ⟨‹_›, h⟩
  · split at h
    · cases h
    · cases h; exact .inr ⟨_, _, ‹_›, ‹_›, rfl⟩

theorem applySome_ok (f : RetainFn) (c c' : Obj) (h : applySome f c = .ok c') :
    c' = c.filterMap (fun e => match f e.1 e.2 with
      | .ok (.some v') => some (e.1, v')
      | _ => none) := by
  induction c generalizing c' with
  | nil => cases h; rfl
  | cons e t ih =>
    rcases applySome_cons_ok h with ⟨hf, ht⟩ | ⟨v', t', hf, ht, rfl⟩
    · simp only [List.filterMap_cons, hf]; exact ih c' ht
    · simp only [List.filterMap_cons, hf]; rw [← ih t' ht]

theorem applySome_mem (f : RetainFn) (c c' : Obj) (h : applySome f c = .ok c') (e : Str × JVal)
    (he : e ∈ c') : ∃ v0, (e.1, v0) ∈ c ∧ f e.1 v0 = .ok (.some e.2) := by
  rw [applySome_ok f c c' h] at he
  simp only [List.mem_filterMap] at he
  obtain ⟨⟨k, v0⟩, hmem, hm⟩ := he
  split at hm
  · rename_i v' hf
    cases hm
    exact ⟨v0, hmem, hf⟩
  · cases hm

theorem applySome_ok_all (f : RetainFn) (c c' : Obj) (h : applySome f c = .ok c') :
    ∀ p ∈ c, ∃ x, f p.1 p.2 = .ok x := by
  induction c generalizing c' with
  | nil => nofun
  | cons q t ih =>
    simp only [List.forall_mem_cons]
    rcases applySome_cons_ok h with ⟨hf, ht⟩ | ⟨v', t', hf, ht, _⟩
    · exact ⟨⟨_, hf⟩, ih _ ht⟩
    · exact ⟨⟨_, hf⟩, ih _ ht⟩

theorem applySome_error (f : RetainFn) (c : Obj) (e : Err) (h : applySome f c = .error e) :
    ∃ p ∈ c, f p.1 p.2 = .error e := by
  induction c with
  | nil => cases h
  | cons p t ih =>
    simp only [applySome] at h
    split at h
    · rename_i hf; cases h; exact ⟨p, List.mem_cons_self, hf⟩
    · obtain ⟨q, hq, hfq⟩ := ih h
      exact ⟨q, List.mem_cons_of_mem _ hq, hfq⟩
    · split at h
      · rename_i ht; cases h
        obtain ⟨q, hq, hfq⟩ := ih ht
        exact ⟨q, List.mem_cons_of_mem _ hq, hfq⟩
      · cases h

/-- A retain function is *stable* when what it keeps it keeps unchanged on a second pass. -/
def Stable (f : RetainFn) : Prop := ∀ k v v', f k v = .ok (.some v') → f k v' = .ok (.some v')

theorem applySome_idem (f : RetainFn) (hf : Stable f) (c c' : Obj) (h : applySome f c = .ok c') :
    applySome f c' = .ok c' := by
  induction c generalizing c' with
  | nil => cases h; rfl
  | cons p t ih =>
    rcases applySome_cons_ok h with ⟨_, ht⟩ | ⟨v', t', hfp, ht, rfl⟩
    · exact ih c' ht
    · simp only [applySome, hf _ _ _ hfp, ih _ ht]

theorem memberKey_stable (r : Rules) : Stable (memberKey r) := by
  intro k v v' h
  unfold memberKey at h ⊢
  by_cases h1 : k = bs "membership"
  · rw [if_pos h1]
  rw [if_neg h1] at h ⊢
  by_cases h2 : k = bs "join_authorised_via_users_server"
  · rw [if_pos h2] at h ⊢
    by_cases hr : r.keepMemberAuthorised = true
    · rw [if_pos hr]
    · rw [if_neg hr] at h; cases h
  rw [if_neg h2] at h ⊢
  by_cases h3 : k = bs "third_party_invite" ∧ r.keepMemberTpiSigned = true
  · rw [if_pos h3] at h ⊢
    cases v with
    | obj tpi =>
      simp only at h
      split at h <;> cases h
      -- filtering the kept `signed` entries again changes nothing, so they are still non-empty
      simp only [List.filter_filter, Bool.and_self, if_neg ‹_›]
    | _ => cases h
  · rw [if_neg h3] at h; cases h

theorem retainedContentKeys_member (r : Rules) :
    retainedContentKeys (bs "m.room.member") r = .some (memberKey r) := if_pos rfl

/-- The selections that keep or drop each entry of a content by its key alone. -/
inductive Retained.ByKey : Retained → Prop
  | all : ByKey .all
  | none : ByKey .none
  | some (p : Str → Bool) : ByKey (.some (byKey p))

theorem Retained.ByKey.apply_eq {R : Retained} (h : R.ByKey) :
    ∃ p : Str → Bool, ∀ c, R.apply c = .ok (c.filter (fun e => p e.1)) := by
  cases h with
  | all => exact ⟨fun _ => true, fun c => by rw [List.filter_eq_self.mpr fun _ _ => rfl]; rfl⟩
  | none =>
    exact ⟨fun _ => false, fun c => by rw [List.filter_eq_nil_iff.mpr fun _ _ => Bool.false_ne_true]; rfl⟩
  | some p => exact ⟨p, applySome_byKey p⟩

theorem Retained.ByKey.ite {c : Prop} [Decidable c] {a b : Retained} (ha : a.ByKey) (hb : b.ByKey) :
    (if c then a else b).ByKey := by
  split <;> assumption

theorem retained_byKey (ty : Str) (r : Rules) (hm : ty ≠ bs "m.room.member") :
    (retainedContentKeys ty r).ByKey := by
  unfold retainedContentKeys
  rw [if_neg hm]
  repeat' apply Retained.ByKey.ite
  all_goals constructor

theorem retained_some_ind (P : RetainFn → Prop) (ty : Str) (r : Rules) (hm : P (memberKey r))
    (hb : ∀ p, P (byKey p)) (f : RetainFn) (h : retainedContentKeys ty r = .some f) : P f := by
  by_cases hty : ty = bs "m.room.member"
  · rw [hty, retainedContentKeys_member] at h
    cases h
    exact hm
  · have hk := retained_byKey ty r hty
    rw [h] at hk
    cases hk
    exact hb _

theorem retained_idem (ty : Str) (r : Rules) (c c' : Obj)
    (h : (retainedContentKeys ty r).apply c = .ok c') :
    (retainedContentKeys ty r).apply c' = .ok c' := by
  by_cases hm : ty = bs "m.room.member"
  · rw [hm, retainedContentKeys_member] at h ⊢
    exact applySome_idem _ (memberKey_stable r) c c' h
  · obtain ⟨p, hp⟩ := (retained_byKey ty r hm).apply_eq
    rw [hp] at h ⊢
    cases h
    rw [filter_filter_same]

theorem isEventKeyRetained_of_mem (r : Rules) {k : Str} (h : k ∈ topAlwaysKeys) :
    isEventKeyRetained r k = true := by
  rw [isEventKeyRetained, if_pos (List.contains_iff_mem.mpr h)]

theorem type_content_always : bs "type" ∈ topAlwaysKeys ∧ bs "content" ∈ topAlwaysKeys := by
  unfold topAlwaysKeys
  simp only [List.mem_cons, true_or, or_true, and_self]

theorem get_filter_retained (r : Rules) (o : Obj) {k : Str} (h : k ∈ topAlwaysKeys) :
    Obj.get (o.filter (fun e => isEventKeyRetained r e.1)) k = Obj.get o k := by
  rw [get_filter, isEventKeyRetained_of_mem r h, if_pos rfl]

/-- The rules the spec implies, in closed form. Each field asks the spec tables about literal type
and key names; `bs` is injective, so the comparisons of names become comparisons of string
literals, which `simp` decides, and one comparison of `v` is left per field. -/
theorem rulesOf_eq (v : Nat) : rulesOf v =
    { keepAliases := decide (v ≤ 5), keepJoinRulesAllow := decide (8 ≤ v),
      keepMemberAuthorised := decide (9 ≤ v), keepOriginMembershipPrevState := decide (v ≤ 10),
      keepCreateContent := decide (11 ≤ v), keepRedactionRedacts := decide (11 ≤ v),
      keepPowerLevelsInvite := decide (11 ≤ v), keepMemberTpiSigned := decide (11 ≤ v) } := by
  simp [rulesOf, contentKept, topKept, topAlways, topLegacy, bs_inj]

theorem redactedContent_filter (v : Nat) (ty : Str) (c : Obj) (h : ty ≠ bs "m.room.member") :
    redactedContent v ty c = c.filter (fun e => contentKept v ty e.1) := by
  unfold redactedContent
  rw [← List.filterMap_eq_filter]
  congr 1
  funext e
  simp only [contentEntry, h, false_and, if_false]
  cases hk : contentKept v ty e.1 <;> simp [Option.guard, hk]

theorem ite_true_ite (a b : Prop) [Decidable a] [Decidable b] (x : Bool) :
    (if a then true else if b then x else false) = (decide a || x && decide b) := by
  by_cases a <;> by_cases b <;> simp [*]

/-- The model and the spec table test the event types in the same order, so the two are compared branch
by branch with `ty` a variable; no type name is ever compared with another. -/
theorem retained_apply_spec (v : Nat) (ty : Str) (hm : ty ≠ bs "m.room.member") (c : Obj) :
    (retainedContentKeys ty (rulesOf v)).apply c = .ok (c.filter (fun e => contentKept v ty e.1)) := by
  simp only [retainedContentKeys, contentKept, if_neg hm, rulesOf_eq]
  by_cases h2 : ty = bs "m.room.create"
  · simp only [if_pos h2]
    cases decide (11 ≤ v)
    · simp [Retained.apply, applySome_byKey]
    · exact congrArg _ (List.filter_eq_self.mpr fun _ _ => rfl).symm
  simp only [if_neg h2]
  by_cases h3 : ty = bs "m.room.join_rules"
  · simp only [if_pos h3, Retained.apply, applySome_byKey, joinRulesKey, ite_true_ite]
  simp only [if_neg h3]
  by_cases h4 : ty = bs "m.room.power_levels"
  · simp only [if_pos h4, Retained.apply, applySome_byKey, powerLevelsKey, powerLevelsAlwaysKeys,
      ite_true_ite, Bool.decide_eq_true]
  simp only [if_neg h4]
  by_cases h5 : ty = bs "m.room.history_visibility"
  · simp only [if_pos h5, Retained.apply, applySome_byKey]
  simp only [if_neg h5]
  by_cases h6 : ty = bs "m.room.redaction"
  · simp only [if_pos h6]
    cases decide (11 ≤ v) <;> simp [Retained.apply, applySome_byKey]
  simp only [if_neg h6]
  by_cases h7 : ty = bs "m.room.aliases"
  · simp only [if_pos h7]
    cases decide (v ≤ 5) <;> simp [Retained.apply, applySome_byKey]
  simp [if_neg h7, Retained.apply]

theorem tpi_ne : bs "third_party_invite" ≠ bs "membership" ∧
    bs "third_party_invite" ≠ bs "join_authorised_via_users_server" := by
  simp [bs_inj]

theorem member_entry (v : Nat) (k : Str) (val : JVal) :
    (match memberKey (rulesOf v) k val with
      | .ok (.some v') => some (k, v')
      | _ => none) = (contentEntry v (bs "m.room.member") k val).map (fun v' => (k, v')) := by
  simp only [memberKey, contentEntry, contentKept, rulesOf_eq, if_pos, true_and, tpiKept]
  -- the tests on `k` are settled from hypotheses about the variable `k`, never by evaluation
  by_cases h3 : k = bs "third_party_invite"
  · have h1 : k ≠ bs "membership" := fun h => tpi_ne.1 (h3.symm.trans h)
    have h2 : k ≠ bs "join_authorised_via_users_server" := fun h => tpi_ne.2 (h3.symm.trans h)
    simp only [eq_false h1, eq_false h2, eq_true h3, if_false, true_and, decide_false, Bool.false_or,
      Bool.and_false]
    cases decide (11 ≤ v)
    · simp
    · cases val
      case obj t =>
        by_cases hE : (t.filter fun p => decide (p.1 = bs "signed")).isEmpty = true <;> simp [hE]
      all_goals simp
  · simp only [eq_false h3, false_and, if_false, decide_false, Bool.and_false, Bool.or_false]
    by_cases h1 : k = bs "membership"
    · simp [eq_true h1]
    · by_cases h2 : k = bs "join_authorised_via_users_server"
      · simp only [eq_false h1, eq_true h2, if_false, if_true, decide_false, decide_true,
          Bool.false_or, Bool.and_true]
        cases decide (9 ≤ v) <;> simp
      · simp [eq_false h1, eq_false h2]

end Ruma.Redact
