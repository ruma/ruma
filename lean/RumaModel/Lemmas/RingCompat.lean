import RumaModel.Model.RingCompat
namespace Ruma.RingCompat

theorem findSub_bound (pat s : List Nat) (i : Nat) (h : findSub pat s = some i) :
    i + pat.length ≤ s.length := by
  induction s generalizing i with
  | nil =>
    rw [findSub] at h
    split at h
    · cases h
      simp_all [List.isEmpty_iff]
    · cases h
  | cons b t ih =>
    rw [findSub] at h
    split at h
    · next hp =>
      cases h
      simpa using (List.isPrefixOf_iff_prefix.mp hp).length_le
    · obtain ⟨j, hj, rfl⟩ := Option.map_eq_some_iff.1 h
      have := ih j hj
      rw [List.length_cons]
      omega

/-- The template does not start with the `0x30` of the outer sequence, so it is found behind it. -/
theorem findSub_template_pos {rest : List Nat} {i : Nat} (h : findSub template (0x30 :: rest) = some i) :
    1 ≤ i := by
  rw [findSub, if_neg (by simp [template])] at h
  obtain ⟨j, _, rfl⟩ := Option.map_eq_some_iff.1 h
  exact Nat.le_add_left 1 j

theorem fixRingDoc_ok (t : List Nat) (idx : Nat) (hbyte : t.length < 256)
    (hidx : findSub template (48 :: t.length :: t) = some idx) :
    ∃ d, fixRingDoc (48 :: t.length :: t) = .ok d := by
  have hb := findSub_bound _ _ _ hidx
  have h1i := findSub_template_pos hidx
  simp only [template, List.length_cons, List.length_nil] at hb
  have hdrop : ¬ (List.drop idx (48 :: t.length :: t)).length < 4 := by
    simp only [List.length_drop, List.length_cons]; omega
  have hlen : (List.take idx (48 :: t.length :: t) ++ wellFormedPrefix
      ++ List.drop 4 (List.drop idx (48 :: t.length :: t))).length = t.length := by
    simp only [List.length_append, List.length_take, List.length_drop, List.length_cons,
      wellFormedPrefix, List.length_nil]
    omega
  have h2 : ¬ t.length < 2 := by omega
  have h3 : ¬ t.length % 256 < 2 := by omega
  have h4 : t.length + 1 + 1 - 2 = t.length := by omega
  unfold fixRingDoc
  simp only [ne_eq, not_true_eq_false, if_false, List.length_cons, h4, hidx,
    hdrop, hlen, h2, h3]
  exact ⟨_, rfl⟩

end Ruma.RingCompat
