/-
  Helper lemmas for C13, part 1: lists. The indexmap-style operations of the model
  (`get_index_of`, `replace_full`, `move_index`, `shift_remove`) against the index-free placement
  functions of `Spec/RulesetPlacement.lean`. Both sides put the rule at index `slot …` among the
  other rules (`place_eq_slot`, `insertAndMoveRule_eq_slot`); hence `step_eq_spec`: one step of the
  model = one step of the specification when ids are unique.
-/
import RumaModel.Model.Ruleset
import RumaModel.Lemmas.Json
namespace Ruma.Ruleset
open Ruma.Spec.RulesetPlacement

def ids (l : List Rule) : List Str := l.map (·.id)

/-- `IndexSet` invariant: rule ids are unique. -/
def UniqueIds (l : List Rule) : Prop := (ids l).Nodup

theorem getIndexOf_eq_position (l : List Rule) (id : Str) : getIndexOf l id = position l id := by
  induction l with
  | nil => rfl
  | cons r t ih => simp [getIndexOf, position, ih]

theorem getRule_eq_lookup (l : List Rule) (id : Str) : getRule l id = lookup l id := by
  induction l with
  | nil => rfl
  | cons r t ih => simp [getRule, lookup, ih]

theorem startsWithDot_eq (s : Str) : startsWithDot s = isServerDefaultId s := by
  unfold startsWithDot isServerDefaultId; rfl

theorem defaultPositionOf_eq (k : Kind) : defaultPositionOf k = defaultPosition k := by
  cases k <;> rfl

theorem position_eq_idxOf (l : List Rule) (id : Str) : position l id = (ids l).idxOf? id := by
  induction l with
  | nil => rfl
  | cons r t ih => simp [position, ids, List.idxOf?_cons, ih]

theorem lookup_eq_find (l : List Rule) (id : Str) : lookup l id = l.find? (·.id == id) := by
  induction l with
  | nil => rfl
  | cons r t ih => by_cases h : r.id = id <;> simp [lookup, ih, h]

theorem position_none_iff {l : List Rule} {id : Str} : position l id = none ↔ id ∉ ids l := by
  rw [position_eq_idxOf]; exact List.idxOf?_eq_none_iff

theorem position_lt {l : List Rule} {id : Str} {i : Nat} (h : position l id = some i) :
    i < l.length := by
  rw [position_eq_idxOf] at h
  simpa [ids] using (List.idxOf?_eq_some_iff.mp h).1

theorem lookup_eq_none {l : List Rule} {id : Str} : lookup l id = none ↔ position l id = none := by
  rw [position_none_iff, lookup_eq_find]; simp [ids]

theorem lookup_id {l : List Rule} {id : Str} {r : Rule} (h : lookup l id = some r) : r.id = id := by
  rw [lookup_eq_find] at h; simpa using List.find?_some h

theorem lookup_mem {l : List Rule} {id : Str} {r : Rule} (h : lookup l id = some r) : r ∈ l := by
  rw [lookup_eq_find] at h; exact List.mem_of_find?_eq_some h

theorem lookup_some_position {l : List Rule} {id : Str} {r : Rule} (h : lookup l id = some r) :
    ∃ c, position l id = some c :=
  Option.ne_none_iff_exists'.mp fun hp => by rw [lookup_eq_none.mpr hp] at h; cases h

theorem uniqueIds_cons {r : Rule} {t : List Rule} :
    UniqueIds (r :: t) ↔ r.id ∉ ids t ∧ UniqueIds t := by
  simp [UniqueIds, ids]

theorem others_cons (r : Rule) (t : List Rule) (id : Str) :
    others (r :: t) id = if r.id = id then others t id else r :: others t id := by
  unfold others
  by_cases h : r.id = id <;> simp [h]

theorem others_of_position_none {l : List Rule} {id : Str} (h : position l id = none) :
    others l id = l := by
  rw [position_none_iff] at h
  exact List.filter_eq_self.mpr fun r hr => by
    simpa using fun e : r.id = id => h (e ▸ List.mem_map_of_mem hr)

theorem others_eq_eraseIdx {l : List Rule} {id : Str} {c : Nat} (hu : UniqueIds l)
    (h : position l id = some c) : others l id = l.eraseIdx c := by
  induction l generalizing c with
  | nil => simp [position] at h
  | cons r t ih =>
    rw [uniqueIds_cons] at hu
    simp only [position] at h
    by_cases hr : r.id = id
    · simp only [hr, if_true, Option.some.injEq] at h
      subst h
      have : position t id = none := position_none_iff.mpr (hr ▸ hu.1)
      simp [others_cons, hr, others_of_position_none this]
    · simp only [hr, if_false, Option.map_eq_some_iff] at h
      obtain ⟨j, hj, rfl⟩ := h
      simp [others_cons, hr, ih hu.2 hj]

theorem position_others_self (l : List Rule) (id : Str) : position (others l id) id = none := by
  rw [position_none_iff]
  simp [ids, others]

theorem position_eq_some_iff {l : List Rule} {a : Str} {i : Nat} (hu : UniqueIds l) :
    position l a = some i ↔ (l[i]?).map (·.id) = some a := by
  rw [position_eq_idxOf, List.idxOf?_eq_some_iff, ← List.getElem?_map]
  constructor
  · rintro ⟨h, e, _⟩
    exact (List.getElem?_eq_getElem h).trans (congrArg some e)
  · intro h
    obtain ⟨hi, e⟩ := List.getElem?_eq_some_iff.mp h
    exact ⟨hi, e, fun j hj ej => by have := (List.getElem_inj hu).mp (ej.trans e.symm); omega⟩

theorem position_eraseIdx {l : List Rule} {a : Str} {c i : Nat} (hu : UniqueIds l)
    (h : position l a = some i) (hic : i ≠ c) :
    position (l.eraseIdx c) a = some (if i > c then i - 1 else i) := by
  rw [position_eq_some_iff hu] at h
  rw [position_eq_some_iff (hu.sublist ((List.eraseIdx_sublist l c).map _)), List.getElem?_eraseIdx]
  by_cases hgt : i > c
  · rwa [if_pos hgt, if_neg (by omega), show i - 1 + 1 = i by omega]
  · rwa [if_neg hgt, if_pos (by omega)]

theorem position_inj {l : List Rule} {a b : Str} {i : Nat} (ha : position l a = some i)
    (hb : position l b = some i) : a = b := by
  rw [position_eq_idxOf] at ha hb
  exact (List.idxOf?_eq_some_iff.mp ha).2.1.symm.trans (List.idxOf?_eq_some_iff.mp hb).2.1

theorem positionOf_eq {l : List Rule} {id a : Str} (hu : UniqueIds l) :
    positionOf l (getIndexOf l id) a =
      match position (others l id) a with
      | some i => .ok i
      | none => .error .unknownRuleId := by
  rw [getIndexOf_eq_position]
  unfold positionOf
  rw [getIndexOf_eq_position]
  cases hc : position l id with
  | none =>
    rw [others_of_position_none hc]
    cases position l a <;> rfl
  | some c =>
    by_cases ha : a = id
    · subst ha
      simp [hc, position_others_self]
    · cases hp : position l a with
      | none =>
        have : position (others l id) a = none := position_none_iff.mpr fun h =>
          position_none_iff.mp hp ((List.filter_sublist.map _).subset h)
        rw [this]
      | some i =>
        have hic : i ≠ c := fun e => ha (position_inj hp (e ▸ hc))
        rw [others_eq_eraseIdx hu hc, position_eraseIdx hu hp hic]
        simp only [hic, if_false]
        split <;> rfl

theorem length_others {l : List Rule} {id : Str} (hu : UniqueIds l) :
    (others l id).length = l.length - (if (getIndexOf l id).isSome then 1 else 0) := by
  rw [getIndexOf_eq_position]
  cases hc : position l id with
  | none => simp [others_of_position_none hc]
  | some c =>
    have := position_lt hc
    simp [others_eq_eraseIdx hu hc, List.length_eraseIdx, this]

theorem moveIndex_replaceFull {l : List Rule} {r : Rule} {to : Nat} (hu : UniqueIds l)
    (hto : to ≤ (others l r.id).length) :
    moveIndex (replaceFull l r).1 (replaceFull l r).2.1 to
      = some ((others l r.id).insertIdx to r) := by
  unfold replaceFull
  rw [getIndexOf_eq_position]
  cases hc : position l r.id with
  | none =>
    rw [others_of_position_none hc] at hto ⊢
    simp only [moveIndex]
    have h1 : l.length < (l ++ [r]).length ∧ to < (l ++ [r]).length := by simp; omega
    rw [dif_pos h1]
    simp [List.eraseIdx_append_of_length_le]
  | some c =>
    have hlt := position_lt hc
    rw [others_eq_eraseIdx hu hc] at hto ⊢
    simp only [moveIndex]
    have h1 : c < (l.set c r).length ∧ to < (l.set c r).length := by
      simp [List.length_eraseIdx, hlt] at hto ⊢; omega
    rw [dif_pos h1]
    simp [List.eraseIdx_set_eq]

theorem putAfter_eq (a : Str) (r : Rule) (l : List Rule) :
    putAfter a r l = (position l a).map (fun i => l.insertIdx (i + 1) r) := by
  induction l with
  | nil => rfl
  | cons x t ih =>
    simp only [putAfter, position]
    by_cases h : x.id = a
    · simp [h]
    · simp only [h, if_false, ih, Option.map_map]
      cases position t a <;> simp

theorem putBefore_eq (b : Str) (r : Rule) (l : List Rule) :
    putBefore b r l = (position l b).map (fun i => l.insertIdx i r) := by
  induction l with
  | nil => rfl
  | cons x t ih =>
    simp only [putBefore, position]
    by_cases h : x.id = b
    · simp [h]
    · simp only [h, if_false, ih, Option.map_map]
      cases position t b <;> simp

theorem putAt_eq (n : Nat) (r : Rule) (l : List Rule) :
    putAt n r l = l.insertIdx (min n l.length) r := by
  unfold putAt
  induction l generalizing n with
  | nil => simp
  | cons x t ih =>
    cases n with
    | zero => simp
    | succ n =>
      have : min (n + 1) (t.length + 1) = min n t.length + 1 := by omega
      simp [this, ih]

theorem set_eq_replaceInPlace {l : List Rule} {r : Rule} {c : Nat} (hu : UniqueIds l)
    (hc : position l r.id = some c) : l.set c r = replaceInPlace r l := by
  unfold replaceInPlace
  induction l generalizing c with
  | nil => simp [position] at hc
  | cons x t ih =>
    rw [uniqueIds_cons] at hu
    simp only [position] at hc
    by_cases hx : x.id = r.id
    · simp only [hx, if_true, Option.some.injEq] at hc
      subst hc
      have : t.map (fun x => if x.id = r.id then r else x) = t :=
        (List.map_congr_left fun y hy => if_neg fun e : y.id = r.id =>
          hu.1 (hx ▸ e ▸ List.mem_map_of_mem hy)).trans (List.map_id t)
      simp [hx, this]
    · simp only [hx, if_false, Option.map_eq_some_iff] at hc
      obtain ⟨j, hj, rfl⟩ := hc
      simp [hx, ih hu.2 hj]

theorem replaceFull_isNone (l : List Rule) (r : Rule) :
    (replaceFull l r).2.2.isNone = (position l r.id).isNone := by
  unfold replaceFull
  rw [getIndexOf_eq_position]
  cases hc : position l r.id with
  | none => rfl
  | some c => simp [position_lt hc]

/-- What the outside sees of `insert_and_move_rule`. -/
def insOutcome (x : List Rule × InsRes) : List Rule × Outcome := (x.1, x.2.outcome)

theorem replaceAndMove_unpositioned {l : List Rule} {r : Rule} {to c : Nat} (hu : UniqueIds l)
    (hc : position l r.id = some c) :
    replaceAndMove l r none none to = (replaceInPlace r l, InsRes.ok) := by
  unfold replaceAndMove
  have hm : ((replaceFull l r).2.2.isNone || (none : Option Str).isSome
      || (none : Option Str).isSome) = false := by
    simp [replaceFull_isNone, hc]
  have : (replaceFull l r).1 = l.set c r := by
    unfold replaceFull; rw [getIndexOf_eq_position, hc]
  simp only [hm, this, set_eq_replaceInPlace hu hc]
  rfl

theorem uniqueIds_others {l : List Rule} (id : Str) (hu : UniqueIds l) : UniqueIds (others l id) :=
  hu.sublist (List.filter_sublist.map _)

theorem not_mem_ids_others (l : List Rule) (id : Str) : id ∉ ids (others l id) :=
  position_none_iff.mp (position_others_self l id)

section InsertIdx
variable {rest : List Rule} {r : Rule} {n : Nat} (hn : n ≤ rest.length) (hr : r.id ∉ ids rest)

include hn hr in
theorem lookup_insertIdx_self : lookup (rest.insertIdx n r) r.id = some r := by
  cases h : lookup (rest.insertIdx n r) r.id with
  | none =>
    exact absurd (List.mem_map_of_mem ((List.mem_insertIdx hn).mpr (.inl rfl)))
      (position_none_iff.mp (lookup_eq_none.mp h))
  | some x =>
    rcases (List.mem_insertIdx hn).mp (lookup_mem h) with rfl | hx
    · rfl
    · exact absurd (lookup_id h ▸ List.mem_map_of_mem hx) hr

variable (hu : UniqueIds rest)
include hn hr hu

theorem uniqueIds_insertIdx : UniqueIds (rest.insertIdx n r) :=
  ((List.perm_insertIdx r rest hn).map _).nodup_iff.mpr (List.nodup_cons.mpr ⟨hr, hu⟩)

theorem position_insertIdx_self : position (rest.insertIdx n r) r.id = some n := by
  rw [position_eq_some_iff (uniqueIds_insertIdx hn hr hu), List.getElem?_insertIdx_self, if_pos hn]
  rfl

theorem position_insertIdx_other {i : Nat} {a : Str} (h : position rest a = some i) :
    position (rest.insertIdx n r) a = some (if i < n then i else i + 1) := by
  rw [position_eq_some_iff hu] at h
  rw [position_eq_some_iff (uniqueIds_insertIdx hn hr hu)]
  split
  · rwa [List.getElem?_insertIdx_of_lt ‹_›]
  · rwa [List.getElem?_insertIdx_of_gt (by omega), Nat.add_sub_cancel]

theorem others_insertIdx_self : others (rest.insertIdx n r) r.id = rest := by
  rw [others_eq_eraseIdx (uniqueIds_insertIdx hn hr hu) (position_insertIdx_self hn hr hu),
    List.eraseIdx_insertIdx_self]

end InsertIdx

theorem insertIdx_eraseIdx_self {α} {a : α} : ∀ {l : List α} {c : Nat}, c < l.length →
    (l.eraseIdx c).insertIdx c a = l.set c a
  | _ :: _, 0, _ => rfl
  | x :: _, _ + 1, h => congrArg (x :: ·) (insertIdx_eraseIdx_self (Nat.lt_of_succ_lt_succ h))

theorem replaceInPlace_eq_insertIdx {l : List Rule} {r : Rule} {c : Nat} (hu : UniqueIds l)
    (hc : position l r.id = some c) :
    replaceInPlace r l = (others l r.id).insertIdx c r := by
  rw [← set_eq_replaceInPlace hu hc, others_eq_eraseIdx hu hc,
    insertIdx_eraseIdx_self (position_lt hc)]

/-- The index among the other rules at which a rule with this id and these anchors is placed. -/
def slot (k : Kind) (l : List Rule) (id : Str) : Option Str → Option Str → Except ErrClass Nat
  | none, none => .ok ((position l id).getD (min (defaultPosition k) l.length))
  | some x, none =>
    match position (others l id) x with
    | some i => .ok (i + 1)
    | none => .error .unknown
  | none, some y =>
    match position (others l id) y with
    | some j => .ok j
    | none => .error .unknown
  | some x, some y =>
    match position (others l id) x, position (others l id) y with
    | some i, some j => if i < j then .ok j else .error .order
    | _, _ => .error .unknown

theorem place_eq_slot {k : Kind} {l : List Rule} {r : Rule} {a b : Option Str} (hu : UniqueIds l) :
    place k l r a b = (slot k l r.id a b).map fun n => (others l r.id).insertIdx n r := by
  unfold place slot
  rcases a with _ | x <;> rcases b with _ | y <;> simp only [putAfter_eq, putBefore_eq]
  · cases hc : position l r.id with
    | none =>
      rw [lookup_eq_none.mpr hc, others_of_position_none hc, putAt_eq]; rfl
    | some c =>
      cases ho : lookup l r.id with
      | none => rw [lookup_eq_none.mp ho] at hc; cases hc
      | some o => rw [replaceInPlace_eq_insertIdx hu hc]; rfl
  · cases position (others l r.id) _ <;> rfl
  · cases position (others l r.id) _ <;> rfl
  · cases position (others l r.id) x <;> cases position (others l r.id) y <;> try rfl
    simp only [Option.map_some]; split <;> rfl

theorem slot_ok {k : Kind} {l : List Rule} {id : Str} {a b : Option Str} {n : Nat}
    (h : slot k l id a b = .ok n) :
    match a, b with
    | none, none => n = (position l id).getD (min (defaultPosition k) l.length)
    | some x, none => ∃ i, position (others l id) x = some i ∧ n = i + 1
    | none, some y => position (others l id) y = some n
    | some x, some y =>
      ∃ i, position (others l id) x = some i ∧ position (others l id) y = some n ∧ i < n := by
  unfold slot at h
  cases a <;> cases b <;> simp only [] at h ⊢
  · exact (Except.ok.inj h).symm
  · split at h
    · cases h; assumption
    · cases h
  · split at h
    · exact ⟨_, ‹_›, (Except.ok.inj h).symm⟩
    · cases h
  · split at h
    · split at h
      · cases h; exact ⟨_, ‹_›, ‹_›, ‹_›⟩
      · cases h
    · cases h

theorem slot_le {k : Kind} {l : List Rule} {id : Str} {a b : Option Str} {n : Nat}
    (hu : UniqueIds l) (h : slot k l id a b = .ok n) : n ≤ (others l id).length := by
  have hs := slot_ok h
  cases a <;> cases b <;> simp only [] at hs
  · subst hs
    cases hc : position l id with
    | none => rw [others_of_position_none hc]; exact Nat.min_le_right _ _
    | some c =>
      have := position_lt hc
      rw [others_eq_eraseIdx hu hc, List.length_eraseIdx_of_lt this]
      exact Nat.le_sub_one_of_lt this
  · exact Nat.le_of_lt (position_lt hs)
  · obtain ⟨i, hi, rfl⟩ := hs
    exact position_lt hi
  · obtain ⟨_, _, hj, _⟩ := hs
    exact Nat.le_of_lt (position_lt hj)

theorem insertAndMoveRule_eq_slot {k : Kind} {l : List Rule} {r : Rule} {a b : Option Str}
    (hu : UniqueIds l) :
    insOutcome (insertAndMoveRule l r (defaultPositionOf k) a b) =
      match slot k l r.id a b with
      | .ok n => ((others l r.id).insertIdx n r, .ok)
      | .error e => (l, .err e) := by
  have moved : ∀ {n}, slot k l r.id a b = .ok n → (position l r.id).isNone || a.isSome || b.isSome →
      insOutcome (replaceAndMove l r a b n) = ((others l r.id).insertIdx n r, .ok) := by
    intro n hn hm
    rw [← replaceFull_isNone] at hm
    rw [replaceAndMove, if_pos hm, moveIndex_replaceFull hu (slot_le hu hn)]; rfl
  unfold insertAndMoveRule
  simp only [← length_others hu, toAfter, toBefore]
  rcases a with _ | x <;> rcases b with _ | y <;> simp only [positionOf_eq hu]
  · cases hc : position l r.id with
    | none =>
      rw [moved (by simp [slot, hc, defaultPositionOf_eq, others_of_position_none hc]) (by simp [hc])]
      simp [slot, hc, defaultPositionOf_eq, others_of_position_none hc]
    | some c =>
      simp only [replaceAndMove_unpositioned hu hc, slot, hc, replaceInPlace_eq_insertIdx hu hc]; rfl
  · cases hy : position (others l r.id) y with
    | none => simp [slot, hy, insOutcome, InsRes.outcome, InsertErr.cls]
    | some j => simp [moved (n := j) (by simp [slot, hy]), slot, hy]
  · cases hx : position (others l r.id) x with
    | none => simp [slot, hx, insOutcome, InsRes.outcome, InsertErr.cls]
    | some i => simp [moved (n := i + 1) (by simp [slot, hx]), slot, hx]
  · cases hx : position (others l r.id) x with
    | none => simp [slot, hx, insOutcome, InsRes.outcome, InsertErr.cls]
    | some i =>
      cases hy : position (others l r.id) y with
      | none => simp [slot, hx, hy, insOutcome, InsRes.outcome, InsertErr.cls]
      | some j =>
        by_cases hij : i < j
        · have : ¬ j < i + 1 := by omega
          simp [moved (n := j) (by simp [slot, hx, hy, hij]), slot, hx, hy, hij, this]
        · have : j < i + 1 := by omega
          simp [slot, hx, hy, hij, this, insOutcome, InsRes.outcome, InsertErr.cls]

theorem State.get_set_same (s : State) (k : Kind) (l : List Rule) : (s.set k l).get k = l := by
  cases k <;> rfl

theorem State.get_set_ne (s : State) {k k' : Kind} (l : List Rule) (h : k' ≠ k) :
    (s.set k l).get k' = s.get k' := by
  cases k <;> cases k' <;> first | rfl | exact absurd rfl h

theorem State.set_get (s : State) (k : Kind) : s.set k (s.get k) = s := by
  cases k <;> rfl

/-- Rule ids are unique within every kind. -/
def Inv (s : State) : Prop := ∀ k, UniqueIds (s.get k)

/-- The `default` flag marks exactly the rules with a server-default id (leading `.`). -/
def DefaultIffDot (s : State) : Prop := ∀ k, ∀ r ∈ s.get k, r.dflt = isServerDefaultId r.id

theorem ruleToInsert_eq_newRule (l : List Rule) (id : Str) (actions : Nat) :
    ruleToInsert l id actions = newRule l id actions := by
  unfold ruleToInsert newRule
  rw [getRule_eq_lookup]
  cases lookup l id <;> rfl

theorem optStartsWithDot_eq (a : Option Str) : optStartsWithDot a = anchorIsServerDefault a := by
  cases a <;> first | rfl | exact startsWithDot_eq _

theorem insert_eq_spec {s : State} (hu : Inv s) (k : Kind) (id : Str) (actions : Nat)
    (a b : Option Str) :
    insert s k id actions a b = Spec.RulesetPlacement.step s (.insert k id actions a b) := by
  -- past the guards, both sides put the rule at index `slot …` among the others
  have placed (res) (h : res = insertAndMoveRule (s.get k) (ruleToInsert (s.get k) id actions)
        (defaultPositionOf k) a b) :
      (s.set k res.1, res.2.outcome) =
        match place k (s.get k) (newRule (s.get k) id actions) a b with
        | .ok l => (s.set k l, Outcome.ok)
        | .error e => (s, .err e) := by
    change (s.set k (insOutcome res).1, (insOutcome res).2) = _
    rw [h, ruleToInsert_eq_newRule, insertAndMoveRule_eq_slot (hu k), place_eq_slot (hu k)]
    cases slot k (s.get k) (newRule (s.get k) id actions).id a b
    · exact congrArg (·, _) (State.set_get s k)
    · rfl
  rw [Spec.RulesetPlacement.step, insert, insertRule, startsWithDot_eq, optStartsWithDot_eq,
    optStartsWithDot_eq, show hasInvalidChar id = (containsSlash id || containsBackslash id) from rfl]
  -- a guard that fires gives the same error on both sides
  cases isServerDefaultId id
  case true => rfl
  cases containsSlash id
  case true => rfl
  cases containsBackslash id
  case true => rfl
  cases anchorIsServerDefault a
  case true => rfl
  cases anchorIsServerDefault b
  case true => rfl
  exact placed _ rfl

theorem shiftRemove_eq_others {l : List Rule} {id : Str} (hu : UniqueIds l) :
    shiftRemove l id = others l id := by
  unfold shiftRemove
  rw [getIndexOf_eq_position]
  cases hc : position l id with
  | none => exact (others_of_position_none hc).symm
  | some c => exact (others_eq_eraseIdx hu hc).symm

theorem replace_eq_replaceInPlace {l : List Rule} {id : Str} {r o : Rule} (hu : UniqueIds l)
    (h : lookup l id = some o) (hr : r.id = o.id) : replace l r = replaceInPlace r l := by
  obtain ⟨c, hc⟩ := lookup_some_position h
  rw [← lookup_id h, ← hr] at hc
  unfold replace replaceFull
  rw [getIndexOf_eq_position, hc]
  exact set_eq_replaceInPlace hu hc

/-- `step_refines_spec`, one step: on a ruleset with unique ids per kind, the model of the code
does exactly what the specification prescribes (new ruleset and outcome). -/
theorem step_eq_spec {s : State} (hu : Inv s) (op : Op) :
    step s op = Spec.RulesetPlacement.step s op := by
  match op with
  | .insert k id actions a b => exact insert_eq_spec hu k id actions a b
  | .remove .custom _ | .setEnabled .custom _ _ | .setActions .custom _ _ | .get .custom _ => rfl
  | .remove (.known k) id =>
    simp only [step, remove, get, Spec.RulesetPlacement.step, getRule_eq_lookup]
    cases h : lookup (s.get k) id with
    | none => rfl
    | some r =>
      by_cases hd : r.dflt = true
      · simp [hd, RemoveErr.cls]
      · simp [hd, shiftRemove_eq_others (hu k)]
  | .setEnabled (.known k) id on =>
    simp only [step, setEnabled, Spec.RulesetPlacement.step, getRule_eq_lookup]
    cases h : lookup (s.get k) id with
    | none => rfl
    | some r => exact congrArg (s.set k ·, Outcome.ok) (replace_eq_replaceInPlace (hu k) h rfl)
  | .setActions (.known k) id actions =>
    simp only [step, setActions, Spec.RulesetPlacement.step, getRule_eq_lookup]
    cases h : lookup (s.get k) id with
    | none => rfl
    | some r => exact congrArg (s.set k ·, Outcome.ok) (replace_eq_replaceInPlace (hu k) h rfl)
  | .get (.known k) id => simp [step, get, Spec.RulesetPlacement.step, getRule_eq_lookup]

end Ruma.Ruleset
