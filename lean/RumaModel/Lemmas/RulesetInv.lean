/-
  Helper lemmas for C13, part 2: shape of a successful insert (`insertRule_form`); what one step does
  to the ruleset (`Edit`, `spec_step_cases`); the invariants kept by every step (unique ids,
  `default` flag ⇔ leading dot, server-default rules stay in place, `.m.rule.master` stays first);
  operation sequences.
-/
import RumaModel.Lemmas.Ruleset
namespace Ruma.Ruleset
open Ruma.Spec.RulesetPlacement

theorem insertRule_ok {k : Kind} {l l' : List Rule} {id : Str} {actions : Nat} {a b : Option Str}
    (h : insertRule k l id actions a b = .ok l') :
    isServerDefaultId id = false ∧ hasInvalidChar id = false ∧ anchorIsServerDefault a = false
      ∧ anchorIsServerDefault b = false ∧ place k l (newRule l id actions) a b = .ok l' := by
  revert h
  rw [insertRule]
  cases isServerDefaultId id
  case true => nofun
  cases hasInvalidChar id
  case true => nofun
  cases anchorIsServerDefault a
  case true => nofun
  cases anchorIsServerDefault b
  case true => nofun
  exact fun h => ⟨rfl, rfl, rfl, rfl, h⟩

theorem newRule_id (l : List Rule) (id : Str) (actions : Nat) : (newRule l id actions).id = id := rfl
theorem newRule_dflt (l : List Rule) (id : Str) (actions : Nat) : (newRule l id actions).dflt = false := rfl
theorem newRule_actions (l : List Rule) (id : Str) (actions : Nat) :
    (newRule l id actions).actions = actions := rfl

theorem insertRule_form {k : Kind} {l l' : List Rule} {id : Str} {actions : Nat} {a b : Option Str}
    (hu : UniqueIds l) (h : insertRule k l id actions a b = .ok l') :
    ∃ n, slot k l id a b = .ok n ∧ n ≤ (others l id).length
      ∧ l' = (others l id).insertIdx n (newRule l id actions) := by
  have hp := (insertRule_ok h).2.2.2.2
  rw [place_eq_slot hu] at hp
  cases hs : slot k l id a b with
  | error e => rw [newRule_id, hs] at hp; cases hp
  | ok n =>
    rw [newRule_id, hs] at hp
    exact ⟨n, rfl, slot_le hu hs, (Except.ok.inj hp).symm⟩

theorem ids_replaceInPlace (r : Rule) (l : List Rule) : ids (replaceInPlace r l) = ids l := by
  unfold ids replaceInPlace
  rw [List.map_map]
  apply List.map_congr_left
  intro x _
  by_cases hx : x.id = r.id <;> simp [hx]

theorem others_replaceInPlace (r : Rule) (l : List Rule) :
    others (replaceInPlace r l) r.id = others l r.id := by
  unfold replaceInPlace
  induction l with
  | nil => rfl
  | cons x t ih =>
    by_cases hx : x.id = r.id <;> simp [others_cons, hx, ih]

theorem others_others (l : List Rule) (id : Str) : others (others l id) id = others l id := by
  unfold others; simp [List.filter_filter]

/-- `Edit s op k l'`: the operation `op` succeeds on `s` and replaces the list of kind `k` by `l'`. -/
inductive Edit (s : State) : Op → Kind → List Rule → Prop
  | insert {k id actions a b l'} : insertRule k (s.get k) id actions a b = .ok l' →
      Edit s (.insert k id actions a b) k l'
  | remove {k id r} : lookup (s.get k) id = some r → r.dflt = false →
      Edit s (.remove (.known k) id) k (others (s.get k) id)
  | setEnabled {k id r} on : lookup (s.get k) id = some r →
      Edit s (.setEnabled (.known k) id on) k (replaceInPlace { r with enabled := on } (s.get k))
  | setActions {k id r} actions : lookup (s.get k) id = some r →
      Edit s (.setActions (.known k) id actions) k
        (replaceInPlace { r with actions := actions } (s.get k))

theorem spec_step_cases (s : State) (op : Op) :
    (∃ c, Spec.RulesetPlacement.step s op = (s, .err c)) ∨ (∃ k id, op = .get k id) ∨
    ∃ k l', Edit s op k l' ∧ Spec.RulesetPlacement.step s op = (s.set k l', .ok) := by
  match op with
  | .insert k id actions a b =>
    cases h : insertRule k (s.get k) id actions a b with
    | error e => exact .inl ⟨e, by simp only [Spec.RulesetPlacement.step, h]⟩
    | ok l' => exact .inr (.inr ⟨k, l', .insert h, by simp only [Spec.RulesetPlacement.step, h]⟩)
  | .remove .custom _ | .setEnabled .custom _ _ | .setActions .custom _ _ =>
    exact .inl ⟨.unknown, rfl⟩
  | .remove (.known k) id =>
    cases h : lookup (s.get k) id with
    | none => exact .inl ⟨.unknown, by simp only [Spec.RulesetPlacement.step, h]⟩
    | some r =>
      cases hd : r.dflt with
      | true => exact .inl ⟨.prot, by simp [Spec.RulesetPlacement.step, h, hd]⟩
      | false =>
        exact .inr (.inr ⟨k, _, .remove h hd, by simp [Spec.RulesetPlacement.step, h, hd]⟩)
  | .setEnabled (.known k) id on =>
    cases h : lookup (s.get k) id with
    | none => exact .inl ⟨.unknown, by simp only [Spec.RulesetPlacement.step, h]⟩
    | some r =>
      exact .inr (.inr ⟨k, _, .setEnabled on h, by simp only [Spec.RulesetPlacement.step, h]⟩)
  | .setActions (.known k) id actions =>
    cases h : lookup (s.get k) id with
    | none => exact .inl ⟨.unknown, by simp only [Spec.RulesetPlacement.step, h]⟩
    | some r =>
      exact .inr (.inr ⟨k, _, .setActions actions h, by simp only [Spec.RulesetPlacement.step, h]⟩)
  | .get k id => exact .inr (.inl ⟨k, id, rfl⟩)

theorem spec_step_get (s : State) (k : KindArg) (id : Str) :
    (Spec.RulesetPlacement.step s (.get k id)).1 = s := by cases k <;> rfl

theorem spec_step_fst (s : State) (op : Op) :
    (Spec.RulesetPlacement.step s op).1 = s ∨
    ∃ k l', Edit s op k l' ∧ (Spec.RulesetPlacement.step s op).1 = s.set k l' := by
  rcases spec_step_cases s op with ⟨_, h⟩ | ⟨k, id, rfl⟩ | ⟨k, l', he, h⟩
  · exact .inl (by rw [h])
  · exact .inl (spec_step_get s k id)
  · exact .inr ⟨k, l', he, by rw [h]⟩

theorem spec_step_forall_get {Q : Kind → List Rule → Prop} {s : State} (h : ∀ k, Q k (s.get k))
    {op : Op} (hedit : ∀ {k l'}, Edit s op k l' → Q k l') (k' : Kind) :
    Q k' ((Spec.RulesetPlacement.step s op).1.get k') := by
  rcases spec_step_fst s op with e | ⟨k, l', he, e⟩ <;> rw [e]
  · exact h k'
  · by_cases hk : k' = k
    · subst hk; rw [State.get_set_same]; exact hedit he
    · rw [State.get_set_ne s l' hk]; exact h k'

theorem spec_step_inv {s : State} (hu : Inv s) (op : Op) : Inv (Spec.RulesetPlacement.step s op).1 :=
  spec_step_forall_get (Q := fun _ l => UniqueIds l) hu fun {k _} he => by
    cases he with
    | insert hi =>
      obtain ⟨n, _, hn, rfl⟩ := insertRule_form (hu k) hi
      exact uniqueIds_insertIdx hn (not_mem_ids_others _ _) (uniqueIds_others _ (hu k))
    | remove => exact uniqueIds_others _ (hu k)
    | setEnabled | setActions => unfold UniqueIds; rw [ids_replaceInPlace]; exact hu k

theorem step_inv {s : State} (hu : Inv s) (op : Op) : Inv (step s op).1 := by
  rw [step_eq_spec hu]; exact spec_step_inv hu op

theorem mem_replaceInPlace {r x : Rule} {l : List Rule} (h : x ∈ replaceInPlace r l) :
    x = r ∨ x ∈ l := by
  obtain ⟨y, hy, e⟩ := List.mem_map.mp h
  split at e
  · exact .inl e.symm
  · exact .inr (e ▸ hy)

theorem step_defaultIffDot {s : State} (hu : Inv s) (hd : DefaultIffDot s) (op : Op) :
    DefaultIffDot (step s op).1 := by
  rw [step_eq_spec hu]
  refine spec_step_forall_get (Q := fun _ l => ∀ r ∈ l, r.dflt = isServerDefaultId r.id) hd ?_
  intro k _ he x hx
  cases he with
  | insert hi =>
    obtain ⟨n, _, hn, rfl⟩ := insertRule_form (hu k) hi
    rcases (List.mem_insertIdx hn).mp hx with rfl | hx
    · rw [newRule_dflt, newRule_id, (insertRule_ok hi).1]
    · exact hd k x (List.mem_filter.mp hx).1
  | remove => exact hd k x (List.mem_filter.mp hx).1
  | @setEnabled _ _ r _ hl | @setActions _ _ r _ hl =>
    rcases mem_replaceInPlace hx with rfl | hx
    · exact hd k r (lookup_mem hl)
    · exact hd k x hx

theorem exec_nil (s : State) : exec s [] = s := rfl

theorem exec_cons (s : State) (op : Op) (ops : List Op) :
    exec s (op :: ops) = exec (step s op).1 ops := by
  simp [exec, run]

theorem exec_append (s : State) (ops ops' : List Op) :
    exec s (ops ++ ops') = exec (exec s ops) ops' := by
  induction ops generalizing s with
  | nil => rfl
  | cons op t ih => simp [exec_cons, ih]

theorem exec_induction {P : State → Prop}
    (hstep : ∀ s op, Inv s → DefaultIffDot s → P s → P (Spec.RulesetPlacement.step s op).1)
    {s : State} (hu : Inv s) (hd : DefaultIffDot s) (hp : P s) (ops : List Op) :
    Inv (exec s ops) ∧ DefaultIffDot (exec s ops) ∧ P (exec s ops) := by
  induction ops generalizing s with
  | nil => exact ⟨hu, hd, hp⟩
  | cons op t ih =>
    rw [exec_cons]
    exact ih (step_inv hu op) (step_defaultIffDot hu hd op)
      (step_eq_spec hu op ▸ hstep s op hu hd hp)

theorem exec_inv {s : State} (hu : Inv s) (hd : DefaultIffDot s) (ops : List Op) :
    Inv (exec s ops) ∧ DefaultIffDot (exec s ops) :=
  have h := exec_induction (P := fun _ => True) (fun _ _ _ _ _ => trivial) hu hd trivial ops
  ⟨h.1, h.2.1⟩

theorem empty_ok : Inv State.empty ∧ DefaultIffDot State.empty :=
  ⟨fun k => by cases k <;> exact List.nodup_nil, fun k r hr => by cases k <;> cases hr⟩

theorem serverDefault_ok : Inv State.serverDefault ∧ DefaultIffDot State.serverDefault := by
  have h : ∀ k, UniqueIds (State.serverDefault.get k) ∧
      ∀ r ∈ State.serverDefault.get k, r.dflt = isServerDefaultId r.id := by
    unfold UniqueIds State.serverDefault dr
    -- as a hypothesis `bs_ofList` is indexed by `bs` alone, so `simp` tries it at every literal and
    -- rewrites them all in one pass (as a constant it is indexed by `String.ofList`: no literal matches)
    have h := bs_ofList
    simp only [h]
    intro k
    cases k <;> decide +kernel
  exact ⟨fun k => (h k).1, fun k => (h k).2⟩

/-- Ids of the server-default rules of a list, in order. -/
def defaultIds (l : List Rule) : List Str := (l.filter (·.dflt)).map (·.id)

def masterId : Str := bs ".m.rule.master"

/-- `.m.rule.master` is the first override rule. -/
def HeadMaster (s : State) : Prop := position (s.get .override) masterId = some 0

theorem defaultIds_insertIdx {rest : List Rule} {r : Rule} {n : Nat} (hr : r.dflt = false) :
    defaultIds (rest.insertIdx n r) = defaultIds rest := by
  unfold defaultIds
  induction rest generalizing n with
  | nil => cases n <;> simp [hr]
  | cons x t ih =>
    cases n with
    | zero => simp [hr]
    | succ n =>
      simp only [List.insertIdx_succ_cons, List.filter_cons]
      split <;> simp [ih]

theorem defaultIds_others {l : List Rule} {id : Str} (h : ∀ x ∈ l, x.id = id → x.dflt = false) :
    defaultIds (others l id) = defaultIds l := by
  unfold defaultIds others
  rw [List.filter_filter]
  refine congrArg _ (List.filter_congr fun x hx => ?_)
  by_cases e : x.id = id <;> simp [e, h x hx]

theorem defaultIds_replaceInPlace {l : List Rule} {r : Rule}
    (h : ∀ x ∈ l, x.id = r.id → x.dflt = r.dflt) :
    defaultIds (replaceInPlace r l) = defaultIds l := by
  unfold defaultIds replaceInPlace
  rw [List.filter_map, List.map_map]
  have hd : ∀ x ∈ l, ((·.dflt) ∘ fun x => if x.id = r.id then r else x) x = x.dflt :=
    fun x hx => by by_cases e : x.id = r.id <;> simp [e, h x hx]
  rw [List.filter_congr hd]
  refine List.map_congr_left fun x _ => ?_
  by_cases e : x.id = r.id <;> simp [e]

theorem spec_step_defaultIds {s : State} (hu : Inv s) (hd : DefaultIffDot s) (op : Op) (k' : Kind) :
    defaultIds ((Spec.RulesetPlacement.step s op).1.get k') = defaultIds (s.get k') := by
  refine spec_step_forall_get (Q := fun k' l => defaultIds l = defaultIds (s.get k'))
    (fun _ => rfl) ?_ k'
  intro k _ he
  cases he with
  | insert hi =>
    obtain ⟨n, _, hn, rfl⟩ := insertRule_form (hu k) hi
    rw [defaultIds_insertIdx (newRule_dflt _ _ _), defaultIds_others]
    intro x hx hid
    rw [hd k x hx, hid, (insertRule_ok hi).1]
  | @remove _ _ r hl hdf =>
    refine defaultIds_others fun x hx hid => ?_
    rw [hd k x hx, hid, ← lookup_id hl, ← hd k r (lookup_mem hl), hdf]
  | @setEnabled _ _ r _ hl | @setActions _ _ r _ hl =>
    refine defaultIds_replaceInPlace fun x hx hid => ?_
    show x.dflt = r.dflt
    rw [hd k x hx, hd k r (lookup_mem hl)]; exact congrArg _ hid

theorem exec_defaultIds {s : State} (hu : Inv s) (hd : DefaultIffDot s) (ops : List Op) (k : Kind) :
    defaultIds ((exec s ops).get k) = defaultIds (s.get k) :=
  (exec_induction (P := fun s' => defaultIds (s'.get k) = defaultIds (s.get k))
    (fun _ op hu' hd' h => (spec_step_defaultIds hu' hd' op k).trans h) hu hd rfl ops).2.2

theorem masterId_dotted : isServerDefaultId masterId = true := by
  rw [masterId, bs_ofList]; rfl

theorem position_replaceInPlace (r : Rule) (l : List Rule) (a : Str) :
    position (replaceInPlace r l) a = position l a := by
  rw [position_eq_idxOf, position_eq_idxOf, ids_replaceInPlace]

theorem lookup_replaceInPlace {r o : Rule} {l : List Rule} {id : Str} (h : lookup l id = some o)
    (hr : r.id = o.id) : lookup (replaceInPlace r l) id = some r := by
  obtain rfl : r.id = id := hr.trans (lookup_id h)
  induction l with
  | nil => cases h
  | cons x t ih =>
    simp only [replaceInPlace, List.map_cons, lookup] at ih h ⊢
    by_cases hx : x.id = r.id
    · simp [hx]
    · simp only [hx, if_false] at h ⊢; exact ih h

theorem position_others_zero {l : List Rule} {a id : Str} (h : position l a = some 0)
    (hne : a ≠ id) : position (others l id) a = some 0 := by
  cases l with
  | nil => cases h
  | cons m t =>
    have hm : m.id = a := by
      by_cases hm : m.id = a
      · exact hm
      · simp [position, hm] at h
    simp [others_cons, hm, hne, position]

theorem spec_step_headMaster {s : State} (hu : Inv s) (hd : DefaultIffDot s) (hm : HeadMaster s)
    (op : Op) : HeadMaster (Spec.RulesetPlacement.step s op).1 := by
  unfold HeadMaster at hm ⊢
  refine spec_step_forall_get (Q := fun k l => k = .override → position l masterId = some 0)
    (fun _ hk => hk ▸ hm) ?_ .override rfl
  intro _ _ he hk
  subst hk
  cases he with
  | @insert _ id _ a b _ hi =>
    obtain ⟨n, hs, hn, rfl⟩ := insertRule_form (hu .override) hi
    obtain ⟨hid, _, _, hb, _⟩ := insertRule_ok hi
    have dotted : ∀ {y}, isServerDefaultId y = false → masterId ≠ y :=
      fun hy e => by rw [← e, masterId_dotted] at hy; cases hy
    have hrest := position_others_zero hm (dotted hid)
    have hpos : 0 < n := by
      have hs := slot_ok hs
      cases a <;> cases b <;> simp only [] at hs
      · subst hs
        cases hc : position (s.get .override) id with
        | none => have := position_lt hm; simp [defaultPosition]; omega
        | some c => exact Nat.pos_of_ne_zero fun e => dotted hid (position_inj hm (e ▸ hc))
      · exact Nat.pos_of_ne_zero fun e => dotted hb (position_inj hrest (e ▸ hs))
      · obtain ⟨i, _, rfl⟩ := hs
        exact Nat.succ_pos i
      · obtain ⟨i, _, _, hij⟩ := hs
        exact Nat.zero_lt_of_lt hij
    rw [position_insertIdx_other hn (not_mem_ids_others _ _) (uniqueIds_others _ (hu _)) hrest,
      if_pos hpos]
  | @remove _ id r hl hdf =>
    refine position_others_zero hm fun e => ?_
    rw [hd .override r (lookup_mem hl), lookup_id hl, ← e, masterId_dotted] at hdf; cases hdf
  | setEnabled | setActions => rw [position_replaceInPlace]; exact hm

theorem exec_headMaster {s : State} (hu : Inv s) (hd : DefaultIffDot s) (hm : HeadMaster s)
    (ops : List Op) : HeadMaster (exec s ops) :=
  (exec_induction (fun _ op hu' hd' hm' => spec_step_headMaster hu' hd' hm' op) hu hd hm ops).2.2

theorem headMaster_serverDefault : HeadMaster State.serverDefault := if_pos rfl

end Ruma.Ruleset
