/-
  C17 helper lemmas: `CallMemberStateKeyEnum::from_str` (`Model/ScanCallMember.lean`) returns for every
  string, and what it accepts formats back to the input.
-/
import RumaModel.Model.ScanCallMember
import RumaModel.Lemmas.ScanCommon
import RumaModel.Lemmas.IdsSigil
namespace Ruma.ScanCallMember
open Ruma Ruma.Scan Ruma.Ids

/-- `UserId::parse` on a well-formed string returns `Ok` or `Err` (C10: it does not panic). -/
theorem userParse_cases {x : Ext} {s : Str} (hs : Sep s) : userParse x s = .ok () ∨ userParse x s = .err := by
  have := delimitedValidate_ne_panic (x := x) (sigil := 64) hs (by omega) (by omega)
  unfold userParse userIdValidate
  cases h : delimitedValidate x 64 s with
  | ok _ => exact .inl rfl
  | err => exact .inr rfl
  | panic => exact absurd h this

theorem sep_stripUnderscore {s : Str} (hs : Sep s) : Sep (stripUnderscore s).1 := by
  unfold stripUnderscore
  split
  · exact hs.tail
  · exact hs

/-- The three slices of `from_str`, for a string with a colon and an underscore behind it. -/
theorem slices_ok {pre pre2 post2 : Str} (hs : Sep (pre ++ 58 :: (pre2 ++ 95 :: post2))) :
    strFrom (pre ++ 58 :: (pre2 ++ 95 :: post2)) (pre.length + 1) = some (pre2 ++ 95 :: post2) ∧
    strTo (pre ++ 58 :: (pre2 ++ 95 :: post2)) (pre.length + 1 + pre2.length) = some (pre ++ 58 :: pre2) ∧
    strFrom (pre ++ 58 :: (pre2 ++ 95 :: post2)) (pre.length + 2 + pre2.length) = some post2 := by
  have e : pre ++ 58 :: (pre2 ++ 95 :: post2) = (pre ++ 58 :: pre2) ++ 95 :: post2 :=
    (List.append_assoc pre (58 :: pre2) (95 :: post2)).symm
  have l : pre.length + 1 + pre2.length = (pre ++ 58 :: pre2).length := by
    rw [List.length_append, List.length_cons]
    omega
  have l2 : pre.length + 2 + pre2.length = (pre ++ 58 :: pre2).length + 1 := by omega
  refine ⟨strFrom_after hs (by omega), ?_, ?_⟩
  · rw [l, e]; exact strTo_at (by omega)
  · rw [l2, e]; rw [e] at hs; exact strFrom_after hs (by omega)

/-- `from_str` behind the optional underscore returns an error, or a key that formats back (without
the underscore) to its input. -/
theorem parseStripped_spec (x : Ext) (sk : Str) (u : Bool) (hs : Sep sk) :
    parseStripped x sk u = .err ∨
    ∃ k, parseStripped x sk u = .ok k ∧ k.display = (if u then 95 :: sk else sk) := by
  unfold parseStripped
  cases hc : findByte 58 sk with
  | none => exact .inl rfl
  | some ci =>
    obtain ⟨pre, post, rfl, _, rfl⟩ := find_eq_some hc
    simp only
    rw [strFrom_after hs (by omega)]
    simp only
    cases hu : findByte 95 post with
    | none =>
      simp only
      rcases userParse_cases (x := x) hs with hp | hp
      · rw [hp]
        cases u
        · exact .inr ⟨_, rfl, rfl⟩
        · exact .inl rfl
      · rw [hp]
        exact .inl rfl
    | some si =>
      obtain ⟨pre2, post2, rfl, _, rfl⟩ := find_eq_some hu
      simp only
      obtain ⟨_, h2, h3⟩ := slices_ok hs
      rw [h2, h3]
      simp only
      have hsu : Sep (pre ++ 58 :: pre2) :=
        Sep.of_append_left (b := 95 :: post2) (List.append_assoc pre (58 :: pre2) _ ▸ hs)
      rcases userParse_cases (x := x) hsu with hp | hp
      · rw [hp]
        simp only
        split
        · exact .inl rfl
        · exact .inr ⟨_, rfl, by cases u <;> simp [Key.new, Key.display]⟩
      · rw [hp]
        exact .inl rfl

theorem fromStr_returns (x : Ext) (s : Str) (hs : Sep s) : (fromStr x s).Returns := by
  rcases parseStripped_spec x _ _ (sep_stripUnderscore hs) with h | ⟨_, h, _⟩ <;>
  · rw [fromStr, h]
    trivial

theorem fromStr_display (x : Ext) (s : Str) (hs : Sep s) {k : Key} (h : fromStr x s = .ok k) :
    k.display = s := by
  rcases parseStripped_spec x _ _ (sep_stripUnderscore hs) with he | ⟨k', hk, hd⟩
  · rw [fromStr, he] at h
    cases h
  · rw [fromStr, hk] at h
    cases h
    rw [hd]
    unfold stripUnderscore
    split <;> rfl

end Ruma.ScanCallMember
