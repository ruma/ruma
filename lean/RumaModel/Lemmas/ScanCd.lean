/-
  C17 helper lemmas: the cursor of the index-faithful `Content-Disposition` parser of
  `Model/ScanCd.lean`, seen as a suffix of the input (`At`), and its two scanning loops, which stop
  where the suffix-passing scans of `Model/HttpHeaders.lean` stop.
-/
import RumaModel.Model.ScanCd
import RumaModel.Lemmas.ScanCommon
namespace Ruma.ScanCd
open Ruma Ruma.Scan Ruma.HttpHeaders

/-- The cursor `pos` of `bytes` sees `s`: `pos` is inside `[0, len]` and `bytes[pos..] = s`. This is
the simulation relation between the index-style functions (state `pos`) and the suffix-style ones
(state `s`); every index, slice and end-of-input test of the former is read off it. -/
def At (bytes : Str) (pos : Nat) (s : Str) : Prop := pos ≤ bytes.length ∧ bytes.drop pos = s

namespace At
variable {bytes s : Str} {pos : Nat}

theorem zero (bytes : Str) : At bytes 0 bytes := ⟨Nat.zero_le _, rfl⟩

theorem toEnd (bytes : Str) : At bytes bytes.length [] := ⟨Nat.le_refl _, List.drop_length⟩

theorem length (h : At bytes pos s) : pos + s.length = bytes.length := by
  obtain ⟨hle, rfl⟩ := h
  rw [List.length_drop]
  omega

theorem get (h : At bytes pos s) : bytes[pos]? = s.head? := by
  obtain ⟨_, rfl⟩ := h
  rw [List.head?_drop]

theorem eq_length_iff (h : At bytes pos s) : pos = bytes.length ↔ s = [] := by
  have := h.length
  rw [← List.length_eq_zero_iff]
  omega

theorem eq_length (h : At bytes pos []) : pos = bytes.length := h.eq_length_iff.mpr rfl

theorem ne_length {b : Nat} {t : Str} (h : At bytes pos (b :: t)) : pos ≠ bytes.length :=
  mt h.eq_length_iff.mp (List.cons_ne_nil b t)

theorem get_cons {b : Nat} {t : Str} (h : At bytes pos (b :: t)) : bytes[pos]? = some b := h.get

theorem advance {a r : Str} (h : At bytes pos s) (e : a ++ r = s) :
    At bytes (pos + a.length) r ∧ bytesSlice bytes pos (pos + a.length) = some a := by
  subst e
  have hl := h.length
  obtain ⟨_, hd⟩ := h
  rw [List.length_append] at hl
  refine ⟨⟨by omega, ?_⟩, ?_⟩
  · rw [← List.drop_drop, hd, List.drop_left]
  · have hin : pos ≤ pos + a.length ∧ pos + a.length ≤ bytes.length := by omega
    rw [bytesSlice, if_pos hin, List.drop_take, hd, Nat.add_sub_cancel_left, List.take_left]

theorem succ {b : Nat} {t : Str} (h : At bytes pos (b :: t)) : At bytes (pos + 1) t :=
  (h.advance (a := [b]) rfl).1

end At

theorem spanP_eq (p : Nat → Bool) (s : Str) : spanP p s = (s.takeWhile p, s.dropWhile p) := by
  induction s with
  | nil => rfl
  | cons b t ih =>
    rw [spanP, List.takeWhile_cons, List.dropWhile_cons, ih]
    cases p b <;> rfl

theorem skipWs_eq_dropWhile (s : Str) : HttpHeaders.skipWs s = s.dropWhile isWs := by
  induction s with
  | nil => rfl
  | cons b t ih =>
    rw [HttpHeaders.skipWs, List.dropWhile_cons, ih]

theorem spanP_append (p : Nat → Bool) (s : Str) : (spanP p s).1 ++ (spanP p s).2 = s := by
  rw [spanP_eq]
  exact List.takeWhile_append_dropWhile

theorem skipWs_eq_spanP (s : Str) : HttpHeaders.skipWs s = (spanP isWs s).2 := by
  rw [spanP_eq, skipWs_eq_dropWhile]

theorem scanGo_eq (bytes : Str) (p : Nat → Bool) : ∀ (fuel pos : Nat) (s : Str), At bytes pos s →
    s.length + 1 ≤ fuel → scanGo bytes p fuel pos = .ok (pos + (spanP p s).1.length) := by
  intro fuel
  induction fuel with
  | zero => intro _ _ _ h; omega
  | succ f ih =>
    intro pos s h hf
    rw [scanGo, h.get]
    cases s with
    | nil => rfl
    | cons b t =>
      simp only [List.head?_cons, spanP]
      split
      · rw [ih (pos + 1) t h.succ (by simpa using hf), List.length_cons, Nat.add_assoc, Nat.add_comm 1]
      · rfl

theorem scan_eq {bytes s : Str} {pos : Nat} (p : Nat → Bool) (h : At bytes pos s) :
    scan bytes p pos = .ok (pos + (spanP p s).1.length) :=
  scanGo_eq bytes p _ pos s h (by have := h.length; omega)

theorem skipWsI_eq {bytes s : Str} {pos : Nat} (h : At bytes pos s) :
    ∃ q, skipWsI bytes pos = .ok q ∧ At bytes q (HttpHeaders.skipWs s) :=
  ⟨_, scan_eq isWs h, skipWs_eq_spanP s ▸ (h.advance (spanP_append isWs s)).1⟩

theorem scanValue_append (q : Bool) (esc : Bool) (s : Str) :
    (scanValue q esc s).1 ++ (scanValue q esc s).2 = s := by
  induction s generalizing esc with
  | nil => rfl
  | cons b t ih =>
    simp only [scanValue]
    split
    · rfl
    · split
      · rfl
      · exact congrArg (b :: ·) (ih _)

theorem valueGo_eq (bytes : Str) (quoted : Bool) : ∀ (fuel pos : Nat) (s : Str) (esc : Bool),
    At bytes pos s → s.length + 1 ≤ fuel →
    valueGo bytes quoted fuel pos esc = .ok (pos + (scanValue quoted esc s).1.length) := by
  intro fuel
  induction fuel with
  | zero => intro _ _ _ _ h; omega
  | succ f ih =>
    intro pos s esc h hf
    rw [valueGo, h.get]
    cases s with
    | nil => rfl
    | cons b t =>
      simp only [List.head?_cons, scanValue]
      split
      · rfl
      · split
        · rfl
        · rw [ih (pos + 1) t _ h.succ (by simpa using hf), List.length_cons, Nat.add_assoc,
            Nat.add_comm 1]

end Ruma.ScanCd
