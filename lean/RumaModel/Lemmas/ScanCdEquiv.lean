/-
  C17 helper lemmas: the index-faithful `Content-Disposition` parser (`Model/ScanCd.lean`) computes
  the same function as the suffix-passing model (`Model/HttpHeaders.lean`): when the cursor `pos` sees
  `s` (`ScanCd.At`), every index-style function returns what the suffix-style function returns on `s`,
  and its new cursor sees the suffix-style rest. That no index or slice fails and no loop runs out of
  fuel is part of these equations: the suffix-style functions have neither outcome.
-/
import RumaModel.Model.ScanCd
import RumaModel.Lemmas.ScanCd
import RumaModel.Lemmas.HttpHeaders
namespace Ruma.ScanCd
open Ruma Ruma.Scan Ruma.HttpHeaders

theorem len_eq_iff (pre r : Str) : pre.length = (pre ++ r).length ↔ r = [] := by
  simp [List.length_eq_zero_iff]

section
variable {bytes s : Str} {pos : Nat}

theorem parseParamNameI_eq (h : At bytes pos s) :
    ∃ q, parseParamNameI bytes pos = .ok ((parseParamName s).1, q) ∧ At bytes q (parseParamName s).2 := by
  obtain ⟨p1, e1, h1⟩ := skipWsI_eq h
  rw [parseParamNameI, parseParamName, e1, Out.ok_bind]
  generalize HttpHeaders.skipWs s = r0 at h1 ⊢
  cases r0 with
  | nil => exact ⟨p1, if_pos h1.eq_length, h1⟩
  | cons c0 t0 =>
    obtain ⟨h2, hname⟩ := h1.advance (spanP_append isTchar (c0 :: t0))
    rw [if_neg h1.ne_length, scan_eq isTchar h1, Out.ok_bind]
    simp only
    generalize (spanP isTchar (c0 :: t0)).1 = name at h2 hname ⊢
    generalize p1 + name.length = p2 at h2 hname ⊢
    generalize (spanP isTchar (c0 :: t0)).2 = r0 at h2 ⊢
    cases r0 with
    | nil => exact ⟨p2, if_pos h2.eq_length, h2⟩
    | cons b t =>
      rw [if_neg h2.ne_length, h2.get_cons, hname]
      simp only
      by_cases hb : b = 59
      · rw [if_pos hb, if_pos hb]
        exact ⟨_, rfl, h2.succ⟩
      · rw [if_neg hb, if_neg hb]
        cases name.isEmpty
        · exact ⟨_, rfl, h2⟩
        · exact ⟨_, rfl, At.toEnd bytes⟩

theorem dropQuote_false (r : Str) : dropQuote false r = r := by
  cases r <;> rfl

theorem parseParamValueI_eq (h : At bytes pos s) :
    ∃ q, parseParamValueI bytes pos = .ok ((parseParamValue s).1, q) ∧ At bytes q (parseParamValue s).2 := by
  obtain ⟨p1, e1, h1⟩ := skipWsI_eq h
  rw [parseParamValueI, parseParamValue, e1, Out.ok_bind]
  generalize HttpHeaders.skipWs s = r0 at h1 ⊢
  cases r0 with
  | nil => exact ⟨p1, if_pos h1.eq_length, h1⟩
  | cons b t =>
    rw [if_neg h1.ne_length, h1.get_cons]
    simp only
    generalize decide (b = 34) = quoted
    have hvs : At bytes (if quoted = true then p1 + 1 else p1) (if quoted = true then t else b :: t) := by
      cases quoted
      · exact h1
      · exact h1.succ
    generalize (if quoted = true then p1 + 1 else p1) = vs at hvs ⊢
    generalize (if quoted = true then t else b :: t) = s2 at hvs ⊢
    obtain ⟨h3, hvalue⟩ := hvs.advance (scanValue_append quoted false s2)
    rw [valueGo_eq bytes quoted _ vs s2 false hvs (by have := hvs.length; omega), Out.ok_bind, hvalue]
    simp only
    generalize (scanValue quoted false s2).1 = v at h3 ⊢
    generalize (scanValue quoted false s2).2 = r3 at h3 ⊢
    generalize vs + v.length = p3 at h3 ⊢
    have h4 : At bytes (if (quoted && decide (p3 ≠ bytes.length)) = true then p3 + 1 else p3)
        (dropQuote quoted r3) := by
      cases quoted
      · rw [dropQuote_false]
        exact h3
      · cases r3 with
        | nil => simpa [dropQuote, h3.eq_length] using h3
        | cons c t' => simpa [dropQuote, h3.ne_length] using h3.succ
    generalize (if (quoted && decide (p3 ≠ bytes.length)) = true then p3 + 1 else p3) = p4 at h4 ⊢
    generalize dropQuote quoted r3 = r4 at h4 ⊢
    obtain ⟨p5, e5, h5⟩ := skipWsI_eq h4
    rw [e5, Out.ok_bind, finishValue]
    generalize HttpHeaders.skipWs r4 = r0 at h5 ⊢
    cases r0 with
    | nil => exact ⟨p5, if_neg (not_not_intro h5.eq_length), h5⟩
    | cons c t5 =>
      rw [if_pos h5.ne_length, h5.get_cons]
      simp only
      by_cases hc : c = 59
      · rw [if_pos hc, if_pos hc]
        exact ⟨_, rfl, h5.succ⟩
      · rw [if_neg hc, if_neg hc]
        exact ⟨_, rfl, At.toEnd bytes⟩

theorem parseNextI_eq (h : At bytes pos s) :
    ∃ q, parseNextI bytes pos = .ok ((parseNext s).1, q) ∧ At bytes q (parseNext s).2 := by
  obtain ⟨q1, e1, h1⟩ := parseParamNameI_eq h
  rw [parseNextI, parseNext, e1, Out.ok_bind]
  generalize parseParamName s = pn at h1
  obtain ⟨_ | name, rest⟩ := pn
  · exact ⟨q1, rfl, h1⟩
  · obtain ⟨p2, e2, h2⟩ := skipWsI_eq h1
    simp only
    rw [e2, Out.ok_bind]
    generalize HttpHeaders.skipWs rest = r0 at h2 ⊢
    cases r0 with
    | nil => exact ⟨p2, if_pos h2.eq_length, h2⟩
    | cons b t =>
      rw [if_neg h2.ne_length, h2.get_cons]
      simp only
      by_cases hb : b ≠ 61
      · rw [if_pos hb, if_pos hb]
        exact ⟨_, rfl, At.toEnd bytes⟩
      · rw [if_neg hb, if_neg hb]
        obtain ⟨p4, e4, h4⟩ := skipWsI_eq h2.succ
        obtain ⟨q5, e5, h5⟩ := parseParamValueI_eq h4
        rw [e4, Out.ok_bind, e5, Out.ok_bind]
        generalize parseParamValue (HttpHeaders.skipWs t) = pv at h5
        obtain ⟨_ | ⟨v, q⟩, rest3⟩ := pv
        · exact ⟨q5, rfl, h5⟩
        · exact ⟨q5, rfl, h5⟩

end

/-- The fuel `len − pos + 1` is never used up: every round shortens what the cursor sees
(`parseNext_lt`, the measure by which `paramsLoop` itself is a total function). -/
theorem paramsLoopI_eq (bytes : Str) : ∀ (fuel pos : Nat) (s : Str) (fn : Option Str), At bytes pos s →
    s.length + 1 ≤ fuel → paramsLoopI bytes fuel pos fn = .ok (paramsLoop s fn) := by
  intro fuel
  induction fuel with
  | zero => intro _ _ _ _ h; omega
  | succ f ih =>
    intro pos s fn h hf
    rw [paramsLoopI, paramsLoop]
    by_cases hs : s = []
    · rw [if_pos (h.eq_length_iff.mpr hs), dif_pos hs]
    · obtain ⟨q, e, hq⟩ := parseNextI_eq h
      have hlt := parseNext_lt s hs
      rw [if_neg (mt h.eq_length_iff.mp hs), dif_neg hs, e, Out.ok_bind]
      have hrec : ∀ fn', paramsLoopI bytes f q fn' = .ok (paramsLoop (parseNext s).2 fn') :=
        fun fn' => ih q _ fn' hq (by omega)
      simp only
      cases (parseNext s).1 with
      | none => exact hrec fn
      | some p =>
        simp only
        cases eqIgnoreCase p.name (bs "filename*")
        · cases eqIgnoreCase p.name (bs "filename")
          · exact hrec fn
          · cases decodeValue p with
            | some v => exact hrec (some v)
            | none => exact hrec fn
        · cases decodeValue p with
          | some v => rfl
          | none => exact hrec fn

/-- What the index-faithful parser returns, in terms of the suffix-passing model's result. -/
def liftRes : Except ParseErr ContentDisposition → Res
  | .ok cd => .ok cd
  | .error e => .err e

/-- **The two models of `ContentDisposition::try_from(&[u8])` are the same function.** -/
theorem parseI_eq_parse (bytes : Str) : parseI bytes = liftRes (HttpHeaders.parse bytes) := by
  obtain ⟨p0, e0, h0⟩ := skipWsI_eq (At.zero bytes)
  rw [parseI, HttpHeaders.parse, e0]
  simp only
  cases hs0 : HttpHeaders.skipWs bytes with
  | nil => simp [h0.eq_length_iff.mpr hs0, liftRes]
  | cons c0 t0 =>
    rw [hs0] at h0
    obtain ⟨h1, hty⟩ := h0.advance (spanP_append (fun b => !(isWs b || b = 59)) (c0 :: t0))
    rw [if_neg h0.ne_length, scan_eq _ h0]
    simp only
    rw [hty]
    simp only
    cases parseType (spanP (fun b => !(isWs b || b = 59)) (c0 :: t0)).1 with
    | error e => rfl
    | ok dt =>
      simp only
      rw [paramsLoopI_eq bytes _ _ _ none h1 (by have := h1.length; omega)]
      rfl

/-- **`ContentDisposition::try_from(&[u8])` returns for every byte string**: the suffix-passing model
has no panic and no fuel. -/
theorem parseI_returns (bytes : Str) : (parseI bytes).Returns := by
  rw [parseI_eq_parse]
  cases HttpHeaders.parse bytes <;> trivial

/-- The disposition type token of a header value: skip leading ASCII whitespace, then take the
longest run of bytes that are neither ASCII whitespace nor `;`. -/
def typeToken (s : Str) : Str := (s.dropWhile isWs).takeWhile (fun b => !(isWs b || b = 59))

theorem parseType_error_iff (tok : Str) :
    (∃ e, parseType tok = .error e) ↔
      ¬ (eqIgnoreCase tok (bs "inline") = true ∨ eqIgnoreCase tok (bs "attachment") = true ∨
          (tok ≠ [] ∧ ∀ b ∈ tok, isTchar b = true)) := by
  rw [parseType, ← List.all_eq_true, ne_eq, ← List.isEmpty_iff]
  cases eqIgnoreCase tok (bs "inline") <;> cases eqIgnoreCase tok (bs "attachment") <;>
    cases tok.isEmpty <;> cases tok.all isTchar <;> simp

theorem parseType_nil : parseType [] = .error .invalidType := by
  rw [parseType, bs_ofList, bs_ofList]
  rfl

/-- Parsing fails exactly when the disposition type (what stands between the leading whitespace and
the next whitespace or `;`) is rejected: nothing behind it can make parsing fail. -/
theorem parse_error_iff_type (s : Str) :
    (∃ e, HttpHeaders.parse s = .error e) ↔
      ∃ e, parseType (spanP (fun b => !(isWs b || b = 59)) (HttpHeaders.skipWs s)).1 = .error e := by
  rw [HttpHeaders.parse]
  cases HttpHeaders.skipWs s with
  | nil => exact ⟨fun _ => ⟨_, parseType_nil⟩, fun _ => ⟨_, rfl⟩⟩
  | cons c t =>
    simp only
    cases parseType (spanP (fun b => !(isWs b || b = 59)) (c :: t)).1 with
    | error e => exact ⟨fun _ => ⟨_, rfl⟩, fun _ => ⟨_, rfl⟩⟩
    | ok ty => exact ⟨fun ⟨_, h⟩ => (nomatch h), fun ⟨_, h⟩ => (nomatch h)⟩

/-- Parsing fails exactly when the type token is not `inline`, not `attachment` (case-insensitively)
and not a non-empty RFC 7230 token. -/
theorem parse_error_iff_token (s : Str) :
    (∃ e, HttpHeaders.parse s = .error e) ↔
      ¬ (eqIgnoreCase (typeToken s) (bs "inline") = true ∨ eqIgnoreCase (typeToken s) (bs "attachment") = true ∨
          (typeToken s ≠ [] ∧ ∀ b ∈ typeToken s, isTchar b = true)) := by
  rw [parse_error_iff_type, parseType_error_iff, typeToken, skipWs_eq_dropWhile, spanP_eq]

end Ruma.ScanCd
