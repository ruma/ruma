/-
  C17 helper lemmas for the scanner primitives of `Model/ScanCommon.lean`.
-/
import RumaModel.Model.ScanCommon
import RumaModel.Lemmas.Ids
import RumaModel.Lemmas.Json
namespace Ruma.Scan
open Ruma

@[simp] theorem _root_.Ruma.Scan.Out.ok_bind {α β : Type} (a : α) (f : α → Out β) : (Out.ok a).bind f = f a := rfl

theorem bytesSlice_isSome_iff {s : Str} {i j : Nat} :
    (bytesSlice s i j).isSome = true ↔ (i ≤ j ∧ j ≤ s.length) := by
  unfold bytesSlice
  split <;> simp_all

theorem bytesSlice_bounds {s x : Str} {i j : Nat} (h : bytesSlice s i j = some x) : i ≤ j ∧ j ≤ s.length :=
  bytesSlice_isSome_iff.mp (h ▸ rfl)

theorem bytesSlice_length {s x : Str} {i j : Nat} (h : bytesSlice s i j = some x) : i + x.length = j := by
  have hb := bytesSlice_bounds h
  rw [bytesSlice, if_pos hb] at h
  cases h
  rw [List.length_drop, List.length_take, Nat.min_eq_left hb.2]
  omega

theorem bytesSlice_join {s a b : Str} {i j k : Nat} (ha : bytesSlice s i j = some a)
    (hb : bytesSlice s j k = some b) : bytesSlice s i k = some (a ++ b) := by
  have h1 := bytesSlice_bounds ha
  have h2 := bytesSlice_bounds hb
  rw [bytesSlice, if_pos h1] at ha
  rw [bytesSlice, if_pos h2] at hb
  cases ha
  cases hb
  rw [bytesSlice, if_pos ⟨Nat.le_trans h1.1 h2.1, h2.2⟩]
  have e1 : s.take k = s.take j ++ (s.take k).drop j := by
    have := (List.take_append_drop j (s.take k)).symm
    rwa [List.take_take, Nat.min_eq_left h2.1] at this
  conv => lhs; rw [e1]
  rw [List.drop_append_of_le_length (by rw [List.length_take]; omega)]

theorem bytesSlice_split {s a b : Str} {i k : Nat} (h : bytesSlice s i k = some (a ++ b)) :
    bytesSlice s i (i + a.length) = some a ∧ bytesSlice s (i + a.length) k = some b := by
  have hb := bytesSlice_bounds h
  have hl := bytesSlice_length h
  rw [List.length_append] at hl
  rw [bytesSlice, if_pos hb] at h
  have h' := Option.some.inj h
  constructor
  · have e : s.take (i + a.length) = (s.take k).take (i + a.length) := by
      rw [List.take_take, Nat.min_eq_left (by omega)]
    rw [bytesSlice, if_pos (by omega), e, List.drop_take, h', Nat.add_sub_cancel_left, List.take_left]
  · rw [bytesSlice, if_pos (by omega), ← List.drop_drop, h', List.drop_left]

theorem findByte_get {c : Nat} {s : Str} {k : Nat} (h : findByte c s = some k) : s[k]? = some c := by
  obtain ⟨pre, post, rfl, _, rfl⟩ := Ids.find_eq_some h
  simp

theorem strTo_at {a : Str} {c : Nat} {b : Str} (hc : c < 128) :
    strTo (a ++ c :: b) a.length = some a := by
  simp [strTo, Ids.isBoundary_at a c b hc]

theorem strFrom_at {a : Str} {c : Nat} {b : Str} (hc : c < 128) :
    strFrom (a ++ c :: b) a.length = some (c :: b) := by
  simp [strFrom, Ids.isBoundary_at a c b hc]

theorem strFrom_after {a : Str} {c : Nat} {b : Str} (hs : Ids.Sep (a ++ c :: b)) (hc : c < 128) :
    strFrom (a ++ c :: b) (a.length + 1) = some b := by
  have hd : List.drop (a.length + 1) (a ++ c :: b) = b := by
    have : a ++ c :: b = (a ++ [c]) ++ b := by simp
    rw [this]; exact List.drop_left' (by simp)
  simp [strFrom, Ids.isBoundary_after hs hc, hd]

theorem strFrom_zero (s : Str) : strFrom s 0 = some s := by
  simp [strFrom, Ids.isBoundary_zero]

theorem strFrom_suffix {s r : Str} {i : Nat} (h : strFrom s i = some r) : r <:+ s := by
  rw [strFrom] at h
  split at h
  · cases h
    exact List.drop_suffix _ _
  · cases h

theorem findP_eq_some {p : Nat → Bool} {s : Str} {i : Nat} (h : findP p s = some i) :
    ∃ pre c post, s = pre ++ c :: post ∧ (∀ b ∈ pre, p b = false) ∧ p c = true ∧ i = pre.length := by
  induction s generalizing i with
  | nil => cases h
  | cons b t ih =>
    rw [findP] at h
    cases hb : p b
    · rw [hb, if_neg Bool.false_ne_true] at h
      obtain ⟨j, hj, rfl⟩ := Option.map_eq_some_iff.1 h
      obtain ⟨pre, c, post, rfl, hn, hc, rfl⟩ := ih hj
      exact ⟨b :: pre, c, post, rfl, List.forall_mem_cons.2 ⟨hb, hn⟩, hc, rfl⟩
    · rw [hb, if_pos rfl] at h
      cases h
      exact ⟨[], b, t, rfl, nofun, hb, rfl⟩

theorem findP_eq_none_iff {p : Nat → Bool} {s : Str} : findP p s = none ↔ ∀ b ∈ s, p b = false := by
  induction s with
  | nil => simp [findP]
  | cons b t ih => cases hb : p b <;> simp [findP, hb, ih]

theorem findP_append {p : Nat → Bool} {pre post : Str} {c : Nat} (hpre : ∀ b ∈ pre, p b = false)
    (hc : p c = true) : findP p (pre ++ c :: post) = some pre.length := by
  induction pre with
  | nil => simp [findP, hc]
  | cons b t ih =>
    have hb : p b = false := hpre b (by simp)
    simp [findP, hb, ih (fun x hx => hpre x (by simp [hx]))]

theorem rfindByte_spec (c : Nat) (s : Str) :
    match rfindByte c s with
    | none => c ∉ s
    | some i => ∃ pre post, s = pre ++ c :: post ∧ c ∉ post ∧ i = pre.length := by
  induction s with
  | nil => exact List.not_mem_nil
  | cons b t ih =>
    rw [rfindByte]
    cases hr : rfindByte c t with
    | some j =>
      rw [hr] at ih
      obtain ⟨pre, post, rfl, hn, rfl⟩ := ih
      exact ⟨b :: pre, post, rfl, hn, rfl⟩
    | none =>
      rw [hr] at ih
      by_cases hb : b = c
      · rw [if_pos hb]
        exact ⟨[], t, hb ▸ rfl, ih, rfl⟩
      · rw [if_neg hb]
        exact List.not_mem_cons_of_ne_of_not_mem (Ne.symm hb) ih

theorem findIterGo_spec (nd : Str) (hnd : nd ≠ []) :
    ∀ (hay : Str) (pos skip : Nat),
      (∀ p ∈ findIterGo nd hay pos skip, ∃ k, p = pos + k ∧ skip ≤ k ∧ k + nd.length ≤ hay.length ∧
        nd.isPrefixOf (hay.drop k) = true) ∧
      List.Pairwise (fun a b => a + nd.length ≤ b) (findIterGo nd hay pos skip) := by
  have hlen : 1 ≤ nd.length := List.length_pos_iff.mpr hnd
  intro hay
  induction hay with
  | nil => intro pos skip; simp [findIterGo]
  | cons c t ih =>
    intro pos skip
    have shift : ∀ {s' p : Nat}, (∃ k', p = pos + 1 + k' ∧ s' ≤ k' ∧ k' + nd.length ≤ t.length ∧
          nd.isPrefixOf (t.drop k') = true) →
        ∃ k, p = pos + k ∧ s' + 1 ≤ k ∧ k + nd.length ≤ (c :: t).length ∧
          nd.isPrefixOf ((c :: t).drop k) = true :=
      fun ⟨k', e, h1, h2, h3⟩ => ⟨k' + 1, by omega, by omega, by rw [List.length_cons]; omega, h3⟩
    cases skip with
    | succ s =>
      obtain ⟨h1, h2⟩ := ih (pos + 1) s
      exact ⟨fun p hp => shift (h1 p hp), h2⟩
    | zero =>
      simp only [findIterGo]
      split
      · rename_i hpre
        obtain ⟨h1, h2⟩ := ih (pos + 1) (nd.length - 1)
        refine ⟨fun p hp => ?_, List.Pairwise.cons (fun p hp => ?_) h2⟩
        · rcases List.mem_cons.mp hp with rfl | hp
          · exact ⟨0, rfl, Nat.le_refl _, (Nat.zero_add _).symm ▸ (List.isPrefixOf_iff_prefix.mp hpre).length_le, hpre⟩
          · obtain ⟨k, e, _, h⟩ := shift (h1 p hp)
            exact ⟨k, e, Nat.zero_le _, h⟩
        · obtain ⟨k, e, hk, _⟩ := shift (h1 p hp)
          omega
      · obtain ⟨h1, h2⟩ := ih (pos + 1) 0
        refine ⟨fun p hp => ?_, h2⟩
        obtain ⟨k, e, _, h⟩ := shift (h1 p hp)
        exact ⟨k, e, Nat.zero_le _, h⟩

theorem findIter_mem {nd hay : Str} (hnd : nd ≠ []) {p : Nat} (hp : p ∈ findIter nd hay) :
    p + nd.length ≤ hay.length ∧ nd.isPrefixOf (hay.drop p) = true := by
  obtain ⟨k, e, _, h⟩ := (findIterGo_spec nd hnd hay 0 0).1 p hp
  rw [Nat.zero_add] at e
  exact e ▸ h

theorem findIter_pairwise {nd hay : Str} (hnd : nd ≠ []) :
    List.Pairwise (fun a b => a + nd.length ≤ b) (findIter nd hay) :=
  (findIterGo_spec nd hnd hay 0 0).2

theorem findIter_head {n : Nat} {nd hay : Str} {p : Nat} (hp : p ∈ findIter (n :: nd) hay) :
    hay[p]? = some n := by
  have h := (findIter_mem (by simp) hp).2
  obtain ⟨r, hr⟩ := List.isPrefixOf_iff_prefix.mp h
  have : (hay.drop p)[0]? = some n := by rw [← hr]; simp
  simpa using this

theorem findSub_eq_some {p s : Str} {i : Nat} (h : findSub p s = some i) :
    ∃ a b, s = a ++ p ++ b ∧ i = a.length := by
  induction s generalizing i with
  | nil => cases h
  | cons c t ih =>
    rw [findSub] at h
    split at h
    · next hpre =>
      obtain ⟨r, hr⟩ := List.isPrefixOf_iff_prefix.mp hpre
      cases h
      exact ⟨[], r, hr.symm, rfl⟩
    · obtain ⟨j, hj, rfl⟩ := Option.map_eq_some_iff.1 h
      obtain ⟨a, b, rfl, rfl⟩ := ih hj
      exact ⟨c :: a, b, rfl, rfl⟩

end Ruma.Scan
