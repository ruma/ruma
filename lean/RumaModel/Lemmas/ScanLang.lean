/-
  C17 helper lemmas: the `language-` class scan of `CodeData::parse` (`Model/ScanLang.lean`) returns for
  every well-formed attribute value, and what it finds is a class of the attribute. Both come from one
  description of a round of the loop (`langLoop_step`).
-/
import RumaModel.Model.ScanLang
import RumaModel.Lemmas.ScanCommon
namespace Ruma.ScanLang
open Ruma Ruma.Scan Ruma.Ids

theorem isAsciiWs_lt {b : Nat} (h : isAsciiWs b = true) : b < 128 := by
  simp [isAsciiWs] at h
  omega

/-- The guard looks at the last byte before the occurrence, if there is one. -/
theorem startGuard_at (a x : Str) :
    startGuard (a ++ x) a.length = some (a.getLast?.any (fun w => !isAsciiWs w)) := by
  unfold startGuard
  rcases List.eq_nil_or_concat a with rfl | ⟨a', w, rfl⟩
  · rfl
  · simp

/-- The language ends behind the longest run `lang` without ASCII whitespace. -/
theorem languageEnd_at {v lang rst : Str} {ls : Nat} (hlang : ∀ b ∈ lang, isAsciiWs b = false)
    (hrst : rst = [] ∨ ∃ w r', rst = w :: r' ∧ isAsciiWs w = true)
    (hv : v.length = ls + (lang ++ rst).length) :
    languageEnd v (lang ++ rst) ls = ls + lang.length := by
  unfold languageEnd
  rcases hrst with rfl | ⟨w, r', rfl, hw⟩
  · rw [List.append_nil, findP_eq_none_iff.mpr hlang]
    simpa using hv
  · rw [findP_append hlang hw]

/-- Every string is a run without ASCII whitespace followed by nothing or by an ASCII whitespace. -/
theorem span_ws : ∀ s : Str, ∃ lang rst, s = lang ++ rst ∧ (∀ b ∈ lang, isAsciiWs b = false) ∧
    (rst = [] ∨ ∃ w r', rst = w :: r' ∧ isAsciiWs w = true)
  | [] => ⟨[], [], rfl, nofun, .inl rfl⟩
  | b :: t => by
    cases hb : isAsciiWs b
    · obtain ⟨lang, rst, rfl, hlang, hrst⟩ := span_ws t
      exact ⟨b :: lang, rst, rfl, fun x hx => (List.mem_cons.mp hx).elim (· ▸ hb) (hlang x), hrst⟩
    · exact ⟨[], b :: t, rfl, nofun, .inr ⟨b, t, rfl, hb⟩⟩

/-- The value around a position reported by `match_indices("language-")`. -/
theorem occurrence {v : Str} {ms : Nat} (h : ms ∈ findIter langPrefix v) :
    ∃ a lang rst, v = a ++ langPrefix ++ (lang ++ rst) ∧ a.length = ms ∧
      (∀ b ∈ lang, isAsciiWs b = false) ∧ (rst = [] ∨ ∃ w r', rst = w :: r' ∧ isAsciiWs w = true) := by
  obtain ⟨hle, hpre⟩ := findIter_mem (nd := langPrefix) (by decide) h
  obtain ⟨r0, hr0⟩ := List.isPrefixOf_iff_prefix.mp hpre
  obtain ⟨lang, rst, rfl, hlang, hrst⟩ := span_ws r0
  refine ⟨v.take ms, lang, rst, ?_, List.length_take_of_le (by omega), hlang, hrst⟩
  rw [List.append_assoc, hr0, List.take_append_drop]

/-- On a well-formed value the two positions are char boundaries: the first follows the `-` of the
prefix, the second holds an ASCII whitespace or is the end of the value. -/
theorem boundaries {a lang rst : Str} (hs : Sep (a ++ langPrefix ++ (lang ++ rst)))
    (hrst : rst = [] ∨ ∃ w r', rst = w :: r' ∧ isAsciiWs w = true) :
    isBoundary (a ++ langPrefix ++ (lang ++ rst)) (a.length + langPrefix.length) = true ∧
    isBoundary (a ++ langPrefix ++ (lang ++ rst)) (a.length + langPrefix.length + lang.length) = true := by
  constructor
  · have e : a ++ langPrefix ++ (lang ++ rst) = (a ++ langPrefix.take 8) ++ 45 :: (lang ++ rst) := by
      simp [langPrefix]
    have l : a.length + langPrefix.length = (a ++ langPrefix.take 8).length + 1 := by
      simp [langPrefix]
    rw [e] at hs ⊢
    rw [l]
    exact isBoundary_after hs (by omega)
  · have l : a.length + langPrefix.length + lang.length = (a ++ langPrefix ++ lang).length := by
      simp only [List.length_append]
    rw [l, ← List.append_assoc]
    rcases hrst with rfl | ⟨w, r', rfl, hw⟩
    · rw [List.append_nil]
      exact isBoundary_length _
    · exact isBoundary_at _ w r' (isAsciiWs_lt hw)

/-- The language found by the scan is a class of the attribute: it follows `language-`, which is at
the start of the value or behind an ASCII whitespace; it is not empty, contains no ASCII whitespace
and extends to the next ASCII whitespace or the end; the attribute is dropped from the remaining
attributes exactly when this class is the whole value. -/
def IsLanguageClass (v lang : Str) (keep : Bool) : Prop :=
  ∃ a r, v = a ++ langPrefix ++ lang ++ r ∧ lang ≠ [] ∧ (∀ b ∈ lang, isAsciiWs b = false) ∧
    (a = [] ∨ ∃ a' w, a = a' ++ [w] ∧ isAsciiWs w = true) ∧
    (r = [] ∨ ∃ w r', r = w :: r' ∧ isAsciiWs w = true) ∧
    (keep = false ↔ (a = [] ∧ r = []))

/-- One round of the loop, at a position reported by `match_indices("language-")`: it goes on with
the next position, or it ends the loop with a class of the attribute, or it panics — and that only
when the value is not well-formed (one of its two slice positions is then not a char boundary). -/
theorem langLoop_step {v : Str} {ms : Nat} (hms : ms ∈ findIter langPrefix v) (rest : List Nat) :
    langLoop v (ms :: rest) = langLoop v rest ∨
    (langLoop v (ms :: rest) = .panic ∧ ¬ Sep v) ∨
    ∃ lang keep, langLoop v (ms :: rest) = .ok (some (lang, keep)) ∧ IsLanguageClass v lang keep := by
  obtain ⟨a, lang, rst, rfl, rfl, hlang, hrst⟩ := occurrence hms
  have hbd := boundaries (a := a) (lang := lang) (rst := rst)
  have hls : a.length + langPrefix.length = (a ++ langPrefix).length := List.length_append.symm
  have hv : (a ++ langPrefix ++ (lang ++ rst)).length = a.length + langPrefix.length + (lang ++ rst).length := by
    rw [List.length_append, hls]
  have hdrop : (a ++ langPrefix ++ (lang ++ rst)).drop (a.length + langPrefix.length) = lang ++ rst := by
    rw [hls, List.drop_left]
  have hslice : ((a ++ langPrefix ++ (lang ++ rst)).take (a.length + langPrefix.length + lang.length)).drop
      (a.length + langPrefix.length) = lang := by
    rw [List.drop_take, hdrop, Nat.add_sub_cancel_left, List.take_left]
  have hend : a.length + langPrefix.length + lang.length = (a ++ langPrefix ++ (lang ++ rst)).length ↔ rst = [] := by
    rw [hv, List.length_append, ← Nat.add_assoc, Nat.left_eq_add, List.length_eq_zero_iff]
  have hguard := startGuard_at a (langPrefix ++ (lang ++ rst))
  rw [← List.append_assoc] at hguard
  have hclass : ∀ keep, lang ≠ [] → (a = [] ∨ ∃ a' w, a = a' ++ [w] ∧ isAsciiWs w = true) →
      (keep = false ↔ a = [] ∧ rst = []) → IsLanguageClass (a ++ langPrefix ++ (lang ++ rst)) lang keep :=
    fun keep h1 h2 h3 => ⟨a, rst, (List.append_assoc _ _ _).symm, h1, hlang, h2, hrst, h3⟩
  generalize a ++ langPrefix ++ (lang ++ rst) = v at *
  rw [langLoop, hguard]
  cases hg : a.getLast?.any (fun w => !isAsciiWs w)
  · simp only
    rw [strFrom]
    cases hb : isBoundary v (a.length + langPrefix.length)
    · exact .inr (.inl ⟨rfl, fun hs => by simp [(hbd hs hrst).1] at hb⟩)
    · simp only [if_true, hdrop, languageEnd_at hlang hrst hv]
      by_cases hl : lang = []
      · subst hl
        exact .inl (if_pos rfl)
      · have hpos := List.length_pos_iff.mpr hl
        rw [if_neg (by omega), if_neg (by omega), strSlice, hb]
        cases hb2 : isBoundary v (a.length + langPrefix.length + lang.length)
        · exact .inr (.inl ⟨by simp, fun hs => by simp [(hbd hs hrst).2] at hb2⟩)
        · have hle : a.length + langPrefix.length ≤ a.length + langPrefix.length + lang.length := Nat.le_add_right _ _
          simp only [hle, decide_true, Bool.and_self, if_true, hslice]
          refine .inr (.inr ⟨lang, _, rfl, hclass _ hl ?_ (by simp [hend])⟩)
          -- the guard did not skip: nothing, or an ASCII whitespace, stands before the prefix
          rcases List.eq_nil_or_concat a with rfl | ⟨a', w, rfl⟩
          · exact .inl rfl
          · exact .inr ⟨a', w, List.concat_eq_append, by simpa using hg⟩
  · exact .inl rfl

theorem langLoop_returns {v : Str} (hs : Sep v) :
    ∀ l : List Nat, (∀ ms ∈ l, ms ∈ findIter langPrefix v) → (langLoop v l).Returns
  | [], _ => trivial
  | ms :: rest, h => by
    rcases langLoop_step (h ms List.mem_cons_self) rest with e | ⟨_, hn⟩ | ⟨_, _, e, _⟩
    · exact e ▸ langLoop_returns hs rest (fun m hm => h m (List.mem_cons_of_mem _ hm))
    · exact absurd hs hn
    · exact e ▸ trivial

theorem langLoop_found {v : Str} : ∀ l : List Nat, (∀ ms ∈ l, ms ∈ findIter langPrefix v) →
    ∀ {lang keep}, langLoop v l = .ok (some (lang, keep)) → IsLanguageClass v lang keep
  | [], _, _, _, h => nomatch h
  | ms :: rest, hl, lang, keep, h => by
    rcases langLoop_step (hl ms List.mem_cons_self) rest with e | ⟨e, _⟩ | ⟨_, _, e, hc⟩
    · exact langLoop_found rest (fun m hm => hl m (List.mem_cons_of_mem _ hm)) (e ▸ h)
    · exact nomatch e ▸ h
    · cases e ▸ h
      exact hc

theorem scanClass_returns (v : Str) (hs : Sep v) : (scanClass v).Returns := by
  have := langLoop_returns hs (findIter langPrefix v) (fun _ hm => hm)
  unfold scanClass
  cases h : langLoop v (findIter langPrefix v) with
  | ok r =>
    cases r with
    | none => trivial
    | some p => trivial
  | err => trivial
  | panic => exact (h ▸ this).elim
  | hang => exact (h ▸ this).elim

theorem scanClass_language (v : Str) {lang : Str} {keep : Bool}
    (h : scanClass v = .ok ⟨some lang, keep⟩) : IsLanguageClass v lang keep := by
  unfold scanClass at h
  split at h
  · rename_i lg kp hl
    cases h
    exact langLoop_found _ (fun _ hm => hm) hl
  all_goals cases h

end Ruma.ScanLang