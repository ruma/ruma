/-
  C17 helper lemmas: the `multipart/mixed` splitter of `Model/ScanMultipart.lean` neither panics nor
  runs out of fuel, and what `parse_multipart_body_part` cuts a part into.
-/
import RumaModel.Model.ScanMultipart
import RumaModel.Lemmas.ScanCommon
namespace Ruma.ScanMultipart
open Ruma Ruma.Scan

/-- A slice with a newline splits into the line up to and including it and the rest, which starts
where the code puts `line_end`. -/
theorem bytesSlice_line {s pre post : Str} {i k : Nat} (h : bytesSlice s i k = some (pre ++ 10 :: post)) :
    bytesSlice s i (pre.length + i + 1) = some (pre ++ [10]) ∧
    bytesSlice s (pre.length + i + 1) k = some post := by
  have e : pre.length + i + 1 = i + (pre ++ [10]).length := by
    rw [List.length_append, List.length_singleton]
    omega
  rw [e]
  exact bytesSlice_split (by rwa [List.append_assoc])

/-- The line loop with its cursor at `line_start`, where `H = bytes[headers_start..line_start]` and
`S = bytes[line_start..end]` and the fuel covers `S`: it fails with `MissingBodyPartInnerSeparator`, or
it returns `(headers, content)` with `H ++ S = headers ++ empty line ++ content`. -/
theorem lineLoop_spec (bytes : Str) (end_ hs : Nat) :
    ∀ (fuel ls : Nat) (H S : Str), bytesSlice bytes hs ls = some H → bytesSlice bytes ls end_ = some S →
      S.length + 1 ≤ fuel →
      lineLoop bytes end_ hs fuel ls = .err .sep ∨
      ∃ h c nl, lineLoop bytes end_ hs fuel ls = .ok (h, c) ∧ (nl = [13, 10] ∨ nl = [10]) ∧
        H ++ S = h ++ nl ++ c := by
  intro fuel
  induction fuel with
  | zero => intro _ _ _ _ _ h; omega
  | succ f ih =>
    intro ls H S hH hS hf
    rw [lineLoop, hS]
    simp only
    cases hfind : findByte 10 S with
    | none => exact .inl rfl
    | some k =>
      obtain ⟨pre, post, rfl, _, rfl⟩ := Ids.find_eq_some hfind
      obtain ⟨hline, hpost⟩ := bytesSlice_line hS
      simp only [hline]
      split
      · rw [hH, hpost]
        exact .inr ⟨H, post, pre ++ [10], rfl, ‹_›, by simp⟩
      · have hf' : post.length + 1 ≤ f := by
          rw [List.length_append, List.length_cons] at hf
          omega
        rcases ih _ _ post (bytesSlice_join hH hline) hpost hf' with h | ⟨h, c, nl, hr, hnl, hsh⟩
        · exact .inl h
        · exact .inr ⟨h, c, nl, hr, hnl, by rw [← hsh]; simp⟩

/-- **What `parse_multipart_body_part` does** when `start ≤ end ≤ len`: it fails with
`MissingBodyPartInnerSeparator`, or it returns `(headers, content)` and the part `bytes[start..end]`
is some text without a newline (the rest of the boundary line), a newline, the headers, an empty line
(`\r\n` or `\n`) and the content. -/
theorem parsePart_spec (bytes : Str) (start end_ : Nat) (h1 : start ≤ end_) (h2 : end_ ≤ bytes.length) :
    parsePart bytes start end_ = .err .sep ∨
    ∃ h c pre nl, parsePart bytes start end_ = .ok (h, c) ∧ 10 ∉ pre ∧ (nl = [13, 10] ∨ nl = [10]) ∧
      bytesSlice bytes start end_ = some (pre ++ [10] ++ h ++ nl ++ c) := by
  obtain ⟨sl, hsl⟩ := Option.isSome_iff_exists.mp (bytesSlice_isSome_iff.mpr ⟨h1, h2⟩)
  rw [parsePart, hsl]
  simp only
  cases hf : findByte 10 sl with
  | none => exact .inl rfl
  | some k =>
    obtain ⟨pre, post, rfl, hpre, rfl⟩ := Ids.find_eq_some hf
    obtain ⟨_, hpost⟩ := bytesSlice_line hsl
    have hnil := (bytesSlice_split (a := []) (b := post) hpost).1
    have hfuel := bytesSlice_length hpost
    simp only
    generalize pre.length + start + 1 = q at hpost hnil hfuel ⊢
    rcases lineLoop_spec bytes end_ q (end_ - q + 1) q [] post hnil hpost (by omega) with h | ⟨h, c, nl, hr, hnl, hsh⟩
    · exact .inl h
    · rw [List.nil_append] at hsh
      exact .inr ⟨h, c, pre, nl, hr, hpre, hnl, by rw [hsh]; simp⟩

theorem parsePart_returns (bytes : Str) (start end_ : Nat) (h1 : start ≤ end_) (h2 : end_ ≤ bytes.length) :
    (parsePart bytes start end_).Returns := by
  rcases parsePart_spec bytes start end_ h1 h2 with h | ⟨_, _, _, _, h, _⟩ <;>
  · rw [h]
    trivial

theorem parsePart_ok_shape (bytes : Str) (start end_ : Nat) (h1 : start ≤ end_) (h2 : end_ ≤ bytes.length)
    {h c : Str} (hr : parsePart bytes start end_ = .ok (h, c)) :
    ∃ pre nl, 10 ∉ pre ∧ (nl = [13, 10] ∨ nl = [10]) ∧
      bytesSlice bytes start end_ = some (pre ++ [10] ++ h ++ nl ++ c) := by
  rcases parsePart_spec bytes start end_ h1 h2 with he | ⟨h', c', pre, nl, hr', hpre, hnl, hs⟩
  · rw [he] at hr
    cases hr
  · rw [hr'] at hr
    cases hr
    exact ⟨pre, nl, hpre, hnl, hs⟩

/-- With the positions the other way round the very first slice panics. -/
theorem parsePart_panics_of_gt (bytes : Str) (start end_ : Nat) (h : end_ < start) :
    parsePart bytes start end_ = .panic := by
  have : ¬ (start ≤ end_ ∧ end_ ≤ bytes.length) := by omega
  simp [parsePart, bytesSlice, this]

/-- A boundary without CR cannot start inside the leading `--boundary`. -/
theorem prefix_then_match_le {noCrlf body : Str} {p : Nat} (hno : 13 ∉ noCrlf)
    (hpre : noCrlf.isPrefixOf body = true) (hp : body[p]? = some 13) : noCrlf.length ≤ p := by
  obtain ⟨r, rfl⟩ := List.isPrefixOf_iff_prefix.mp hpre
  by_cases h : p < noCrlf.length
  · rw [List.getElem?_append_left h] at hp
    exact absurd (List.mem_of_getElem? hp) hno
  · omega

theorem finish_returns (E : Ext) {r : Res (Str × Str)} (hr : r.Returns) : (finish E r).Returns := by
  cases r with
  | ok x =>
    obtain ⟨hdrs, file⟩ := x
    simp only [finish]
    cases E.headers hdrs <;> simp [Res.Returns]
  | err e => simp [finish, Res.Returns]
  | panic => exact hr.elim
  | hang => exact hr.elim

theorem contentPart_returns (E : Ext) (fullLen : Nat) (body : Str) (metaEnd : Nat) (bs2 : List Nat)
    (h : ∀ q ∈ bs2, metaEnd + fullLen ≤ q ∧ q ≤ body.length) :
    (contentPart E fullLen body metaEnd bs2).Returns := by
  cases bs2 with
  | nil => simp [contentPart, Res.Returns]
  | cons contentEnd rest =>
    obtain ⟨ha, hb⟩ := h contentEnd (by simp)
    exact finish_returns E (parsePart_returns body _ contentEnd ha hb)

theorem metaPart_returns (E : Ext) (fullLen : Nat) (body : Str) (mStart metaEnd : Nat) (bs2 : List Nat)
    (h1 : mStart ≤ metaEnd) (h2 : metaEnd ≤ body.length)
    (h : ∀ q ∈ bs2, metaEnd + fullLen ≤ q ∧ q ≤ body.length) :
    (metaPart E fullLen body mStart metaEnd bs2).Returns := by
  have hp := parsePart_returns body mStart metaEnd h1 h2
  unfold metaPart
  cases hr : parsePart body mStart metaEnd with
  | ok x =>
    obtain ⟨hdrs, mb⟩ := x
    simp only
    split
    · simp [Res.Returns]
    · exact contentPart_returns E fullLen body metaEnd bs2 h
  | err e => simp [Res.Returns]
  | panic => rw [hr] at hp; exact hp.elim
  | hang => rw [hr] at hp; exact hp.elim

/-- The positions handed to the metadata part are ordered and inside the body, and every later
boundary lies behind the end boundary of the metadata part. -/
theorem metaStart_spec (boundary body : Str) (hcr : 13 ∉ boundary) {ms me : Nat} {bs2 : List Nat}
    (h : metaStart (45 :: 45 :: boundary) (fullBoundary boundary) body
      (findIter (fullBoundary boundary) body) = some (ms, me :: bs2)) :
    ms ≤ me ∧ me ≤ body.length ∧
      ∀ q ∈ bs2, me + (fullBoundary boundary).length ≤ q ∧ q ≤ body.length := by
  have hfull : fullBoundary boundary = 13 :: 10 :: 45 :: 45 :: boundary := rfl
  have hne : fullBoundary boundary ≠ [] := by simp [hfull]
  have hpw := findIter_pairwise (nd := fullBoundary boundary) (hay := body) hne
  -- `me :: bs2` is what is left of the matches: they lie inside the body, one behind the other
  have htail : me :: bs2 <:+ findIter (fullBoundary boundary) body → me ≤ body.length ∧
      ∀ q ∈ bs2, me + (fullBoundary boundary).length ≤ q ∧ q ≤ body.length := by
    intro hsuf
    have hmem : ∀ q ∈ me :: bs2, q + (fullBoundary boundary).length ≤ body.length :=
      fun q hq => (findIter_mem hne (hsuf.subset hq)).1
    have hme := hmem me List.mem_cons_self
    refine ⟨by omega, fun q hq => ⟨List.rel_of_pairwise_cons (hpw.sublist hsuf.sublist) hq, ?_⟩⟩
    have := hmem q (List.mem_cons_of_mem _ hq)
    omega
  unfold metaStart at h
  split at h
  · -- no preamble: the body starts with `--boundary`, and a match starts with a CR
    rename_i hpre
    simp only [Option.some.injEq, Prod.mk.injEq] at h
    obtain ⟨rfl, hbs⟩ := h
    have hhead : body[me]? = some 13 := findIter_head (hfull ▸ hbs ▸ List.mem_cons_self)
    exact ⟨prefix_then_match_le (by simp [hcr]) hpre hhead, htail (hbs ▸ List.suffix_refl _)⟩
  · cases hbs : findIter (fullBoundary boundary) body with
    | nil => rw [hbs] at h; cases h
    | cons p0 bs1 =>
      rw [hbs] at h hpw htail
      cases h
      exact ⟨List.rel_of_pairwise_cons hpw List.mem_cons_self, htail (List.suffix_cons _ _)⟩

/-- **The splitter returns** (a value or an error) for every body and every boundary without CR. -/
theorem split_returns (E : Ext) (boundary body : Str) (hcr : 13 ∉ boundary) :
    (split E boundary body).Returns := by
  have hfull : fullBoundary boundary = 13 :: 10 :: 45 :: 45 :: boundary := rfl
  unfold split
  simp only [hfull]
  rw [← hfull]
  cases hm : metaStart (45 :: 45 :: boundary) (fullBoundary boundary) body
      (findIter (fullBoundary boundary) body) with
  | none => simp [Res.Returns]
  | some x =>
    obtain ⟨ms, bs1⟩ := x
    cases bs1 with
    | nil => simp [Res.Returns]
    | cons me bs2 =>
      simp only
      obtain ⟨h1, h2, h3⟩ := metaStart_spec boundary body hcr hm
      exact metaPart_returns E _ body ms me bs2 h1 h2 h3

