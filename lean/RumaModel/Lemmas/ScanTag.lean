/-
  C17 helper lemmas: `TagName::from(s).display_name()` (`Model/ScanTag.lean`) returns for every string,
  and what it returns.
-/
import RumaModel.Model.ScanTag
import RumaModel.Lemmas.ScanCommon
namespace Ruma.ScanTag
open Ruma Ruma.Scan Ruma.Ids

/-- `from` keeps the name; it builds `custom`, or another variant from a name that has a dot as its
second byte (`m.` for the three built-in names, `u.` for user tags). -/
theorem from_cases (s : Str) :
    (TagName.from s).asRef = s ∧
    (TagName.from s = .custom s ∨ ((∀ n, TagName.from s ≠ .custom n) ∧ ∃ c r, s = c :: 46 :: r)) := by
  rw [TagName.from]
  by_cases h1 : s = sFavourite
  · rw [if_pos h1]
    exact ⟨h1.symm, .inr ⟨nofun, 109, _, h1.trans (by rw [sFavourite, bs_ofList]; rfl)⟩⟩
  by_cases h2 : s = sLowPriority
  · rw [if_neg h1, if_pos h2]
    exact ⟨h2.symm, .inr ⟨nofun, 109, _, h2.trans (by rw [sLowPriority, bs_ofList]; rfl)⟩⟩
  by_cases h3 : s = sServerNotice
  · rw [if_neg h1, if_neg h2, if_pos h3]
    exact ⟨h3.symm, .inr ⟨nofun, 109, _, h3.trans (by rw [sServerNotice, bs_ofList]; rfl)⟩⟩
  rw [if_neg h1, if_neg h2, if_neg h3]
  split
  · rename_i hpre
    obtain ⟨r, rfl⟩ := List.isPrefixOf_iff_prefix.mp hpre
    exact ⟨rfl, .inr ⟨nofun, 117, r, rfl⟩⟩
  · exact ⟨rfl, .inl rfl⟩
theorem asRef_from (s : Str) : (TagName.from s).asRef = s := (from_cases s).1

/-- `display_name` is a slice `&self.as_ref()[start..]` in every variant, so what it returns is a
suffix of the tag name. -/
theorem displayName_suffix (t : TagName) {r : Str} (h : t.displayName = .ok r) : r <:+ t.asRef := by
  -- the name is made a variable first: on `m.favourite` etc. `split` would evaluate the slice
  generalize ha : t.asRef = a
  rw [TagName.displayName.eq_def, ha] at h
  cases t <;>
  · dsimp only at h
    split at h
    · cases h
      exact strFrom_suffix ‹_›
    · cases h

theorem displayNameOf_suffix (s : Str) {r : Str} (h : displayNameOf s = .ok r) : r <:+ s :=
  asRef_from s ▸ displayName_suffix _ h

/-- A variant other than `custom` whose name is one byte, a dot and `r` displays `r`: the position
behind the dot is a char boundary. -/
theorem displayName_dot {t : TagName} {c : Nat} {r : Str} (ht : ∀ n, t ≠ .custom n)
    (ha : t.asRef = c :: 46 :: r) (hs : Sep t.asRef) : t.displayName = .ok r := by
  have h2 : strFrom t.asRef 2 = some r := by
    rw [ha] at hs ⊢
    exact strFrom_after (a := [c]) hs (by omega)
  rw [TagName.displayName.eq_def]
  generalize t.asRef = a at h2 ⊢
  cases t with
  | custom n => exact absurd rfl (ht n)
  | _ =>
    dsimp only
    rw [h2]

/-- A custom tag displays what follows its last dot (the whole name without a dot). -/
theorem displayName_custom (s : Str) (hs : Sep s) : ∃ r, (TagName.custom s).displayName = .ok r := by
  rw [TagName.displayName, TagName.asRef]
  have hspec := rfindByte_spec 46 s
  cases hr : rfindByte 46 s with
  | none => exact ⟨s, by rw [strFrom_zero]⟩
  | some p =>
    rw [hr] at hspec
    obtain ⟨pre, post, rfl, _, rfl⟩ := hspec
    exact ⟨post, by rw [strFrom_after hs (by omega)]⟩

theorem displayNameOf_returns (s : Str) (hs : Sep s) : (displayNameOf s).Returns := by
  rw [displayNameOf]
  rcases (from_cases s).2 with h | ⟨ht, c, r, hr⟩
  · obtain ⟨r, hr⟩ := displayName_custom s hs
    rw [h, hr]
    trivial
  · rw [displayName_dot ht ((asRef_from s).trans hr) ((asRef_from s).symm ▸ hs)]
    trivial

end Ruma.ScanTag
