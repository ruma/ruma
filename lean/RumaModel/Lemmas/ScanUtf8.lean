/-
  C17 helper lemmas about well-formed UTF-8 (`Ids.utf8Valid`): well-formedness splits at every
  position that is not followed by a continuation byte, and a well-formed prefix leaves a well-formed
  rest. These turn "the needle is valid UTF-8" into "the match ends on a char boundary".
-/
import RumaModel.Model.ScanCommon
import RumaModel.Lemmas.Ids
namespace Ruma.Scan
open Ruma Ruma.Ids

/-- A well-formed string starts with one character: its first byte followed by continuation bytes
`cs`; and whether a string that starts with this character is well-formed depends only on what
follows the character. All that `utf8Valid` asks of the bytes of one character is in here, so the
lemmas below never look at lead-byte ranges again. -/
theorem utf8Valid_peel {b : Nat} {t : Str} (h : utf8Valid (b :: t) = true) :
    ∃ cs r, t = cs ++ r ∧ (∀ c ∈ cs, isCont c = true) ∧ ∀ r', utf8Valid (b :: (cs ++ r')) = utf8Valid r' := by
  unfold utf8Valid at h
  by_cases h1 : b < 128
  · refine ⟨[], t, rfl, nofun, fun r' => ?_⟩
    conv => lhs; unfold utf8Valid
    exact if_pos h1
  rw [if_neg h1] at h
  by_cases h2 : 194 ≤ b ∧ b ≤ 223
  · rw [if_pos h2] at h
    match t, h with
    | c1 :: t1, h =>
      simp only [Bool.and_eq_true] at h
      exact ⟨[c1], t1, rfl, by simp [h.1], fun r' => by simp [utf8Valid, h1, h2, h.1]⟩
  rw [if_neg h2] at h
  by_cases h3 : 224 ≤ b ∧ b ≤ 239
  · rw [if_pos h3] at h
    match t, h with
    | c1 :: c2 :: t2, h =>
      simp only [Bool.and_eq_true] at h
      exact ⟨[c1, c2], t2, rfl, by simp [h.1], fun r' => by simp [utf8Valid, h1, h2, h3, h.1]⟩
  rw [if_neg h3] at h
  by_cases h4 : 240 ≤ b ∧ b ≤ 244
  · rw [if_pos h4] at h
    match t, h with
    | c1 :: c2 :: c3 :: t3, h =>
      simp only [Bool.and_eq_true] at h
      exact ⟨[c1, c2, c3], t3, rfl, by simp [h.1], fun r' => by simp [utf8Valid, h1, h2, h3, h4, h.1]⟩
  rw [if_neg h4] at h
  cases h

/-- The rest after a well-formed prefix of a well-formed string is well-formed. -/
theorem utf8Valid_append_left : ∀ (p : Str) {b : Str}, utf8Valid (p ++ b) = true → utf8Valid p = true →
    utf8Valid b = true
  | [], _, h, _ => h
  | b0 :: p', b, h, hp => by
    obtain ⟨cs, r, e, _, hpeel⟩ := utf8Valid_peel hp
    rw [e, hpeel] at hp
    rw [e, List.cons_append, List.append_assoc, hpeel] at h
    exact utf8Valid_append_left r h hp
termination_by p => p.length
decreasing_by rw [e, List.length_cons, List.length_append]; omega

/-- A well-formed string splits into well-formed halves at every position whose next byte (if any) is
not a continuation byte. -/
theorem utf8Valid_split : ∀ (a : Str) {r : Str}, utf8Valid (a ++ r) = true →
    (∀ c t, r = c :: t → isCont c = false) → utf8Valid a = true ∧ utf8Valid r = true
  | [], _, h, _ => ⟨rfl, h⟩
  | b0 :: a', r, h, hr => by
    obtain ⟨cs, r0, e, hcs, hpeel⟩ := utf8Valid_peel h
    -- the first character ends inside `a'`: otherwise `r` would start with one of its continuation bytes
    obtain ⟨a'', ea, rfl⟩ : ∃ a'', a' = cs ++ a'' ∧ r0 = a'' ++ r := by
      rcases List.append_eq_append_iff.mp e with ⟨c', ec, er⟩ | ⟨a'', ea, er⟩
      · cases c' with
        | nil => exact ⟨[], by simpa using ec.symm, by simpa using er.symm⟩
        | cons c t =>
          have h1 := hr c _ er
          have h2 := hcs c (by simp [ec])
          rw [h1] at h2
          cases h2
      · exact ⟨a'', ea, er⟩
    rw [ea, List.cons_append, List.append_assoc, hpeel] at h
    obtain ⟨ha, hr'⟩ := utf8Valid_split a'' h hr
    exact ⟨by rw [ea, hpeel]; exact ha, hr'⟩
termination_by a => a.length
decreasing_by rw [ea, List.length_cons, List.length_append]; omega

/-- The head of a non-empty well-formed string is not a continuation byte (as a statement about
every way of writing it as `c :: t`). -/
theorem head_not_cont {r : Str} (h : utf8Valid r = true) : ∀ c t, r = c :: t → isCont c = false := by
  intro c t e
  subst e
  exact not_isCont_head_of_utf8Valid h

end Ruma.Scan
