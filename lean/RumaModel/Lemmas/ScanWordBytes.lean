/-
  C17 helper lemmas: the byte-level word matching of `Model/ScanWordBytes.lean` neither panics nor runs
  out of fuel on well-formed UTF-8 — every byte index it computes is a char boundary inside the text.
-/
import RumaModel.Model.ScanWordBytes
import RumaModel.Lemmas.ScanCommon
import RumaModel.Lemmas.ScanUtf8
namespace Ruma.ScanWordBytes
open Ruma Ruma.Scan Ruma.Ids

theorem isBoundary_of_byte {s : Str} {i : Nat} {b : Nat} (hg : s[i]? = some b) (hb : isCont b = false) :
    isBoundary s i = true := by
  unfold isBoundary
  split
  · rfl
  · simp [hg, hb]

theorem utf8Valid_drop {s : Str} (hv : utf8Valid s = true) {i : Nat} (hb : isBoundary s i = true) :
    utf8Valid (s.drop i) = true := by
  by_cases h0 : i = 0
  · subst h0
    exact hv
  have hs : utf8Valid (s.take i ++ s.drop i) = true := by rwa [List.take_append_drop]
  refine (utf8Valid_split _ hs fun c t e => ?_).2
  have hg : s[i]? = some c := by rw [← Nat.add_zero i, ← List.getElem?_drop, e]; rfl
  simpa [isBoundary, h0, hg] using hb

theorem isBoundary_prefix {p r : Str} (hr : ∀ x t, r = x :: t → isCont x = false) :
    isBoundary (p ++ r) p.length = true := by
  cases r with
  | nil => rw [List.append_nil]; exact isBoundary_length p
  | cons x t => exact isBoundary_of_byte (b := x) (by simp) (hr x t rfl)

theorem charLenGo_run {s r : Str} {i : Nat} (hr : ∀ x t, r = x :: t → isCont x = false) :
    ∀ (cs : Str) (fuel len : Nat) (p : Str), (∀ x ∈ cs, isCont x = true) → s = p ++ (cs ++ r) →
      p.length = i + len → 1 ≤ len → cs.length + 1 ≤ fuel →
      charLenGo s i fuel len = .ok (len + cs.length) := by
  intro cs
  induction cs with
  | nil =>
    intro fuel len p _ hs hp _ hf
    match fuel, hf with
    | f + 1, _ =>
      rw [charLenGo, hs, ← hp, List.nil_append, isBoundary_prefix hr]
      rfl
  | cons x cs ih =>
    intro fuel len p hcs hs hp hl hf
    match fuel, hf with
    | f + 1, hf =>
      have hg : s[i + len]? = some x := by
        rw [hs, ← hp, List.getElem?_append_right (Nat.le_refl _), Nat.sub_self]
        rfl
      have hnb : isBoundary s (i + len) = false := by
        rw [isBoundary, if_neg (by omega), hg]
        exact (congrArg (!·) (hcs x List.mem_cons_self))
      rw [charLenGo, hnb]
      simp only [Bool.false_eq_true, if_false]
      rw [ih f (len + 1) (p ++ [x]) (fun y hy => hcs y (List.mem_cons_of_mem _ hy))
        (by rw [hs, List.append_assoc]; rfl) (by rw [List.length_append, hp]; rfl) (Nat.le_add_left _ _)
        (Nat.le_of_succ_le_succ hf), List.length_cons, Nat.add_assoc, Nat.add_comm 1]

theorem charAt_eq {a cs r : Str} {c : Nat} (hc : isCont c = false) (hcs : ∀ x ∈ cs, isCont x = true)
    (hr : ∀ x t, r = x :: t → isCont x = false) :
    charAt (a ++ c :: (cs ++ r)) a.length = .ok (c :: cs) := by
  have e : a ++ c :: (cs ++ r) = (a ++ c :: cs) ++ r := (List.append_assoc a (c :: cs) r).symm
  have hl : a.length + (1 + cs.length) = (a ++ c :: cs).length := by
    rw [List.length_append, List.length_cons, Nat.add_comm 1]
  have hb1 : isBoundary (a ++ c :: (cs ++ r)) a.length = true := isBoundary_of_byte (b := c) (by simp) hc
  have hb2 : isBoundary (a ++ c :: (cs ++ r)) (a.length + (1 + cs.length)) = true := by
    rw [e, hl]
    exact isBoundary_prefix hr
  have hsl : ((a ++ c :: (cs ++ r)).take (a.length + (1 + cs.length))).drop a.length = c :: cs := by
    rw [e, hl, List.take_left, List.drop_left]
  have hcount : charCount (c :: cs) = 1 := by
    have : cs.filter (fun b => !isCont b) = [] := List.filter_eq_nil_iff.mpr (fun x hx => by simp [hcs x hx])
    simp [charCount, hc, this]
  rw [charAt, charLen, charLenGo_run hr cs _ 1 (a ++ [c]) hcs (by simp) (by simp) (Nat.le_refl _)
    (by simp; omega)]
  simp only [strSlice, hb1, hb2, hsl, hcount, Nat.le_add_right, decide_true, Bool.and_self, if_true]

theorem charAt_ok {s : Str} (hv : utf8Valid s = true) {i : Nat} (hb : isBoundary s i = true)
    (hi : i < s.length) : ∃ cs, charAt s i = .ok cs := by
  have hd := utf8Valid_drop hv hb
  obtain ⟨c, t, ht⟩ : ∃ c t, s.drop i = c :: t :=
    List.exists_cons_of_ne_nil (fun e => by simp [List.drop_eq_nil_iff] at e; omega)
  rw [ht] at hd
  obtain ⟨cs, r, rfl, hcs, hpeel⟩ := utf8Valid_peel hd
  have h := charAt_eq (a := s.take i) (not_isCont_head_of_utf8Valid hd) hcs (head_not_cont (hpeel r ▸ hd))
  rw [← ht, List.take_append_drop, List.length_take_of_le (Nat.le_of_lt hi)] at h
  exact ⟨_, h⟩

theorem prevGo_spec (s : Str) : ∀ (fuel pos : Nat), pos + 1 ≤ fuel →
    ∃ q, prevGo s fuel pos = .ok q ∧ q ≤ pos ∧ isBoundary s q = true := by
  intro fuel
  induction fuel with
  | zero => intro pos h; omega
  | succ f ih =>
    intro pos h
    rw [prevGo]
    by_cases hb : isBoundary s pos = true
    · exact ⟨pos, if_pos hb, Nat.le_refl _, hb⟩
    · -- position 0 is a boundary, so `pos -= 1` cannot underflow
      have h0 : pos ≠ 0 := fun e => hb (e ▸ isBoundary_zero s)
      rw [if_neg hb, if_neg h0]
      obtain ⟨q, hq, hle, hbq⟩ := ih (pos - 1) (by omega)
      exact ⟨q, hq, by omega, hbq⟩

theorem findPrevChar_ok {s : Str} (hv : utf8Valid s = true) {i : Nat} (hi : i ≤ s.length) :
    ∃ r, findPrevChar s i = .ok r ∧ (i ≠ 0 → r.isSome = true) := by
  unfold findPrevChar
  by_cases h0 : i = 0
  · simp [h0]
  · simp only [h0, if_false]
    obtain ⟨q, hq, hle, hbq⟩ := prevGo_spec s (i + 1) (i - 1) (by omega)
    rw [hq]
    simp only
    obtain ⟨cs, hcs⟩ := charAt_ok hv hbq (by omega)
    rw [hcs]
    exact ⟨some cs, rfl, fun _ => rfl⟩

theorem occurrence_boundaries {a p b : Str} (hv : utf8Valid (a ++ p ++ b) = true)
    (hp : utf8Valid p = true) (hne : p ≠ []) :
    isBoundary (a ++ p ++ b) a.length = true ∧
    isBoundary (a ++ p ++ b) (a.length + p.length) = true ∧
    utf8Valid (p ++ b) = true := by
  have hpb : ∀ x t, p ++ b = x :: t → isCont x = false := by
    obtain ⟨p0, pt, rfl⟩ := List.exists_cons_of_ne_nil hne
    intro x t e
    cases e
    exact not_isCont_head_of_utf8Valid hp
  have hsplit := utf8Valid_split a (List.append_assoc a p b ▸ hv) hpb
  have hb := utf8Valid_append_left p hsplit.2 hp
  refine ⟨?_, ?_, hsplit.2⟩
  · rw [List.append_assoc]
    exact isBoundary_prefix hpb
  · rw [← List.length_append]
    exact isBoundary_prefix (head_not_cont hb)

theorem wordBoundaryStart_ok {s : Str} (hv : utf8Valid s = true) {i : Nat} (hb : isBoundary s i = true)
    (hi : i < s.length) : ∃ r, wordBoundaryStart s i = .ok r := by
  unfold wordBoundaryStart
  obtain ⟨c0, hc0⟩ := charAt_ok hv hb hi
  rw [hc0]
  simp only [Out.bind]
  split
  · exact ⟨true, rfl⟩
  · obtain ⟨pc, hpc, _⟩ := findPrevChar_ok hv (Nat.le_of_lt hi)
    rw [hpc]
    exact ⟨_, rfl⟩

theorem wordBoundaryEnd_ok {s : Str} (hv : utf8Valid s = true) {j : Nat} (hb : isBoundary s j = true)
    (hj : j ≤ s.length) (h0 : j ≠ 0) : ∃ r, wordBoundaryEnd s j = .ok r := by
  unfold wordBoundaryEnd
  split
  · exact ⟨true, rfl⟩
  · rename_i hne
    obtain ⟨pc, hpc, hsome⟩ := findPrevChar_ok hv hj
    rw [hpc]
    simp only [Out.bind]
    match pc, hsome h0 with
    | some c, _ =>
      simp only
      split
      · exact ⟨true, rfl⟩
      · obtain ⟨c2, hc2⟩ := charAt_ok hv hb (by omega)
        rw [hc2]
        exact ⟨_, rfl⟩

theorem utf8Valid_of_ascii : ∀ (l : Str), (∀ x ∈ l, x < 128) → utf8Valid l = true
  | [], _ => rfl
  | x :: t, h => by
    unfold utf8Valid
    rw [if_pos (h x List.mem_cons_self)]
    exact utf8Valid_of_ascii t fun y hy => h y (List.mem_cons_of_mem _ hy)

theorem isWordByte_lt {b : Nat} (h : isWordByte b = true) : b < 128 := by
  simp [isWordByte, isAlnum, isDigit, isLower, isUpper] at h
  omega

theorem strFrom_of_not_cont {pre post : Str} {c : Nat} (hv : utf8Valid (pre ++ c :: post) = true)
    (hc : isCont c = false) :
    strFrom (pre ++ c :: post) pre.length = some (c :: post) ∧ utf8Valid (c :: post) = true := by
  rw [strFrom, isBoundary_of_byte (b := c) (by simp) hc, if_pos rfl, List.drop_left]
  exact ⟨rfl, (utf8Valid_split pre hv fun x t e => (List.cons.inj e).1 ▸ hc).2⟩

theorem nextWord_spec {s : Str} (hv : utf8Valid s = true) {i : Nat} (hb : isBoundary s i = true) :
    ∃ r, nextWord s i = .ok r ∧
      ∀ rest, r = some rest → utf8Valid rest = true ∧ rest.length < s.length := by
  unfold nextWord
  simp only [show strFrom s i = some (s.drop i) from if_pos hb]
  have hvt := utf8Valid_drop hv hb
  have hlen : (s.drop i).length ≤ s.length := by simp
  generalize s.drop i = t at hvt hlen
  cases hf : findP (fun b => !isWordByte b) t with
  | none => exact ⟨none, rfl, nofun⟩
  | some nw =>
    obtain ⟨pre, c, post, rfl, hpre, hc, rfl⟩ := findP_eq_some hf
    -- the word bytes `pre` are ASCII, so the non-word byte `c` starts a character
    have hpv : utf8Valid pre = true :=
      utf8Valid_of_ascii pre fun x hx => isWordByte_lt (by simpa using hpre x hx)
    have hcv := utf8Valid_append_left _ hvt hpv
    simp only [(strFrom_of_not_cont hvt (not_isCont_head_of_utf8Valid hcv)).1]
    cases hf2 : findP isWordByte (c :: post) with
    | none => exact ⟨none, rfl, nofun⟩
    | some w =>
      obtain ⟨pre2, d, post2, he, hpre2, hdw, rfl⟩ := findP_eq_some hf2
      rw [he] at hcv ⊢
      obtain ⟨h2, hv2⟩ := strFrom_of_not_cont hcv (isCont_false_of_lt (isWordByte_lt hdw))
      simp only [h2]
      refine ⟨_, rfl, fun rest e => ?_⟩
      cases e
      refine ⟨hv2, ?_⟩
      -- `pre2` is not empty: its first byte is `c`, which is not a word byte
      cases pre2 with
      | nil =>
        cases he
        simp [hdw] at hc
      | cons x pre2 =>
        have := congrArg List.length he
        simp only [List.length_append, List.length_cons] at this hlen ⊢
        omega

/-- **The literal word matcher returns** on every well-formed text and pattern: none of its byte
indices leaves the text or falls inside a character, `find_prev_char(end).unwrap()` has a previous
character, and the recursion on the rest of the text ends within `len + 1` calls. -/
theorem matchesWordLit_ok : ∀ (fuel : Nat) (s p : Str), utf8Valid s = true → utf8Valid p = true →
    s.length + 1 ≤ fuel → ∃ r, matchesWordLit fuel s p = .ok r := by
  intro fuel
  induction fuel with
  | zero => intro s p _ _ h; omega
  | succ f ih =>
    intro s p hv hp hf
    rw [matchesWordLit]
    by_cases h1 : s = p
    · exact ⟨true, if_pos h1⟩
    by_cases h2 : p = []
    · exact ⟨false, by rw [if_neg h1, if_pos h2]⟩
    rw [if_neg h1, if_neg h2]
    cases hfs : findSub p s with
    | none => exact ⟨false, rfl⟩
    | some start =>
      obtain ⟨a, b, rfl, rfl⟩ := findSub_eq_some hfs
      obtain ⟨hb1, hb2, _⟩ := occurrence_boundaries hv hp h2
      have hplen : 1 ≤ p.length := List.length_pos_iff.mpr h2
      have hlt : a.length < (a ++ p ++ b).length := by simp; omega
      have hle : a.length + p.length ≤ (a ++ p ++ b).length := by simp
      obtain ⟨wbs, hwbs⟩ := wordBoundaryStart_ok hv hb1 hlt
      obtain ⟨wbe, hwbe⟩ : ∃ wbe, (if wbs = true then wordBoundaryEnd (a ++ p ++ b) (a.length + p.length)
          else Out.ok false) = .ok wbe := by
        cases wbs
        · exact ⟨false, rfl⟩
        · exact wordBoundaryEnd_ok hv hb2 hle (by omega)
      simp only [hwbs, hwbe, Out.ok_bind]
      cases wbe
      · obtain ⟨r, hr, hrest⟩ := nextWord_spec hv hb1
        rw [if_neg Bool.false_ne_true, hr]
        cases r with
        | none => exact ⟨false, rfl⟩
        | some rest =>
          obtain ⟨hvr, hlr⟩ := hrest rest rfl
          exact ih rest p hvr hp (by omega)
      · exact ⟨true, rfl⟩

theorem matchesWord_ok (s p : Str) (hv : utf8Valid s = true) (hp : utf8Valid p = true) :
    ∃ r, matchesWord s p = .ok r :=
  matchesWordLit_ok (s.length + 1) s p hv hp (Nat.le_refl _)

end Ruma.ScanWordBytes
