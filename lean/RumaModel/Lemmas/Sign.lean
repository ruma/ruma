/-
  Lemmas for C02 (JSON signing and verification): key identifiers, the verification loops
  characterised as propositions, the object after signing, and that signing keeps valid signatures.
-/
import RumaModel.Lemmas.SignObj
import RumaModel.Lemmas.SignB64
import RumaModel.Spec.Sign
namespace Ruma.Sign
open Ruma Ruma.Spec.Sign

theorem splitColon_append (a b : Str) (h : 58 ∉ a) : splitColon (a ++ 58 :: b) = some (a, b) := by
  induction a with
  | nil => simp [splitColon]
  | cons c t ih =>
    have hc : c ≠ 58 := fun e => h (by simp [e])
    have ht : 58 ∉ t := fun e => h (by simp [e])
    simp [splitColon, hc, ih ht]

theorem splitColon_some (l a b : Str) (h : splitColon l = some (a, b)) : l = a ++ 58 :: b := by
  induction l generalizing a with
  | nil => simp [splitColon] at h
  | cons c t ih =>
    simp only [splitColon] at h
    split at h
    · rename_i e; simp at h; simp [← h.1, ← h.2, e]
    · split at h
      · rename_i a' b' e
        simp at h
        obtain ⟨h1, h2⟩ := h
        subst h1 h2
        rw [List.cons_append, ← ih a' e]
      · simp at h

theorem ed25519_colon (v : Str) : bs "ed25519:" ++ v = bs "ed25519" ++ 58 :: v := by
  rw [bs_ofList, bs_ofList]
  rfl

theorem supportedKeyId_iff (keyId : Str) : supportedKeyId keyId = true ↔ IsEd25519KeyId keyId := by
  have hn : (58 : Nat) ∉ bs "ed25519" ∧ bs "ed25519" ≠ [] := by rw [bs_ofList]; decide +kernel
  unfold supportedKeyId keyIdAlgorithm IsEd25519KeyId
  constructor
  · intro h
    cases hs : splitColon keyId with
    | none => rw [hs] at h; cases h
    | some p =>
      obtain ⟨a, b⟩ := p
      rw [hs] at h
      dsimp only at h
      split at h
      · rename_i a' heq
        split at heq <;> cases heq
        exact ⟨b, by rw [splitColon_some _ _ _ hs, of_decide_eq_true h, ed25519_colon]⟩
      · cases h
  · rintro ⟨v, rfl⟩
    rw [ed25519_colon, splitColon_append _ _ hn.1]
    dsimp only
    rw [if_neg hn.2]
    exact decide_eq_true rfl

theorem ed25519KeyId_eq (version : Str) : ed25519KeyId version = bs "ed25519:" ++ version :=
  (ed25519_colon version).symm

theorem supported_ed25519KeyId (version : Str) : supportedKeyId (ed25519KeyId version) = true :=
  (supportedKeyId_iff _).mpr ⟨version, ed25519KeyId_eq version⟩

theorem verifyBytes_ok_iff (S : SigScheme) (pk raw msg : List Nat) :
    verifyBytes S pk raw msg = .ok () ↔ pk.length = 32 ∧ raw.length = 64 ∧ S.verify pk msg raw = true := by
  unfold verifyBytes
  by_cases h1 : pk.length = 32 <;> by_cases h2 : raw.length = 64 <;>
    cases h3 : S.verify pk msg raw <;> simp [h1, h2]

/-- What one iteration of the loop requires of a supported entry. -/
def EntryOk (S : SigScheme) (pks : List (Str × Str)) (msg : List Nat) (p : Str × JVal) : Prop :=
  ∃ pk, Obj.get pks p.1 = some pk ∧ ValidSignature S pk msg p.2

theorem checkSet_ok_iff (S : SigScheme) (pks : List (Str × Str)) (msg : List Nat)
    (set : List (Str × JVal)) (c c' : Bool) :
    checkSet S pks msg set c = .ok c' ↔
      (∀ p ∈ set, supportedKeyId p.1 = true → EntryOk S pks msg p) ∧
      c' = (c || set.any (fun p => supportedKeyId p.1)) := by
  induction set generalizing c with
  | nil => simp only [checkSet, Except.ok.injEq, List.not_mem_nil, false_imp_iff, implies_true,
      List.any_nil, Bool.or_false, true_and, eq_comm]
  | cons p t ih =>
    obtain ⟨kid, v⟩ := p
    rw [checkSet, List.forall_mem_cons, List.any_cons]
    cases hs : supportedKeyId kid with
    | false =>
      rw [if_pos rfl, ih, Bool.false_or]
      exact and_congr_left' ⟨fun h => ⟨nofun, h⟩, fun h => h.2⟩
    | true =>
      rw [if_neg nofun, Bool.true_or, Bool.or_true]
      constructor
      · intro h
        split at h
        · cases h
        rename_i pk hpk
        split at h
        · rename_i s
          split at h
          · cases h
          rename_i raw hd
          split at h
          · cases h
          rename_i hv
          obtain ⟨h1, h2⟩ := (ih true).mp h
          obtain ⟨l1, l2, l3⟩ := (verifyBytes_ok_iff S pk raw msg).mp hv
          exact ⟨⟨fun _ => ⟨pk, hpk, s, raw, rfl, hd, l1, l2, l3⟩, h1⟩, h2⟩
        · cases h
      · rintro ⟨⟨he, hall⟩, hc'⟩
        obtain ⟨pk, hpk, s, raw, rfl, hd, l⟩ := he rfl
        simp only [hpk, hd, (verifyBytes_ok_iff S pk raw msg).mpr l]
        exact (ih true).mpr ⟨hall, hc'⟩

/-- The per-entity check of the model, as a proposition (same shape as `Spec.Sign.EntityVerifies`,
with the model's `supportedKeyId`). -/
def EntityOk (S : SigScheme) (keys : KeyMap) (sigs : Obj) (msg : List Nat) (entity : Str) : Prop :=
  ∃ set pks, Obj.get sigs entity = some (.obj set) ∧ Obj.get keys entity = some pks ∧
    (∃ p ∈ set, supportedKeyId p.1 = true) ∧
    ∀ p ∈ set, supportedKeyId p.1 = true → EntryOk S pks msg p

theorem verifyForEntity_ok_iff (S : SigScheme) (entity : Str) (keys : KeyMap) (sigs : Obj)
    (msg : List Nat) :
    verifyForEntity S entity keys sigs msg = .ok () ↔ EntityOk S keys sigs msg entity := by
  unfold verifyForEntity EntityOk
  constructor
  · intro h
    split at h
    · rename_i set hset
      split at h
      · cases h
      · rename_i pks hk
        split at h
        · cases h
        · rename_i hc
          obtain ⟨h2, hb⟩ := (checkSet_ok_iff S pks msg set false true).mp hc
          exact ⟨set, pks, hset, hk, List.any_eq_true.mp hb.symm, h2⟩
        · cases h
    · cases h
    · cases h
  · rintro ⟨set, pks, h1, h2, h3, h4⟩
    rw [h1]
    dsimp only
    rw [h2]
    dsimp only
    rw [(checkSet_ok_iff S pks msg set false true).mpr ⟨h4, (List.any_eq_true.mpr h3).symm⟩]

theorem verifyEntities_ok_iff (S : SigScheme) (keys : KeyMap) (sigs : Obj) (msg : List Nat)
    (l : List Str) :
    verifyEntities S keys sigs msg l = .ok () ↔ ∀ e ∈ l, EntityOk S keys sigs msg e := by
  induction l with
  | nil => exact ⟨fun _ _ h => (nomatch h), fun _ => rfl⟩
  | cons e t ih =>
    rw [verifyEntities, List.forall_mem_cons, ← verifyForEntity_ok_iff, ← ih]
    split
    · exact ⟨nofun, fun h => (nomatch ‹_ = Except.error _›.symm.trans h.1)⟩
    · exact ⟨fun h => ⟨‹_›, h⟩, fun h => h.2⟩

theorem verifyJson_ok_iff (S : SigScheme) (keys : KeyMap) (obj : Obj) :
    verifyJson S keys obj = .ok () ↔
      ∃ sigs, Obj.get obj sigKey = some (.obj sigs) ∧
        ∀ e ∈ Obj.keys sigs, EntityOk S keys sigs (canonicalJson obj) e := by
  unfold verifyJson
  cases h : Obj.get obj sigKey with
  | none => simp
  | some v =>
    cases v with
    | obj sigs => simp [verifyEntities_ok_iff]
    | null | bool _ | int _ | float | arr _ | str _ => simp

theorem canonicalJson_eq_signedBytes (obj : Obj) : canonicalJson obj = signedBytes obj := by
  unfold canonicalJson signedBytes signedContent Obj.erase sigKey unsKey
  rw [List.filter_filter]
  congr 2
  funext p
  simp [Bool.and_comm]

theorem entityOk_iff (S : SigScheme) (keys : KeyMap) (sigs : Obj) (msg : List Nat) (e : Str) :
    EntityOk S keys sigs msg e ↔ EntityVerifies S keys sigs msg e := by
  unfold EntityOk EntityVerifies EntryOk
  simp only [supportedKeyId_iff]

theorem sigKey_ne_unsKey : sigKey ≠ unsKey := by decide +kernel
theorem unsKey_ne_sigKey : unsKey ≠ sigKey := sigKey_ne_unsKey.symm
theorem sigKey_eq : sigKey = bs "signatures" := rfl
theorem unsKey_eq : unsKey = bs "unsigned" := rfl

/-- The new `signatures` object after signing. -/
def newSignatures (S : SigScheme) (entity : Str) (kp : KeyPair) (obj : Obj) : Obj :=
  Obj.insert (signaturesOf obj) entity
    (.obj (Obj.insert (signatureSetOf obj entity) (ed25519KeyId kp.version)
      (.str (signatureString S kp (canonicalJson obj)))))

/-- The object after a successful `signJson`, exactly as the statements of the code build it. -/
def signResult (S : SigScheme) (entity : Str) (kp : KeyPair) (obj : Obj) : Obj :=
  let o3 := Obj.insert (Obj.erase (Obj.erase obj sigKey) unsKey) sigKey (.obj (newSignatures S entity kp obj))
  match Obj.get (Obj.erase obj sigKey) unsKey with
  | some u => Obj.insert o3 unsKey u
  | none => o3

theorem signJson_of_signable (S : SigScheme) (entity : Str) (kp : KeyPair) (obj : Obj)
    (h : Signable obj entity) : signJson S entity kp obj = (.ok (), signResult S entity kp obj) := by
  unfold Signable at h
  rw [← sigKey_eq] at h
  rcases h with h | ⟨s, h, h'⟩
  · cases hu : Obj.get (Obj.erase obj sigKey) unsKey <;>
      simp only [signJson, h, signCore, signResult, newSignatures, signaturesOf, signatureSetOf,
        ← sigKey_eq, Obj.get, canonicalJson, hu]
  · rcases h' with h' | ⟨set, h'⟩
    · cases hu : Obj.get (Obj.erase obj sigKey) unsKey <;>
        simp only [signJson, h, h', signCore, signResult, newSignatures, signaturesOf, signatureSetOf,
          ← sigKey_eq, canonicalJson, hu]
    · cases hu : Obj.get (Obj.erase obj sigKey) unsKey <;>
        simp only [signJson, h, h', signCore, signResult, newSignatures, signaturesOf, signatureSetOf,
          ← sigKey_eq, canonicalJson, hu]

theorem signJson_of_not_signable (S : SigScheme) (entity : Str) (kp : KeyPair) (obj : Obj)
    (h : ¬ Signable obj entity) : ∃ e, signJson S entity kp obj = (.error e, obj) := by
  unfold Signable at h
  rw [← sigKey_eq] at h
  unfold signJson
  cases h1 : Obj.get obj sigKey with
  | none => exact absurd (Or.inl h1) h
  | some v =>
    cases v with
    | obj s =>
      simp only
      cases h2 : Obj.get s entity with
      | none => exact absurd (Or.inr ⟨s, h1, Or.inl h2⟩) h
      | some w =>
        cases w with
        | obj set => exact absurd (Or.inr ⟨s, h1, Or.inr ⟨set, h2⟩⟩) h
        | null | bool _ | int _ | float | arr _ | str _ => exact ⟨_, rfl⟩
    | null | bool _ | int _ | float | arr _ | str _ => exact ⟨_, rfl⟩

theorem signJson_ok (S : SigScheme) (entity : Str) (kp : KeyPair) (obj signed : Obj)
    (h : signJson S entity kp obj = (.ok (), signed)) :
    Signable obj entity ∧ signed = signResult S entity kp obj := by
  by_cases hsg : Signable obj entity
  · rw [signJson_of_signable S entity kp obj hsg] at h
    cases h
    exact ⟨hsg, rfl⟩
  · obtain ⟨err, herr⟩ := signJson_of_not_signable S entity kp obj hsg
    rw [herr] at h
    cases h

theorem get_signResult_ne (S : SigScheme) (entity : Str) (kp : KeyPair) (obj : Obj) (k : Str)
    (hk : k ≠ sigKey) : Obj.get (signResult S entity kp obj) k = Obj.get obj k := by
  unfold signResult
  by_cases hu : k = unsKey
  · subst hu
    cases h : Obj.get (Obj.erase obj sigKey) unsKey with
    | some u =>
      simp only
      rw [Obj.get_insert_self, ← h, Obj.get_erase_ne _ _ _ unsKey_ne_sigKey]
    | none =>
      simp only
      rw [Obj.get_insert_ne _ _ _ _ unsKey_ne_sigKey, Obj.get_erase_self, ← h,
        Obj.get_erase_ne _ _ _ unsKey_ne_sigKey]
  · have step : Obj.get (Obj.insert (Obj.erase (Obj.erase obj sigKey) unsKey) sigKey
        (.obj (newSignatures S entity kp obj))) k = Obj.get obj k := by
      rw [Obj.get_insert_ne _ _ _ _ hk, Obj.get_erase_ne _ _ _ hu, Obj.get_erase_ne _ _ _ hk]
    cases h : Obj.get (Obj.erase obj sigKey) unsKey with
    | some u => simp only; rw [Obj.get_insert_ne _ _ _ _ hu, step]
    | none => simp only; exact step

theorem get_signResult_sig (S : SigScheme) (entity : Str) (kp : KeyPair) (obj : Obj) :
    Obj.get (signResult S entity kp obj) sigKey = some (.obj (newSignatures S entity kp obj)) := by
  unfold signResult
  cases h : Obj.get (Obj.erase obj sigKey) unsKey with
  | some u => simp only; rw [Obj.get_insert_ne _ _ _ _ sigKey_ne_unsKey, Obj.get_insert_self]
  | none => simp only; rw [Obj.get_insert_self]

/-- The signed bytes never include `signatures` (nor `unsigned`): signing does not change them. -/
theorem canonicalJson_signResult (S : SigScheme) (entity : Str) (kp : KeyPair) (obj : Obj) :
    canonicalJson (signResult S entity kp obj) = canonicalJson obj := by
  have key : ∀ X, Obj.erase (Obj.erase (Obj.insert (Obj.erase (Obj.erase obj sigKey) unsKey) sigKey X)
      sigKey) unsKey = Obj.erase (Obj.erase obj sigKey) unsKey := by
    intro X
    rw [Obj.erase_insert_self, Obj.erase_comm _ unsKey sigKey, Obj.erase_erase_self,
      Obj.erase_erase_self]
  unfold canonicalJson signResult
  cases h : Obj.get (Obj.erase obj sigKey) unsKey with
  | some u =>
    simp only
    rw [Obj.erase_comm _ sigKey unsKey, Obj.erase_insert_self, Obj.erase_comm _ unsKey sigKey, key]
  | none => simp only; rw [key]

/-- The key map knows the signer's public key under the key id the signer uses. -/
def HasKey (S : SigScheme) (keys : KeyMap) (entity : Str) (kp : KeyPair) : Prop :=
  ∃ pks, Obj.get keys entity = some pks ∧
    Obj.get pks (ed25519KeyId kp.version) = some (S.pub kp.secret)

instance (S : SigScheme) (keys : KeyMap) (entity : Str) (kp : KeyPair) :
    Decidable (HasKey S keys entity kp) :=
  decidable_of_iff ((Obj.get keys entity).bind (Obj.get · (ed25519KeyId kp.version))
      = some (S.pub kp.secret)) (by simp only [HasKey, Option.bind_eq_some_iff])

theorem signaturesOf_of_get (obj : Obj) (sigs : Obj) (h : Obj.get obj sigKey = some (.obj sigs)) :
    signaturesOf obj = sigs := by
  unfold signaturesOf; rw [← sigKey_eq, h]

theorem signaturesOf_of_none (obj : Obj) (h : Obj.get obj sigKey = none) : signaturesOf obj = [] := by
  unfold signaturesOf; rw [← sigKey_eq, h]

theorem oldOk_of_inv (S : SigScheme) (keys : KeyMap) (obj : Obj)
    (h0 : Obj.get obj sigKey = none ∨ verifyJson S keys obj = .ok ()) :
    ∀ e ∈ Obj.keys (signaturesOf obj), EntityOk S keys (signaturesOf obj) (canonicalJson obj) e := by
  rcases h0 with h | h
  · rw [signaturesOf_of_none obj h]; intro e he; simp [Obj.keys] at he
  · obtain ⟨sigs, h1, h2⟩ := (verifyJson_ok_iff S keys obj).mp h
    rw [signaturesOf_of_get obj sigs h1]; exact h2

theorem signable_of_inv (S : SigScheme) (keys : KeyMap) (obj : Obj) (entity : Str)
    (h0 : Obj.get obj sigKey = none ∨ verifyJson S keys obj = .ok ()) : Signable obj entity := by
  unfold Signable
  rw [← sigKey_eq]
  rcases h0 with h | h
  · exact Or.inl h
  · obtain ⟨sigs, h1, h2⟩ := (verifyJson_ok_iff S keys obj).mp h
    refine Or.inr ⟨sigs, h1, ?_⟩
    cases hg : Obj.get sigs entity with
    | none => exact Or.inl rfl
    | some v =>
      obtain ⟨set, _, h3, _⟩ := h2 entity (Obj.mem_keys_of_get sigs entity v hg)
      rw [hg] at h3
      exact Or.inr ⟨set, h3⟩

theorem validSignature_new (S : SigScheme) (hS : S.Lawful) (kp : KeyPair) (msg : List Nat) :
    ValidSignature S (S.pub kp.secret) msg (.str (signatureString S kp msg)) :=
  ⟨_, S.sign kp.secret msg, rfl, unb64_b64 _ (hS.sig_bytes _ _), hS.pub_len _, hS.sig_len _ _,
    hS.verify_sign _ _⟩

theorem entityVerifies_newSignatures (S : SigScheme) (hS : S.Lawful) (keys : KeyMap) (entity : Str)
    (kp : KeyPair) (obj : Obj) (msg : List Nat) (hk : HasKey S keys entity kp)
    (h : EntityVerifies S keys (newSignatures S entity kp obj) msg entity) :
    S.verify (S.pub kp.secret) msg (S.sign kp.secret (canonicalJson obj)) = true := by
  obtain ⟨set, pks, hset, hpks, _, hevery⟩ := h
  obtain ⟨pks', hpks', hpk⟩ := hk
  rw [newSignatures, Obj.get_insert_self] at hset
  rw [hpks'] at hpks
  cases hset
  cases hpks
  obtain ⟨pk, hpk', s, raw, hs, hraw, _, _, hverify⟩ :=
    hevery _ (Obj.mem_insert_self _ _ _) ((supportedKeyId_iff _).mp (supported_ed25519KeyId _))
  rw [hpk] at hpk'
  cases hpk'
  cases hs
  rw [signatureString, unb64_b64 _ (hS.sig_bytes _ _)] at hraw
  cases hraw
  exact hverify

theorem verify_signResult (S : SigScheme) (hS : S.Lawful) (keys : KeyMap) (entity : Str) (kp : KeyPair)
    (obj : Obj) (h0 : Obj.get obj sigKey = none ∨ verifyJson S keys obj = .ok ())
    (hk : HasKey S keys entity kp) :
    verifyJson S keys (signResult S entity kp obj) = .ok () := by
  have old := oldOk_of_inv S keys obj h0
  obtain ⟨pks, hpks, hpk⟩ := hk
  rw [verifyJson_ok_iff]
  refine ⟨_, get_signResult_sig S entity kp obj, ?_⟩
  rw [canonicalJson_signResult]
  intro e he
  by_cases hee : e = entity
  · subst hee
    refine ⟨_, pks, Obj.get_insert_self _ _ _, hpks, ⟨_, Obj.mem_insert_self _ _ _, supported_ed25519KeyId _⟩, ?_⟩
    intro p hp hsup
    rcases Obj.mem_insert hp with hp | hp
    · subst hp
      exact ⟨_, hpk, validSignature_new S hS kp _⟩
    · -- an earlier signature of the same entity
      unfold signatureSetOf at hp
      cases hg : Obj.get (signaturesOf obj) e with
      | none => rw [hg] at hp; simp at hp
      | some v =>
        obtain ⟨set, pks', h1, h2, _, h4⟩ := old e (Obj.mem_keys_of_get _ _ _ hg)
        rw [h1] at hp
        rw [hpks] at h2; cases h2
        exact h4 p hp hsup
  · have he' : e ∈ Obj.keys (signaturesOf obj) := by
      rcases (Obj.mem_keys_insert _ _ _ _).mp he with h | h
      · exact absurd h hee
      · exact h
    obtain ⟨set, pks', h1, h2, h3, h4⟩ := old e he'
    refine ⟨set, pks', ?_, h2, h3, h4⟩
    unfold newSignatures
    rw [Obj.get_insert_ne _ _ _ _ hee, h1]

/-- Repeated signing: the steps in order; stops at the first error. -/
def signAll (S : SigScheme) : List (Str × KeyPair) → Obj → Except Err Unit × Obj
  | [], o => (.ok (), o)
  | (entity, kp) :: rest, o =>
    match signJson S entity kp o with
    | (.ok _, o') => signAll S rest o'
    | (.error e, o') => (.error e, o')

theorem signAll_verified (S : SigScheme) (hS : S.Lawful) (keys : KeyMap)
    (steps : List (Str × KeyPair)) (obj : Obj)
    (h0 : (Obj.get obj sigKey = none ∧ steps ≠ []) ∨ verifyJson S keys obj = .ok ())
    (hk : ∀ st ∈ steps, HasKey S keys st.1 st.2) :
    (signAll S steps obj).1 = .ok () ∧ verifyJson S keys (signAll S steps obj).2 = .ok () := by
  induction steps generalizing obj with
  | nil =>
    -- an empty run leaves an object without `signatures` as it is, and that does not verify
    exact ⟨rfl, h0.resolve_left fun h => h.2 rfl⟩
  | cons st rest ih =>
    obtain ⟨entity, kp⟩ := st
    have h0' : Obj.get obj sigKey = none ∨ verifyJson S keys obj = .ok () := h0.imp_left (·.1)
    rw [signAll, signJson_of_signable S entity kp obj (signable_of_inv S keys obj entity h0')]
    exact ih _ (.inr (verify_signResult S hS keys entity kp obj h0' (hk _ (.head _))))
      fun st hst => hk st (.tail _ hst)

theorem verifyJson_congr (S : SigScheme) (keys : KeyMap) (obj obj' : Obj)
    (h1 : Obj.get obj sigKey = Obj.get obj' sigKey) (h2 : canonicalJson obj = canonicalJson obj') :
    verifyJson S keys obj = verifyJson S keys obj' := by
  unfold verifyJson; rw [h1, h2]

theorem canonicalJson_insert_unsigned (obj : Obj) (u : JVal) :
    canonicalJson (Obj.insert obj unsKey u) = canonicalJson obj := by
  unfold canonicalJson
  rw [Obj.erase_comm, Obj.erase_insert_self, Obj.erase_comm]

theorem canonicalJson_erase_unsigned (obj : Obj) :
    canonicalJson (Obj.erase obj unsKey) = canonicalJson obj := by
  unfold canonicalJson
  rw [Obj.erase_comm, Obj.erase_erase_self, Obj.erase_comm]

theorem sorted_signResult (S : SigScheme) (entity : Str) (kp : KeyPair) (obj : Obj)
    (hs : Obj.Sorted obj) : Obj.Sorted (signResult S entity kp obj) := by
  unfold signResult
  have h3 := Obj.sorted_insert _ sigKey (.obj (newSignatures S entity kp obj))
    (Obj.sorted_erase _ unsKey (Obj.sorted_erase _ sigKey hs))
  cases Obj.get (Obj.erase obj sigKey) unsKey with
  | none => exact h3
  | some u => exact Obj.sorted_insert _ _ _ h3

theorem newSignatures_eq (S : SigScheme) (entity : Str) (kp : KeyPair) (obj : Obj) :
    newSignatures S entity kp obj =
      Obj.insert (signaturesOf obj) entity
        (.obj (Obj.insert (signatureSetOf obj entity) (bs "ed25519:" ++ kp.version)
          (.str (b64 (S.sign kp.secret (signedBytes obj)))))) := by
  unfold newSignatures signatureString
  rw [ed25519KeyId_eq, canonicalJson_eq_signedBytes]

theorem signResult_eq_signed (S : SigScheme) (entity : Str) (kp : KeyPair) (obj : Obj)
    (hs : Obj.Sorted obj) : signResult S entity kp obj = signed S entity kp.secret kp.version obj := by
  apply Obj.sorted_ext _ _ (sorted_signResult S entity kp obj hs)
  · exact Obj.sorted_insert _ _ _ hs
  · intro k
    unfold signed withSignature
    rw [← sigKey_eq, ← newSignatures_eq]
    by_cases hk : k = sigKey
    · subst hk
      rw [get_signResult_sig, Obj.get_insert_self]
    · rw [get_signResult_ne _ _ _ _ _ hk, Obj.get_insert_ne _ _ _ _ hk]

end Ruma.Sign
