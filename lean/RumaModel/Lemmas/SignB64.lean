/-
  Base64 reference implementation (`Model/Sign.lean`): decoding inverts encoding.
-/
import RumaModel.Model.Sign
namespace Ruma.Sign

theorem b64Val_b64Char (i : Nat) (h : i < 64) : b64Val (b64Char i) = some i := by
  have key : ∀ i : Fin 64, b64Val (b64Char i.val) = some i.val := by decide +kernel
  exact key ⟨i, h⟩

theorem b64Char_ne_pad (i : Nat) (h : i < 64) : b64Char i ≠ 61 := by
  have key : ∀ i : Fin 64, b64Char i.val ≠ 61 := by decide +kernel
  exact key ⟨i, h⟩

theorem unb64Last_two (i j : Nat) (hi : i < 64) (hj : j < 64) :
    unb64Last [b64Char i, b64Char j] = some [i * 4 + j / 16] := by
  simp [unb64Last, List.takeWhile, List.dropWhile, b64Char_ne_pad, b64Val_b64Char, hi, hj]

theorem unb64Last_three (i j k : Nat) (hi : i < 64) (hj : j < 64) (hk : k < 64) :
    unb64Last [b64Char i, b64Char j, b64Char k] = some [i * 4 + j / 16, j % 16 * 16 + k / 4] := by
  simp [unb64Last, List.takeWhile, List.dropWhile, b64Char_ne_pad, b64Val_b64Char, hi, hj, hk]

theorem unb64Last_four (i j k l : Nat) (hi : i < 64) (hj : j < 64) (hk : k < 64) (hl : l < 64) :
    unb64Last [b64Char i, b64Char j, b64Char k, b64Char l]
      = some [i * 4 + j / 16, j % 16 * 16 + k / 4, k % 4 * 64 + l] := by
  simp [unb64Last, List.takeWhile, List.dropWhile, b64Char_ne_pad, b64Val_b64Char, hi, hj, hk, hl]

theorem two_digits (x y m n : Nat) (hx : x < n) (hy : y < m) :
    x * m + y < n * m ∧ (x * m + y) / m = x ∧ (x * m + y) % m = y := by
  have hm : 0 < m := Nat.lt_of_le_of_lt (Nat.zero_le y) hy
  refine ⟨Nat.lt_of_lt_of_le (Nat.add_lt_add_left hy _) ?_, ?_, ?_⟩
  · rw [← Nat.succ_mul]; exact Nat.mul_le_mul_right m hx
  · rw [Nat.mul_comm, Nat.mul_add_div hm, Nat.div_eq_of_lt hy]; rfl
  · rw [Nat.mul_comm, Nat.mul_add_mod, Nat.mod_eq_of_lt hy]

/-- Three bytes are four 6-bit symbols, and back (`b = c = 0` and `c = 0` give the short last
groups of one and two bytes). -/
theorem group_decode (a b c : Nat) (ha : a < 256) (hb : b < 256) (hc : c < 256) :
    a / 4 < 64 ∧ a % 4 * 16 + b / 16 < 64 ∧ b % 16 * 4 + c / 64 < 64 ∧ c % 64 < 64 ∧
    a / 4 * 4 + (a % 4 * 16 + b / 16) / 16 = a ∧
    (a % 4 * 16 + b / 16) % 16 * 16 + (b % 16 * 4 + c / 64) / 4 = b ∧
    (b % 16 * 4 + c / 64) % 4 * 64 + c % 64 = c := by
  obtain ⟨q0, q1, q2⟩ := two_digits (a % 4) (b / 16) 16 4 (Nat.mod_lt _ (by decide))
    (Nat.div_lt_of_lt_mul hb)
  obtain ⟨r0, r1, r2⟩ := two_digits (b % 16) (c / 64) 4 16 (Nat.mod_lt _ (by decide))
    (Nat.div_lt_of_lt_mul hc)
  rw [q1, q2, r1, r2]
  exact ⟨Nat.div_lt_of_lt_mul ha, q0, r0, Nat.mod_lt _ (by decide),
    Nat.div_add_mod' a 4, Nat.div_add_mod' b 16, Nat.div_add_mod' c 64⟩

theorem b64_cons_ne_nil (a : Nat) (t : List Nat) : ∃ e r, b64 (a :: t) = e :: r := by
  match t with
  | [] => exact ⟨_, _, rfl⟩
  | [_] => exact ⟨_, _, rfl⟩
  | _ :: _ :: _ => exact ⟨_, _, rfl⟩

theorem unb64_b64 : ∀ (x : List Nat), (∀ b ∈ x, b < 256) → unb64 (b64 x) = some x
  | [], _ => rfl
  | [a], h => by
    obtain ⟨hp, hq, _, _, e1, _⟩ := group_decode a 0 0 (h a (.head _)) (by decide) (by decide)
    exact (unb64Last_two _ _ hp hq).trans (by rw [e1])
  | [a, b], h => by
    obtain ⟨hp, hq, hr, _, e1, e2, _⟩ :=
      group_decode a b 0 (h a (.head _)) (h b (.tail _ (.head _))) (by decide)
    exact (unb64Last_three _ _ _ hp hq hr).trans (by rw [e1, e2])
  | [a, b, c], h => by
    obtain ⟨hp, hq, hr, hs, e1, e2, e3⟩ := group_decode a b c (h a (.head _))
      (h b (.tail _ (.head _))) (h c (.tail _ (.tail _ (.head _))))
    exact (unb64Last_four _ _ _ _ hp hq hr hs).trans (by rw [e1, e2, e3])
  | a :: b :: c :: d :: t, h => by
    obtain ⟨hp, hq, hr, hs, e1, e2, e3⟩ := group_decode a b c (h a (.head _))
      (h b (.tail _ (.head _))) (h c (.tail _ (.tail _ (.head _))))
    have ih := unb64_b64 (d :: t) fun x hx => h x (.tail _ (.tail _ (.tail _ hx)))
    obtain ⟨e, r, her⟩ := b64_cons_ne_nil d t
    rw [b64, her]
    rw [her] at ih
    simp only [unb64, ih, b64Val_b64Char, hp, hq, hr, hs, e1, e2, e3]

end Ruma.Sign
