/-
  Facts about the association-list operations of `Model/Json.lean` (`Obj.get`, `erase`, `insert`,
  `keys`). The look-up facts hold for every association list; those at the end need the `BTreeMap`
  invariant `Obj.Sorted` (strictly ascending keys).
-/
import RumaModel.Model.Json
import RumaModel.Lemmas.Json
namespace Ruma.Obj
variable {α : Type}

theorem get_mem (o : List (Str × α)) (k : Str) (v : α) (h : get o k = some v) : (k, v) ∈ o := by
  induction o with
  | nil => cases h
  | cons p t ih =>
    obtain ⟨k', v'⟩ := p
    rw [get] at h
    split at h
    · next e => cases h; rw [e]; exact List.mem_cons_self
    · exact List.mem_cons_of_mem _ (ih h)

theorem mem_keys_of_get (o : List (Str × α)) (k : Str) (v : α) (h : get o k = some v) : k ∈ keys o :=
  List.mem_map.mpr ⟨_, get_mem o k v h, rfl⟩

theorem get_of_mem_keys (o : List (Str × α)) (k : Str) (h : k ∈ keys o) : ∃ v, get o k = some v := by
  induction o with
  | nil => cases h
  | cons p t ih =>
    obtain ⟨k', v'⟩ := p
    rw [get]
    split
    · exact ⟨v', rfl⟩
    · next e => exact ih ((List.mem_cons.mp h).resolve_left (Ne.symm e))

theorem mem_keys_iff (o : List (Str × α)) (k : Str) : k ∈ keys o ↔ ∃ v, get o k = some v :=
  ⟨get_of_mem_keys o k, fun ⟨v, h⟩ => mem_keys_of_get o k v h⟩

theorem get_none_of_not_mem (o : List (Str × α)) (k : Str) (h : k ∉ keys o) : get o k = none :=
  Option.eq_none_iff_forall_ne_some.mpr fun v hv => h (mem_keys_of_get o k v hv)

theorem erase_nil (k : Str) : erase ([] : List (Str × α)) k = [] := rfl

theorem erase_cons (k' : Str) (v : α) (t : List (Str × α)) (k : Str) :
    erase ((k', v) :: t) k = if k' = k then erase t k else (k', v) :: erase t k := by
  by_cases h : k' = k <;> simp [erase, List.filter, h]

theorem get_erase_self (o : List (Str × α)) (k : Str) : get (erase o k) k = none := by
  induction o with
  | nil => rfl
  | cons p t ih =>
    obtain ⟨k', v⟩ := p
    rw [erase_cons]
    split
    · exact ih
    · next h => rw [get, if_neg h, ih]

theorem get_erase_ne (o : List (Str × α)) (k k' : Str) (h : k' ≠ k) :
    get (erase o k) k' = get o k' := by
  induction o with
  | nil => rfl
  | cons p t ih =>
    obtain ⟨k₀, v⟩ := p
    rw [erase_cons]
    split
    · next h0 => rw [ih, get, if_neg (h0 ▸ Ne.symm h)]
    · rw [get, get, ih]

theorem erase_comm (o : List (Str × α)) (a b : Str) : erase (erase o a) b = erase (erase o b) a := by
  simp only [erase, List.filter_filter]
  exact List.filter_congr fun p _ => Bool.and_comm _ _

theorem erase_erase_self (o : List (Str × α)) (k : Str) : erase (erase o k) k = erase o k := by
  simp only [erase, List.filter_filter, Bool.and_self]

theorem get_insert (o : List (Str × α)) (k : Str) (v : α) (k' : Str) :
    get (insert o k v) k' = if k = k' then some v else get o k' := by
  induction o with
  | nil => rfl
  | cons p t ih =>
    obtain ⟨k₀, v₀⟩ := p
    rw [insert]
    split
    · next h => subst h; by_cases h2 : k₀ = k' <;> simp only [get, h2, if_true, if_false]
    split
    · rfl
    · next h _ =>
      rw [get, ih, get]
      by_cases h2 : k = k'
      · subst h2; simp only [h, ↓reduceIte]
      · simp only [h2, ↓reduceIte]

theorem get_insert_self (o : List (Str × α)) (k : Str) (v : α) : get (insert o k v) k = some v := by
  rw [get_insert, if_pos rfl]

theorem get_insert_ne (o : List (Str × α)) (k k' : Str) (v : α) (h : k' ≠ k) :
    get (insert o k v) k' = get o k' := by
  rw [get_insert, if_neg (Ne.symm h)]

theorem erase_insert_self (o : List (Str × α)) (k : Str) (v : α) :
    erase (insert o k v) k = erase o k := by
  induction o with
  | nil => rw [insert, erase_cons, if_pos rfl]
  | cons p t ih =>
    obtain ⟨k', v'⟩ := p
    rw [insert]
    split
    · next h => rw [erase_cons, erase_cons, if_pos rfl, if_pos h]
    split
    · rw [erase_cons, if_pos rfl]
    · next h _ => simp only [erase_cons, if_neg h, ih]

theorem mem_insert {o : List (Str × α)} {k : Str} {v : α} {x : Str × α} (h : x ∈ insert o k v) :
    x = (k, v) ∨ x ∈ o := by
  induction o with
  | nil => exact .inl (List.mem_singleton.mp h)
  | cons p t ih =>
    obtain ⟨k', v'⟩ := p
    rw [insert] at h
    split at h
    · exact (List.mem_cons.mp h).imp_right (List.mem_cons_of_mem _)
    split at h
    · exact List.mem_cons.mp h
    · rcases List.mem_cons.mp h with h | h
      · exact .inr (h ▸ List.mem_cons_self)
      · exact (ih h).imp_right (List.mem_cons_of_mem _)

theorem mem_insert_self (o : List (Str × α)) (k : Str) (v : α) : (k, v) ∈ insert o k v :=
  get_mem _ k v (get_insert_self o k v)

theorem mem_keys_insert (o : List (Str × α)) (k : Str) (v : α) (x : Str) :
    x ∈ keys (insert o k v) ↔ x = k ∨ x ∈ keys o := by
  rw [mem_keys_iff, mem_keys_iff, get_insert]
  by_cases h : k = x
  · simp only [h, if_true, Option.some.injEq, exists_eq', true_or]
  · simp only [h, if_false, Ne.symm h, false_or]

theorem sorted_cons (e : Str × α) (t : List (Str × α)) :
    Sorted (e :: t) ↔ (∀ k ∈ keys t, e.1 < k) ∧ Sorted t :=
  List.pairwise_cons

theorem sorted_erase (o : List (Str × α)) (k : Str) (h : Sorted o) : Sorted (erase o k) :=
  List.Pairwise.sublist (List.Sublist.map _ List.filter_sublist) h

theorem sorted_insert (o : List (Str × α)) (k : Str) (v : α) (h : Sorted o) : Sorted (insert o k v) := by
  induction o with
  | nil => exact List.pairwise_singleton _ _
  | cons p t ih =>
    obtain ⟨k', v'⟩ := p
    obtain ⟨hhead, htail⟩ := (sorted_cons (k', v') t).mp h
    rw [insert]
    split
    · next e => subst e; exact h
    split
    · next hlt =>
      refine (sorted_cons _ _).mpr ⟨fun x hx => ?_, h⟩
      rcases List.mem_cons.mp hx with rfl | hx
      · exact hlt
      · exact List.lt_trans hlt (hhead x hx)
    · next hne hnlt =>
      refine (sorted_cons _ _).mpr ⟨fun x hx => ?_, ih htail⟩
      rcases (mem_keys_insert t k v x).mp hx with rfl | hx
      · exact Std.lt_of_le_of_ne (List.not_lt.mp hnlt) hne
      · exact hhead x hx

theorem get_none_of_lt (o : List (Str × α)) (k : Str) (h : ∀ k' ∈ keys o, k < k') : get o k = none :=
  get_none_of_not_mem o k fun hk => List.lt_irrefl k (h k hk)

theorem sorted_ext : ∀ (a b : List (Str × α)), Sorted a → Sorted b → (∀ k, get a k = get b k) → a = b
  | [], [], _, _, _ => rfl
  | [], (k, v) :: t, _, _, h => by simpa [get] using h k
  | (k, v) :: t, [], _, _, h => by simpa [get] using h k
  | (k₁, v₁) :: t₁, (k₂, v₂) :: t₂, ha, hb, h => by
    obtain ⟨ha1, ha2⟩ := (sorted_cons _ _).mp ha
    obtain ⟨hb1, hb2⟩ := (sorted_cons _ _).mp hb
    have below : ∀ {k l : Str} {w : α} {t : List (Str × α)}, (∀ x ∈ keys t, l < x) → k < l →
        get ((l, w) :: t) k = none := fun hl hk =>
      get_none_of_lt _ _ (List.forall_mem_cons.mpr ⟨hk, fun x hx => List.lt_trans hk (hl x hx)⟩)
    have hk : k₁ = k₂ := by
      apply Classical.byContradiction
      intro hne
      by_cases hlt : k₁ < k₂
      · have := h k₁
        rw [below hb1 hlt] at this
        simp [get] at this
      · have := h k₂
        rw [below ha1 (Std.lt_of_le_of_ne (List.not_lt.mp hlt) (Ne.symm hne))] at this
        simp [get] at this
    subst hk
    have hv : v₁ = v₂ := by simpa [get] using h k₁
    subst hv
    congr 1
    refine sorted_ext t₁ t₂ ha2 hb2 fun k => ?_
    by_cases e : k₁ = k
    · subst e; rw [get_none_of_lt t₁ k₁ ha1, get_none_of_lt t₂ k₁ hb1]
    · simpa [get, e] using h k

theorem insert_of_get (o : List (Str × α)) (k : Str) (v : α) (hs : Sorted o)
    (hg : get o k = some v) : insert o k v = o := by
  refine sorted_ext _ _ (sorted_insert o k v hs) hs fun k' => ?_
  rw [get_insert]
  split
  · next hk => rw [← hk, hg]
  · rfl

end Ruma.Obj
