/-
  Basic lemmas for the state-resolution model: association lists as maps, counting, `dedup`.
-/
import RumaModel.Model.StateRes
namespace Ruma.StateRes
open Ruma

namespace AL

theorem get_insert [DecidableEq κ] : ∀ (m : List (κ × β)) (k k' : κ) (v : β),
    get (insert m k v) k' = if k = k' then some v else get m k'
  | [], k, k', v => by simp [insert, get]
  | (q, w) :: t, k, k', v => by
    by_cases hq : q = k
    · subst hq; by_cases h : q = k' <;> simp [insert, get, h]
    · simp only [insert, hq, if_false, get, get_insert t k k' v]
      by_cases h : q = k'
      · have : k ≠ k' := fun e => hq (h.trans e.symm)
        simp [h, this]
      · simp [h]

theorem get_insert_self [DecidableEq κ] (m : List (κ × β)) (k : κ) (v : β) : get (insert m k v) k = some v := by
  rw [get_insert, if_pos rfl]

theorem mem_insert [DecidableEq κ] : ∀ {m : List (κ × β)} {k : κ} {v : β} {p : κ × β}, p ∈ insert m k v →
    p = (k, v) ∨ p ∈ m
  | [], _, _, _, h => .inl (List.mem_singleton.mp h)
  | (q, w) :: t, k, v, p, h => by
    by_cases hq : q = k
    · simp only [insert, hq, if_true, List.mem_cons] at h ⊢
      exact h.imp_right .inr
    · simp only [insert, hq, if_false, List.mem_cons] at h ⊢
      exact h.elim (.inr ∘ .inl) fun h => (mem_insert h).imp_right .inr

variable {κ : Type} {β : Type} [DecidableEq κ]

def keys (m : List (κ × β)) : List κ := m.map (·.1)

@[simp] theorem get_nil (k : κ) : get ([] : List (κ × β)) k = none := rfl

theorem get_cons (q : κ) (w : β) (t : List (κ × β)) (k : κ) :
    get ((q, w) :: t) k = if q = k then some w else get t k := rfl

theorem insert_of_not_mem : ∀ (m : List (κ × β)) (k : κ) (v : β), k ∉ keys m →
    insert m k v = m ++ [(k, v)]
  | [], _, _, _ => rfl
  | (q, w) :: t, k, v, h => by
    simp only [keys, List.map_cons, List.mem_cons, not_or] at h
    simp [insert, Ne.symm h.1, insert_of_not_mem t k v h.2]

theorem get_foldl_insert (F : κ → β) : ∀ (l : List κ) (m : List (κ × β)) (k : κ),
    get (l.foldl (fun m n => insert m n (F n)) m) k = if k ∈ l then some (F k) else get m k
  | [], _, _ => by simp
  | a :: t, m, k => by
    rw [List.foldl_cons, get_foldl_insert F t, get_insert]
    by_cases h : k ∈ t
    · simp [h]
    · by_cases ha : a = k <;> simp [h, ha, eq_comm]

theorem get_map_pair (F : κ → β) : ∀ (l : List κ) (k : κ),
    get (l.map fun n => (n, F n)) k = if k ∈ l then some (F k) else none
  | [], _ => rfl
  | a :: t, k => by
    rw [List.map_cons, get_cons, get_map_pair F t]
    by_cases ha : a = k <;> simp [ha, eq_comm]

theorem keys_insert_of_mem : ∀ (m : List (κ × β)) (k : κ) (v : β), k ∈ keys m →
    keys (insert m k v) = keys m
  | (q, w) :: t, k, v, h => by
    by_cases hq : q = k
    · simp [insert, hq, keys]
    · have ih := keys_insert_of_mem t k v ((List.mem_cons.mp h).resolve_left (Ne.symm hq))
      simp only [keys] at ih
      simp [insert, hq, keys, ih]

theorem mem_keys_insert (m : List (κ × β)) (k k' : κ) (v : β) :
    k' ∈ keys (insert m k v) ↔ k' = k ∨ k' ∈ keys m := by
  by_cases hk : k ∈ keys m
  · rw [keys_insert_of_mem m k v hk]
    exact ⟨.inr, fun h => h.elim (· ▸ hk) id⟩
  · simp [insert_of_not_mem m k v hk, keys, or_comm]

theorem keys_nodup_insert (m : List (κ × β)) (k : κ) (v : β) (h : (keys m).Nodup) :
    (keys (insert m k v)).Nodup := by
  by_cases hk : k ∈ keys m
  · rwa [keys_insert_of_mem m k v hk]
  · rw [insert_of_not_mem m k v hk, keys, List.map_append]
    exact List.nodup_append.mpr ⟨h, by simp, fun a ha b hb hab => hk (by simp_all [keys])⟩

theorem get_eq_none_iff : ∀ (m : List (κ × β)) (k : κ), get m k = none ↔ k ∉ keys m
  | [], k => by simp [keys]
  | (q, w) :: t, k => by
    by_cases hq : q = k
    · simp [get, hq, keys]
    · simp [get, hq, keys, Ne.symm hq, get_eq_none_iff t k]

theorem get_some_mem : ∀ {m : List (κ × β)} {k : κ} {v : β}, get m k = some v → (k, v) ∈ m
  | (q, w) :: t, k, v, h => by
    by_cases hq : q = k
    · simp only [get, hq, if_true, Option.some.injEq] at h
      simp [hq, h]
    · simp only [get, hq, if_false] at h
      exact List.mem_cons_of_mem _ (get_some_mem h)

theorem get_of_mem_nodup : ∀ {m : List (κ × β)} {k : κ} {v : β}, (keys m).Nodup → (k, v) ∈ m →
    get m k = some v
  | (q, w) :: t, k, v, hn, h => by
    simp only [keys, List.map_cons, List.nodup_cons] at hn
    rcases List.mem_cons.mp h with h | h
    · cases h; simp [get]
    · have : q ≠ k := fun e => hn.1 (e ▸ List.mem_map_of_mem (f := Prod.fst) h)
      simp only [get, this, if_false]
      exact get_of_mem_nodup hn.2 h

theorem mem_iff_get {m : List (κ × β)} (h : (keys m).Nodup) {k : κ} {v : β} :
    (k, v) ∈ m ↔ get m k = some v :=
  ⟨get_of_mem_nodup h, get_some_mem⟩

theorem get_perm {m m' : List (κ × β)} (hn : (keys m).Nodup) (hp : m.Perm m') (k : κ) :
    get m k = get m' k :=
  Option.ext fun v => by
    rw [← mem_iff_get hn, ← mem_iff_get ((hp.map _).nodup hn), hp.mem_iff]

end AL


theorem mem_dedup [DecidableEq α] {a : α} : ∀ {l : List α}, a ∈ dedup l ↔ a ∈ l
  | [] => by simp [dedup]
  | x :: xs => by
    by_cases h : x ∈ xs
    · simp only [dedup, h, if_true, mem_dedup (l := xs), List.mem_cons]
      exact ⟨.inr, fun h' => h'.elim (· ▸ h) id⟩
    · simp only [dedup, h, if_false, List.mem_cons, mem_dedup (l := xs)]

theorem nodup_dedup [DecidableEq α] : ∀ (l : List α), (dedup l).Nodup
  | [] => by simp [dedup]
  | x :: xs => by
    by_cases h : x ∈ xs
    · simpa only [dedup, h, if_true] using nodup_dedup xs
    · simpa only [dedup, h, if_false, List.nodup_cons, mem_dedup, not_false_eq_true, true_and]
        using nodup_dedup xs


/-- The count stored for `k` (0 if absent). -/
def cntOf [DecidableEq κ] (m : List (κ × Nat)) (k : κ) : Nat :=
  match AL.get m k with
  | some c => c
  | none => 0

theorem bump_eq_insert [DecidableEq κ] : ∀ (m : List (κ × Nat)) (k : κ), bump m k = AL.insert m k (cntOf m k + 1)
  | [], _ => rfl
  | (q, c) :: t, k => by
    by_cases hq : q = k
    · simp [bump, AL.insert, cntOf, AL.get, hq]
    · have := bump_eq_insert t k
      simp only [cntOf] at this
      simp [bump, AL.insert, cntOf, AL.get, hq, this]

theorem cntOf_bump [DecidableEq κ] (m : List (κ × Nat)) (k k' : κ) :
    cntOf (bump m k) k' = cntOf m k' + if k = k' then 1 else 0 := by
  rw [bump_eq_insert]; unfold cntOf; rw [AL.get_insert]
  by_cases h : k = k' <;> simp [h]

theorem bump_pos [DecidableEq κ] {m : List (κ × Nat)} (k : κ) (h : ∀ q ∈ m, 0 < q.2) : ∀ q ∈ bump m k, 0 < q.2 := by
  intro q hq
  rcases AL.mem_insert (bump_eq_insert m k ▸ hq) with rfl | hq
  · exact Nat.succ_pos _
  · exact h q hq

theorem cntOf_pos_of_mem_bump_foldl [DecidableEq κ] (l : List κ) :
    ∀ (m : List (κ × Nat)), (∀ p ∈ m, 0 < p.2) → ∀ p ∈ l.foldl bump m, 0 < p.2 := by
  induction l with
  | nil => exact fun m h => h
  | cons a t ih => exact fun m h => ih _ (bump_pos a h)

theorem cntOf_foldl_bump' [DecidableEq κ] (l : List κ) : ∀ (m : List (κ × Nat)) (k : κ),
    cntOf (l.foldl bump m) k = cntOf m k + l.countP (fun x => decide (x = k)) := by
  induction l with
  | nil => simp
  | cons a t ih =>
    intro m k
    simp only [List.foldl_cons, ih, cntOf_bump, List.countP_cons, decide_eq_true_eq, Nat.add_assoc]
    congr 1; exact Nat.add_comm _ _

theorem keys_foldl_bump [DecidableEq κ] (l : List κ) : ∀ (m : List (κ × Nat)), (AL.keys m).Nodup →
    (AL.keys (l.foldl bump m)).Nodup ∧
      ∀ k, k ∈ AL.keys (l.foldl bump m) ↔ k ∈ l ∨ k ∈ AL.keys m := by
  induction l with
  | nil => intro m h; simp [h]
  | cons a t ih =>
    intro m h
    obtain ⟨h3, h4⟩ := ih (bump m a) (bump_eq_insert m a ▸ AL.keys_nodup_insert _ _ _ h)
    refine ⟨h3, fun k => ?_⟩
    rw [List.foldl_cons, h4, bump_eq_insert, AL.mem_keys_insert, List.mem_cons, or_assoc,
      or_left_comm]

end Ruma.StateRes
