/-
  Evaluation forms. `List.mergeSort` is defined by well-founded recursion and does not reduce in the
  kernel, so statements about the specification on *concrete* rooms (the F4 witness) cannot be closed
  by `decide` directly. Here the spec's mainline ordering and `resolveWith` are shown equal to
  copies that sort with a structurally recursive insertion sort; the concrete evaluations in
  `StateResWitness.lean` go through these equalities. Nothing here is used by the general theorems.
-/
import RumaModel.Lemmas.StateResSpec
namespace Ruma.StateRes
open Ruma Ruma.Spec.StateResV2

/-- Insert into a sorted list, before the first element that is not smaller. -/
def oins (le : α → α → Bool) (a : α) : List α → List α
  | [] => [a]
  | b :: t => if le a b then a :: b :: t else b :: oins le a t

/-- Insertion sort (structural recursion). -/
def isort (le : α → α → Bool) : List α → List α
  | [] => []
  | a :: t => oins le a (isort le t)

theorem oins_perm (le : α → α → Bool) (a : α) : ∀ l : List α, (oins le a l).Perm (a :: l)
  | [] => List.Perm.refl _
  | b :: t => by
    unfold oins
    split
    · exact List.Perm.refl _
    · exact ((oins_perm le a t).cons b).trans (List.Perm.swap a b t)

theorem isort_perm (le : α → α → Bool) : ∀ l : List α, (isort le l).Perm l
  | [] => List.Perm.refl _
  | a :: t => (oins_perm le a _).trans ((isort_perm le t).cons a)

theorem oins_sorted {le : α → α → Bool} (htrans : ∀ a b c, le a b = true → le b c = true → le a c = true)
    (htotal : ∀ a b, le a b = true ∨ le b a = true) (a : α) :
    ∀ l : List α, l.Pairwise (fun x y => le x y = true) → (oins le a l).Pairwise (fun x y => le x y = true)
  | [], _ => by simp [oins]
  | b :: t, h => by
    unfold oins
    rw [List.pairwise_cons] at h
    split
    · rename_i hab
      exact List.pairwise_cons.mpr ⟨List.forall_mem_cons.mpr ⟨hab, fun x hx => htrans a b x hab (h.1 x hx)⟩,
        List.pairwise_cons.mpr h⟩
    · rename_i hab
      refine List.pairwise_cons.mpr ⟨fun x hx => ?_, oins_sorted htrans htotal a t h.2⟩
      rcases List.mem_cons.mp ((oins_perm le a t).mem_iff.mp hx) with rfl | hx
      · exact (htotal x b).resolve_left hab
      · exact h.1 x hx

theorem isort_sorted {le : α → α → Bool} (htrans : ∀ a b c, le a b = true → le b c = true → le a c = true)
    (htotal : ∀ a b, le a b = true ∨ le b a = true) :
    ∀ l : List α, (isort le l).Pairwise (fun x y => le x y = true)
  | [] => List.Pairwise.nil
  | a :: t => oins_sorted htrans htotal a _ (isort_sorted htrans htotal t)

/-- The spec's mainline ordering with the insertion sort. -/
def mainlineOrderE (dev : Bool) (fetch : Id → Option Event) (fuel : Nat) (P : Option Event)
    (rest : List Id) : List Id :=
  (isort (fun (a b : Id × MKey) => mainlineLe a.2 b.2) (keyedFor dev fetch fuel P rest)).map (·.1)

theorem mainlineOrder_eq_E (dev : Bool) (fetch : Id → Option Event) (fuel : Nat) (P : Option Event)
    (rest : List Id) : mainlineOrder dev fetch fuel P rest = mainlineOrderE dev fetch fuel P rest := by
  rw [mainlineOrder_eq, mainlineOrderE, mainlineLe_eq,
    keyedSort_unique (keyedFor_ok dev fetch fuel P rest)
      (isort_sorted (fun a b c => mkey_le_trans a.2 b.2 c.2) (fun a b => mkey_le_total a.2 b.2) _)
      (isort_perm _ _)]

/-- `Spec.StateResV2.resolveWith` (in the form `resolveWith_eq_tail`) with `mainlineOrderE` for
`mainlineOrder`. -/
def resolveWithE (dev : Bool) (p : Params) (store : List Event) (sets : List StateMap)
    (chains : List (List Id)) : Except Fail StateMap :=
  if (conflictedSet sets).isEmpty then .ok (unconflicted sets)
  else
    let F := fullConflictedSet (fetchOf store) sets chains
    let X := powerEventsWithChains p (fetchOf store) F
    match reversePowerOrdering p (fetchOf store) X with
    | .error x => .error x
    | .ok sc => tailWith (iterativeAuthChecks p (fetchOf store))
        (fun pe => .ok (mainlineOrderE dev (fetchOf store) (store.length + 1)
          (pe.bind (fetchOf store)) (F.filter fun id => !X.contains id)))
        (unconflicted sets) sc

theorem resolveWith_eq_E (dev : Bool) (p : Params) (store : List Event) (sets : List StateMap)
    (chains : List (List Id)) :
    resolveWith dev p store sets chains = resolveWithE dev p store sets chains := by
  rw [resolveWith_eq_tail, resolveWithE]
  simp only [mainlineOrder_eq_E]
  rfl

end Ruma.StateRes
