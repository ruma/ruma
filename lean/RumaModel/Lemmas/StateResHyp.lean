/-
  Executable checkers for the hypotheses of the C07 refinement theorems (`RoomOk`, `F4Free`), proven
  sound. The C07 driver evaluates them on every generated room (`c07.hyp`) and the harness compares
  the answers with its own, independently written, evaluation — so the evidence shows which part of
  the generated population lies inside the theorems' hypotheses, and the one comparison that the
  known finding F4 suppresses is made exactly where `F4Free` fails.
-/
import RumaModel.Lemmas.StateResSpec
namespace Ruma.StateRes
open Ruma Ruma.Spec.StateResV2

/-- `rankTable store n`: `n` relaxation rounds of "rank = 1 + the greatest rank of an auth event". -/
def rankTable (store : List Event) : Nat → List (Id × Nat)
  | 0 => []
  | n + 1 =>
    let t := rankTable store n
    store.map (fun e => (e.eventId, 1 + (e.authEvents.map (fun a => (AL.get t a).getD 0)).foldl max 0))

def rankOfTable (t : List (Id × Nat)) (id : Id) : Nat := (AL.get t id).getD 0

/-- The per-event condition of `RoomWF` + `notCreate`, with the create event given by its id. -/
def eventOkB (fetch : Id → Option Event) (c0 : Id) (n : Id) : Bool :=
  match fetch n with
  | none => false
  | some e =>
    decide ((((e.authEvents.filterMap fetch).filter isPL).length ≤ 1)) &&
    decide ((((e.authEvents.filterMap fetch).filter isCreate).length ≤ 1)) &&
    ((createAmong fetch e).map (·.eventId) == some c0) && !isCreate e

/-- Checker for `RoomOk`: the create event it found, if every condition holds. -/
def roomOkB (store : List Event) (sets : List StateMap) (chains : List (List Id)) : Option Event :=
  match (store.find? isCreate).bind (fun c => fetchOf store c.eventId) with
  | none => none
  | some c0 =>
    let fetch := fetchOf store
    let t := rankTable store store.length
    if decide (∀ s ∈ sets, (AL.keys s).Nodup) &&
       decide (∀ c ∈ chains, c.Nodup) &&
       (fullConflictedSet fetch sets chains).all (eventOkB fetch c0.eventId) &&
       store.all (fun e => e.authEvents.all (fun a => (fetch a).isSome)) &&
       store.all (fun e => e.authEvents.all (fun a => decide (rankOfTable t a < rankOfTable t e.eventId))) &&
       sets.all (fun s => s.all (fun kv => (fetch kv.2).isSome))
    then some c0 else none

theorem fetchOf_of_eventId {store : List Event} {a b : Event} {ida idb : Id}
    (ha : fetchOf store ida = some a) (hb : fetchOf store idb = some b) (h : a.eventId = b.eventId) :
    a = b := by
  obtain rfl : ida = idb :=
    (fetchOf_ident store ida a ha).symm.trans (h.trans (fetchOf_ident store idb b hb))
  exact Option.some.inj (ha.symm.trans hb)

theorem createAmong_fetched {fetch : Id → Option Event} {e a : Event} (h : createAmong fetch e = some a) :
    ∃ id, fetch id = some a := by
  obtain ⟨id, _, hf⟩ := List.mem_filterMap.mp (List.mem_of_find?_eq_some h)
  exact ⟨id, hf⟩

theorem roomOkB_sound {store : List Event} {sets : List StateMap} {chains : List (List Id)} {c0 : Event}
    (h : roomOkB store sets chains = some c0) : RoomOk store sets chains c0 := by
  unfold roomOkB at h
  split at h
  · cases h
  rename_i c' hc
  obtain ⟨c, _, hc'⟩ := Option.bind_eq_some_iff.mp hc
  simp only [] at h
  split at h
  · rename_i hcond
    cases h
    simp only [Bool.and_eq_true, decide_eq_true_eq] at hcond
    obtain ⟨⟨⟨⟨⟨h1, h2⟩, h4⟩, h5⟩, h6⟩, h7⟩ := hcond
    have hevent : ∀ n ∈ fullConflictedSet (fetchOf store) sets chains,
        ∃ e, fetchOf store n = some e ∧ EventWF (fetchOf store) c0 e ∧ isCreate e = false := by
      intro n hn
      have := List.all_eq_true.mp h4 n hn
      unfold eventOkB at this
      split at this
      · cases this
      rename_i e hf
      simp only [Bool.and_eq_true, decide_eq_true_eq, Bool.not_eq_true', beq_iff_eq,
        Option.map_eq_some_iff] at this
      obtain ⟨⟨⟨u1, u2⟩, a, hca, u3⟩, u4⟩ := this
      -- the create event cited is stored under the id of `c0`, so it is `c0`
      obtain ⟨ida, hida⟩ := createAmong_fetched hca
      exact ⟨e, hf, ⟨⟨u1, u2⟩, by rw [hca, fetchOf_of_eventId hida hc' u3]⟩, u4⟩
    refine ⟨h1, h2, fun n hn => ?_, fun n hn e he => ?_, fun id e he a ha => ?_, ?_, fun s hs k v hg => ?_⟩
    · obtain ⟨e, he, hw, _⟩ := hevent n hn
      exact ⟨e, he, hw⟩
    · obtain ⟨e', he', _, hnc⟩ := hevent n hn
      cases he.symm.trans he'
      exact hnc
    · exact List.all_eq_true.mp (List.all_eq_true.mp h5 e (fetchOf_mem he)) a ha
    · refine ⟨rankOfTable (rankTable store store.length), fun id e he a ha => ?_⟩
      rw [← fetchOf_ident store id e he]
      simpa using List.all_eq_true.mp (List.all_eq_true.mp h6 e (fetchOf_mem he)) a ha
    · exact List.all_eq_true.mp (List.all_eq_true.mp h7 s hs) (k, v) (AL.get_some_mem hg)
  · cases h

/-- Checker for `F4Free`. -/
def f4FreeB (p : Params) (store : List Event) (sets : List StateMap) (chains : List (List Id)) : Bool :=
  (none :: store.map some).all (fun P =>
    noF4b (fetchOf store) (store.length + 1) P (specRest p store sets chains))

theorem f4FreeB_sound {p : Params} {store : List Event} {sets : List StateMap} {chains : List (List Id)}
    (h : f4FreeB p store sets chains = true) : F4Free p store sets chains := by
  intro P hP
  exact noF4_of_b (List.all_eq_true.mp h P hP)

end Ruma.StateRes
