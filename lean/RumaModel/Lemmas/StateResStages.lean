/-
  Stage lemmas for `resolve`: each stage of the model is characterised in order-free terms
  (membership / lookup), which gives both the correspondence with `Spec/StateResV2.lean` (C07) and
  the independence of iteration orders and argument permutations (C06).
-/
import RumaModel.Lemmas.StateResBasic
import RumaModel.Lemmas.StateResTopo
namespace Ruma.StateRes
open Ruma Ruma.Spec.StateResV2

theorem foldl_of_mem {f : β → α → β} {P : β → Prop} {l : List α} {a : α} (ha : a ∈ l)
    (hest : ∀ b, P (f b a)) (hmono : ∀ b x, P b → P (f b x)) (b : β) : P (l.foldl f b) := by
  obtain ⟨s, t, rfl⟩ := List.append_of_mem ha
  rw [List.foldl_append, List.foldl_cons]
  exact List.foldlRecOn t f (hest _) fun b hb x _ => hmono b x hb


theorem countP_flatten_of_nodup [DecidableEq α] {p : α → Bool} {a : α} (hp : ∀ x, p x = true ↔ x = a) :
    ∀ (ls : List (List α)), (∀ l ∈ ls, l.Nodup) → ls.flatten.countP p = ls.countP (·.any p)
  | [], _ => rfl
  | l :: ls, h => by
    rw [List.forall_mem_cons] at h
    have : l.countP p = if l.any p then 1 else 0 := by
      rw [List.countP_congr (q := (· == a)) fun x _ => by simp [hp], ← List.count_eq_countP, h.1.count]
      simp [hp]
    rw [List.flatten_cons, List.countP_append, countP_flatten_of_nodup hp ls h.2, this,
      List.countP_cons, Nat.add_comm]

theorem mem_of_cntOf [DecidableEq κ] {m : List (κ × Nat)} (hn : (AL.keys m).Nodup) {k : κ} {c : Nat} :
    (k, c) ∈ m ↔ k ∈ AL.keys m ∧ cntOf m k = c := by
  rw [AL.mem_iff_get hn, cntOf]
  cases hg : AL.get m k with
  | none => simp [(AL.get_eq_none_iff m k).mp hg]
  | some c' => simp [List.mem_map_of_mem (f := Prod.fst) (AL.get_some_mem hg), AL.keys]

theorem mem_authChainDiff {o : Orders} (ho : o.Valid) {chains : List (List Id)}
    (hn : ∀ c ∈ chains, c.Nodup) (id : Id) :
    id ∈ authChainDiff o chains ↔ (∃ c ∈ chains, id ∈ c) ∧ (∃ c ∈ chains, id ∉ c) := by
  have h1 : id ∈ authChainDiff o chains ↔ ∃ n, (id, n) ∈ idCounts chains ∧ n < chains.length := by
    simp only [authChainDiff, List.mem_filterMap, (ho.idCounts _).mem_iff, Prod.exists]
    constructor
    · rintro ⟨i, n, hm, hc⟩
      split at hc
      · cases hc; exact ⟨n, hm, ‹_›⟩
      · cases hc
    · rintro ⟨n, hm, hlt⟩; exact ⟨id, n, hm, by simp [hlt]⟩
  -- the count stored for `id` is the number of chains that contain it
  obtain ⟨hk1, hk2⟩ := keys_foldl_bump chains.flatten ([] : List (Id × Nat)) List.nodup_nil
  simp only [h1, idCounts, mem_of_cntOf hk1, hk2, cntOf_foldl_bump']
  rw [countP_flatten_of_nodup (fun _ => decide_eq_true_iff) _ hn]
  simp only [cntOf, AL.get_nil, Nat.zero_add, AL.keys, List.map_nil, List.not_mem_nil, or_false,
    List.mem_flatten, List.countP_eq_length_filter]
  constructor
  · rintro ⟨n, ⟨h, rfl⟩, hlt⟩
    obtain ⟨c, hc, hic⟩ := List.length_filter_lt_length_iff_exists.mp hlt
    exact ⟨h, c, hc, by simpa using hic⟩
  · rintro ⟨h, c, hc, hic⟩
    exact ⟨_, ⟨h, rfl⟩, List.length_filter_lt_length_iff_exists.mpr ⟨c, hc, by simpa using hic⟩⟩

theorem mem_authDifference {chains : List (List Id)} (id : Id) :
    id ∈ authDifference chains ↔ (∃ c ∈ chains, id ∈ c) ∧ (∃ c ∈ chains, id ∉ c) := by
  simp only [authDifference, mem_dedup, List.mem_filter, List.mem_flatten, Bool.not_eq_true',
    List.all_eq_false, List.contains_iff_mem]

theorem nodup_authChainDiff {o : Orders} (ho : o.Valid) (chains : List (List Id)) :
    (authChainDiff o chains).Nodup := by
  have hk : (AL.keys (o.idCounts.sh (idCounts chains))).Nodup :=
    ((ho.idCounts _).map _).symm.nodup (keys_foldl_bump chains.flatten [] List.nodup_nil).1
  refine (List.pairwise_map.mp hk).filterMap _ fun a a' hne b hb b' hb' => ?_
  split at hb <;> split at hb' <;> simp_all


/-- The `(key, id, count)` triples in the order the two nested loops of `separate` visit them. -/
def triples (o : Orders) (occ : List (SKey × List (Id × Nat))) : List (SKey × (Id × Nat)) :=
  (o.occ.sh occ).flatMap (fun kv => ((o.occIn kv.1).sh kv.2).map (fun ic => (kv.1, ic)))

def sepFold (n : Nat) (T : List (SKey × (Id × Nat))) (acc : StateMap × List (SKey × List Id)) :
    StateMap × List (SKey × List Id) :=
  T.foldl (fun acc t => separateStep n t.1 acc t.2) acc

theorem separate_eq_sepFold (o : Orders) (sets : List StateMap) :
    separate o sets = sepFold sets.length (triples o (occurrences sets)) ([], []) := by
  unfold separate triples sepFold
  generalize o.occ.sh (occurrences sets) = l
  generalize (([], []) : StateMap × List (SKey × List Id)) = acc
  induction l generalizing acc with
  | nil => rfl
  | cons a t ih =>
    simp only [List.foldl_cons, List.flatMap_cons, List.foldl_append, List.foldl_map]
    exact ih _

theorem mem_triples {o : Orders} (ho : o.Valid) {occ : List (SKey × List (Id × Nat))}
    {k : SKey} {v : Id} {c : Nat} :
    (k, (v, c)) ∈ triples o occ ↔ ∃ m, (k, m) ∈ occ ∧ (v, c) ∈ m := by
  simp only [triples, List.mem_flatMap, List.mem_map, (ho.occ _).mem_iff]
  constructor
  · rintro ⟨⟨k', m⟩, hm, ⟨ic, hic, he⟩⟩
    cases he
    exact ⟨m, hm, ((ho.occIn _) _).mem_iff.mp hic⟩
  · rintro ⟨m, hm, hvc⟩
    exact ⟨(k, m), hm, (v, c), ((ho.occIn _) _).mem_iff.mpr hvc, rfl⟩


section sepFold
variable (n : Nat) (T : List (SKey × (Id × Nat))) (acc : StateMap × List (SKey × List Id))

theorem sepFold_induct {P : StateMap × List (SKey × List Id) → Prop} (h0 : P acc)
    (hs : ∀ acc t, t ∈ T → P acc → P (separateStep n t.1 acc t.2)) : P (sepFold n T acc) :=
  List.foldlRecOn T _ h0 fun b hb a ha => hs b a ha hb

theorem sepFold_clean_sound (k : SKey) (v : Id) :
    AL.get (sepFold n T acc).1 k = some v → (k, (v, n)) ∈ T ∨ AL.get acc.1 k = some v := by
  refine sepFold_induct n T acc (P := fun a => AL.get a.1 k = some v → _) .inr fun acc t ht ih h => ?_
  obtain ⟨tk, tv, tc⟩ := t
  simp only [separateStep] at h
  split at h
  · rename_i hc
    rw [AL.get_insert] at h
    split at h
    · rename_i hk
      cases h; cases hk; cases hc; exact .inl ht
    · exact ih h
  · exact ih h

theorem sepFold_clean_complete {k : SKey} {v : Id} (h : (k, (v, n)) ∈ T) :
    (AL.get (sepFold n T acc).1 k).isSome := by
  refine foldl_of_mem (P := fun acc => (AL.get acc.1 k).isSome = true) h (fun acc => ?_)
    (fun acc t h => ?_) acc
  · simp [separateStep, AL.get_insert_self]
  · simp only [separateStep]
    split
    · rw [AL.get_insert]; split <;> simp [h]
    · exact h

theorem sepFold_clean_keys (h : (AL.keys acc.1).Nodup) : (AL.keys (sepFold n T acc).1).Nodup := by
  refine sepFold_induct n T acc (P := fun a => (AL.keys a.1).Nodup) h fun acc t _ ih => ?_
  simp only [separateStep]
  split
  · exact AL.keys_nodup_insert _ _ _ ih
  · exact ih

end sepFold

def confIds (cf : List (SKey × List Id)) : List Id := (cf.map (·.2)).flatten

theorem confIds_confPush : ∀ (cf : List (SKey × List Id)) (k : SKey) (v x : Id),
    x ∈ confIds (confPush cf k v) ↔ x = v ∨ x ∈ confIds cf
  | [], k, v, x => by simp [confPush, confIds]
  | (q, m) :: t, k, v, x => by
    have ih := confIds_confPush t k v x
    simp only [confIds] at ih ⊢
    by_cases hq : q = k
    · simp [confPush, hq, or_left_comm]
    · simp [confPush, hq, ih, or_left_comm]

theorem confPush_ne_nil (cf : List (SKey × List Id)) (k : SKey) (v : Id) : confPush cf k v ≠ [] := by
  cases cf with
  | nil => simp [confPush]
  | cons a t => simp only [confPush]; split <;> simp

theorem sepFold_cons (n : Nat) (t : SKey × (Id × Nat)) (T : List (SKey × (Id × Nat)))
    (acc : StateMap × List (SKey × List Id)) :
    sepFold n (t :: T) acc = sepFold n T (separateStep n t.1 acc t.2) := rfl

theorem sepFold_conf_eq_nil (n : Nat) : ∀ (T : List (SKey × (Id × Nat))) (acc : StateMap × List (SKey × List Id)),
    (sepFold n T acc).2 = [] ↔ acc.2 = [] ∧ ∀ t ∈ T, t.2.2 = n
  | [], acc => by simp [sepFold]
  | t :: T, acc => by
    have hstep : (separateStep n t.1 acc t.2).2 = [] ↔ acc.2 = [] ∧ t.2.2 = n := by
      unfold separateStep
      split <;> simp [*, confPush_ne_nil]
    rw [sepFold_cons, sepFold_conf_eq_nil n T, hstep, List.forall_mem_cons, and_assoc]

theorem sepFold_conf_ne_nil (n : Nat) : ∀ (T : List (SKey × (Id × Nat))) (acc),
    acc.2 ≠ [] → (sepFold n T acc).2 ≠ [] := by
  intro T acc h hnil
  exact h ((sepFold_conf_eq_nil n T acc).mp hnil).1

theorem sepFold_conf (n : Nat) (x : Id) : ∀ (T : List (SKey × (Id × Nat))) (acc : StateMap × List (SKey × List Id)),
    x ∈ confIds (sepFold n T acc).2 ↔ (∃ k c, (k, (x, c)) ∈ T ∧ c ≠ n) ∨ x ∈ confIds acc.2
  | [], acc => by simp [sepFold]
  | (k, v, c) :: T, acc => by
    have hstep : x ∈ confIds (separateStep n k acc (v, c)).2 ↔ (x = v ∧ c ≠ n) ∨ x ∈ confIds acc.2 := by
      by_cases hc : c = n <;> simp [separateStep, hc, confIds_confPush]
    rw [sepFold_cons, sepFold_conf n x T, hstep, ← or_assoc]
    refine or_congr_left ⟨?_, ?_⟩
    · rintro (⟨k', c', h, hc⟩ | ⟨rfl, hc⟩)
      · exact ⟨k', c', .tail _ h, hc⟩
      · exact ⟨k, c, .head _, hc⟩
    · rintro ⟨k', c', h, hc⟩
      rcases List.mem_cons.mp h with h | h
      · cases h; exact .inr ⟨rfl, hc⟩
      · exact .inl ⟨k', c', h, hc⟩


theorem occAdd_eq_insert : ∀ (occ : List (SKey × List (Id × Nat))) (k : SKey) (v : Id),
    occAdd occ k v = AL.insert occ k (bump ((AL.get occ k).getD []) v)
  | [], _, _ => rfl
  | (q, m) :: t, k, v => by
    by_cases hq : q = k
    · simp [occAdd, AL.insert, AL.get, hq]
    · simp [occAdd, AL.insert, AL.get, hq, occAdd_eq_insert t k v]

def occCount (occ : List (SKey × List (Id × Nat))) (k : SKey) (v : Id) : Nat :=
  cntOf ((AL.get occ k).getD []) v

theorem occCount_occAdd (occ : List (SKey × List (Id × Nat))) (k : SKey) (v : Id) (k' : SKey) (v' : Id) :
    occCount (occAdd occ k v) k' v' = occCount occ k' v' + if k = k' ∧ v = v' then 1 else 0 := by
  rw [occAdd_eq_insert, occCount, AL.get_insert]
  by_cases hk : k = k'
  · subst hk; simp [cntOf_bump, occCount]
  · simp [hk, occCount]

/-- Both levels of the nested count map are maps, and no stored count is 0. -/
structure OccWF (occ : List (SKey × List (Id × Nat))) : Prop where
  keys : (AL.keys occ).Nodup
  inner : ∀ p ∈ occ, (AL.keys p.2).Nodup
  pos : ∀ p ∈ occ, ∀ q ∈ p.2, 0 < q.2

theorem occAdd_wf {occ : List (SKey × List (Id × Nat))} (k : SKey) (v : Id) (wf : OccWF occ) :
    OccWF (occAdd occ k v) := by
  have h0 : (AL.keys ((AL.get occ k).getD [])).Nodup ∧ ∀ q ∈ (AL.get occ k).getD [], 0 < q.2 := by
    cases hg : AL.get occ k with
    | none => simp [AL.keys]
    | some m => exact ⟨wf.inner _ (AL.get_some_mem hg), wf.pos _ (AL.get_some_mem hg)⟩
  rw [occAdd_eq_insert]
  refine ⟨AL.keys_nodup_insert _ _ _ wf.keys, fun p hp => ?_, fun p hp => ?_⟩ <;>
    rcases AL.mem_insert hp with rfl | hp
  · exact bump_eq_insert _ v ▸ AL.keys_nodup_insert _ _ _ h0.1
  · exact wf.inner p hp
  · exact bump_pos v h0.2
  · exact wf.pos p hp

theorem occ_foldl (l : List (SKey × Id)) : ∀ (occ : List (SKey × List (Id × Nat))), OccWF occ →
    OccWF (l.foldl (fun acc kv => occAdd acc kv.1 kv.2) occ) ∧
    ∀ k v, occCount (l.foldl (fun acc kv => occAdd acc kv.1 kv.2) occ) k v =
      occCount occ k v + l.countP (fun x => decide (x = (k, v))) := by
  induction l with
  | nil => exact fun occ wf => ⟨wf, by simp⟩
  | cons a t ih =>
    intro occ wf
    obtain ⟨h1, h2⟩ := ih _ (occAdd_wf a.1 a.2 wf)
    refine ⟨h1, fun k v => ?_⟩
    rw [List.foldl_cons, h2, occCount_occAdd, List.countP_cons, Nat.add_assoc, Nat.add_comm (ite ..)]
    simp [Prod.ext_iff]

theorem mem_occ_iff {occ : List (SKey × List (Id × Nat))} (wf : OccWF occ) {k : SKey} {v : Id} {c : Nat} :
    (∃ m, (k, m) ∈ occ ∧ (v, c) ∈ m) ↔ 0 < c ∧ occCount occ k v = c := by
  constructor
  · rintro ⟨m, hm, hvc⟩
    simp [wf.pos _ hm _ hvc, occCount, AL.get_of_mem_nodup wf.keys hm, cntOf,
      AL.get_of_mem_nodup (wf.inner _ hm) hvc]
  · rintro ⟨hpos, rfl⟩
    unfold occCount cntOf at hpos ⊢
    cases hg : AL.get occ k with
    | none => simp [hg] at hpos
    | some m =>
      cases hg2 : AL.get m v with
      | none => simp [hg, hg2] at hpos
      | some c' => exact ⟨m, AL.get_some_mem hg, by simpa [hg2] using AL.get_some_mem hg2⟩

/-- Every state set is a map: its keys are distinct. -/
def SetsWF (sets : List StateMap) : Prop := ∀ s ∈ sets, (AL.keys s).Nodup

/-- `k ↦ v` in every state set, and there is at least one state set. -/
def Unconf (sets : List StateMap) (k : SKey) (v : Id) : Prop :=
  sets ≠ [] ∧ ∀ s ∈ sets, AL.get s k = some v

theorem Unconf.unique {sets : List StateMap} {k : SKey} {v v' : Id} (h : Unconf sets k v)
    (h' : Unconf sets k v') : v = v' := by
  obtain ⟨s, hs⟩ := List.exists_mem_of_ne_nil _ h.1
  exact Option.some.inj ((h.2 s hs).symm.trans (h'.2 s hs))

theorem nodup_of_keys_nodup [DecidableEq κ] {m : List (κ × β)} (h : (AL.keys m).Nodup) : m.Nodup :=
  (List.pairwise_map.mp h).imp fun hne e => hne (congrArg Prod.fst e)

theorem mem_triples_occurrences {o : Orders} (ho : o.Valid) {sets : List StateMap} (wf : SetsWF sets)
    {k : SKey} {v : Id} {c : Nat} :
    (k, (v, c)) ∈ triples o (occurrences sets) ↔
      0 < c ∧ sets.countP (fun s => AL.get s k = some v) = c := by
  obtain ⟨h1, h2⟩ := occ_foldl sets.flatten [] ⟨List.nodup_nil, nofun, nofun⟩
  rw [mem_triples ho, occurrences, mem_occ_iff h1, h2,
    countP_flatten_of_nodup (fun _ => decide_eq_true_iff)]
  · rw [show occCount [] k v = 0 from rfl, Nat.zero_add,
      List.countP_congr (q := fun s => AL.get s k = some v) fun s hs => by
        simp [AL.mem_iff_get (wf s hs)]]
  · exact fun s hs => nodup_of_keys_nodup (wf s hs)

theorem mem_triples_n {o : Orders} (ho : o.Valid) {sets : List StateMap} (wf : SetsWF sets)
    {k : SKey} {v : Id} :
    (k, (v, sets.length)) ∈ triples o (occurrences sets) ↔ Unconf sets k v := by
  rw [mem_triples_occurrences ho wf, List.countP_eq_length, Unconf, List.length_pos_iff]
  simp

theorem exists_triple {o : Orders} (ho : o.Valid) {sets : List StateMap} (wf : SetsWF sets)
    {k : SKey} {v : Id} : (∃ c, (k, (v, c)) ∈ triples o (occurrences sets)) ↔
      ∃ s ∈ sets, AL.get s k = some v := by
  simp [mem_triples_occurrences ho wf]

theorem separate_clean {o : Orders} (ho : o.Valid) {sets : List StateMap} (wf : SetsWF sets)
    (k : SKey) (v : Id) : AL.get (separate o sets).1 k = some v ↔ Unconf sets k v := by
  rw [separate_eq_sepFold]
  have hs : ∀ v, AL.get (sepFold sets.length (triples o (occurrences sets)) ([], [])).1 k = some v →
      Unconf sets k v := fun v h =>
    (mem_triples_n ho wf).mp ((sepFold_clean_sound _ _ _ k v h).resolve_right (by simp))
  refine ⟨hs v, fun h => ?_⟩
  obtain ⟨v', hv'⟩ := Option.isSome_iff_exists.mp
    (sepFold_clean_complete sets.length _ ([], []) ((mem_triples_n ho wf).mpr h))
  rw [hv', h.unique (hs v' hv')]

theorem separate_conf {o : Orders} (ho : o.Valid) {sets : List StateMap} (wf : SetsWF sets)
    (id : Id) : id ∈ confIds (separate o sets).2 ↔
      ∃ k, (∃ s ∈ sets, AL.get s k = some id) ∧ ¬ Unconf sets k id := by
  rw [separate_eq_sepFold, sepFold_conf]
  simp only [confIds, List.map_nil, List.flatten_nil, List.not_mem_nil, or_false,
    ← exists_triple ho wf, ← mem_triples_n ho wf]
  constructor
  · rintro ⟨k, c, hm, hc⟩
    refine ⟨k, ⟨c, hm⟩, fun hn => hc ?_⟩
    have := (mem_triples_occurrences ho wf).mp hm
    have := (mem_triples_occurrences ho wf).mp hn
    omega
  · rintro ⟨k, ⟨c, hm⟩, hnu⟩
    exact ⟨k, c, hm, fun hc => hnu (hc ▸ hm)⟩

theorem separate_conf_nil {o : Orders} (ho : o.Valid) {sets : List StateMap} (wf : SetsWF sets) :
    (separate o sets).2 = [] ↔ ∀ k id, (∃ s ∈ sets, AL.get s k = some id) → Unconf sets k id := by
  rw [separate_eq_sepFold, sepFold_conf_eq_nil]
  simp only [true_and, ← exists_triple ho wf, ← mem_triples_n ho wf]
  constructor
  · rintro h k id ⟨c, hm⟩
    exact h _ hm ▸ hm
  · rintro h ⟨k, v, c⟩ ht
    have := (mem_triples_occurrences ho wf).mp ht
    have := (mem_triples_occurrences ho wf).mp (h k v ⟨c, ht⟩)
    simp only; omega

theorem separate_clean_keys (o : Orders) (sets : List StateMap) :
    (AL.keys (separate o sets).1).Nodup := by
  rw [separate_eq_sepFold]; exact sepFold_clean_keys _ _ _ List.nodup_nil


/-- `HashSet::insert`. -/
def insSet (es : List Id) (a : Id) : List Id := if a ∈ es then es else es ++ [a]

theorem mem_insSet {es : List Id} {a c : Id} : c ∈ insSet es a ↔ c ∈ es ∨ c = a := by
  unfold insSet; split
  · exact ⟨.inl, fun h => h.elim id (· ▸ ‹a ∈ es›)⟩
  · simp

theorem mem_foldl_insSet {as : List Id} : ∀ {es : List Id} {c : Id},
    c ∈ as.foldl insSet es ↔ c ∈ es ∨ c ∈ as := by
  induction as with
  | nil => simp
  | cons a t ih => intro es c; rw [List.foldl_cons, ih, mem_insSet, List.mem_cons, or_assoc]

theorem contains_eq_mem_nodes (g : Graph) (x : Id) : AL.contains g x = decide (x ∈ g.nodes) := by
  rw [Bool.eq_iff_iff]
  simp only [AL.contains, List.any_eq_true, decide_eq_true_eq, Graph.nodes, List.mem_map]

theorem graphAddEdge_eq : ∀ (g : Graph) (eid a : Id), g.nodes.Nodup → eid ∈ g.nodes →
    graphAddEdge g eid a = some (mapEdges (· = eid) (insSet · a) g)
  | (q, es) :: t, eid, a, hn, hm => by
    simp only [Graph.nodes, List.map_cons, List.nodup_cons, List.mem_cons] at hn hm
    by_cases hq : q = eid
    · subst hq
      have := mapEdges_eq_self (P := (· = q)) (f := (insSet · a)) (g := t)
        fun ne hne h => absurd (h ▸ List.mem_map_of_mem hne) hn.1
      simp only [mapEdges] at this
      simp only [graphAddEdge, mapEdges, List.map_cons, if_true, this]; rfl
    · simp [graphAddEdge, hq, graphAddEdge_eq t eid a hn.2 (hm.resolve_left (Ne.symm hq)), mapEdges]

/-- The `for aid in auth_events` loop. -/
theorem addAuthEdges_eq (allConf : List Id) (eid : Id) : ∀ (auths : List Id) (g : Graph) (st : List Id),
    g.nodes.Nodup → eid ∈ g.nodes →
    addAuthEdges allConf eid auths g st =
      .ok (mapEdges (· = eid) ((auths.filter (· ∈ allConf)).foldl insSet) g,
           (auths.filter (fun a => decide (a ∈ allConf) && !AL.contains g a)).reverse ++ st)
  | [], g, st, _, _ => by simp [addAuthEdges, mapEdges_eq_self]
  | a :: rest, g, st, hn, hm => by
    by_cases ha : a ∈ allConf
    · obtain ⟨g', hg'⟩ : ∃ g', g' = mapEdges (· = eid) (insSet · a) g := ⟨_, rfl⟩
      have hnodes : g'.nodes = g.nodes := hg' ▸ nodes_mapEdges g
      have hc : ∀ x, AL.contains g' x = AL.contains g x := fun x => by
        rw [contains_eq_mem_nodes, contains_eq_mem_nodes, hnodes]
      have hcomp : mapEdges (· = eid) ((rest.filter (· ∈ allConf)).foldl insSet) g' =
          mapEdges (· = eid) (((a :: rest).filter (· ∈ allConf)).foldl insSet) g := by
        simp only [hg', mapEdges, List.map_map]
        refine List.map_congr_left fun ne _ => ?_
        by_cases h : ne.1 = eid <;> simp [h, ha]
      simp only [addAuthEdges, ha, if_true, graphAddEdge_eq g eid a hn hm, ← hg']
      rw [addAuthEdges_eq allConf eid rest g' _ (hnodes ▸ hn) (hnodes ▸ hm), hcomp]
      by_cases hg : AL.contains g a = true
      · simp [ha, hg, hc]
      · simp [ha, hg, hc]
    · simp [addAuthEdges, ha, addAuthEdges_eq allConf eid rest g st hn hm]

/-- The auth events of `n` inside the full conflicted set. -/
def children (fetch : Id → Option Event) (allConf : List Id) (n : Id) : List Id :=
  (authEventsOf fetch n).filter (fun a => decide (a ∈ allConf))

theorem mem_children {fetch : Id → Option Event} {allConf : List Id} {n c : Id} :
    c ∈ children fetch allConf n ↔ c ∈ authEventsOf fetch n ∧ c ∈ allConf := by
  simp [children]

/-- `n` is reachable from `r` along auth-event edges that stay inside the full conflicted set. -/
inductive Path (fetch : Id → Option Event) (allConf : List Id) (r : Id) : Id → Prop
  | refl : Path fetch allConf r r
  | step {n c : Id} : Path fetch allConf r n → c ∈ children fetch allConf n → Path fetch allConf r c

theorem Path.trans {fetch : Id → Option Event} {allConf : List Id} {a b c : Id}
    (h1 : Path fetch allConf a b) (h2 : Path fetch allConf b c) : Path fetch allConf a c := by
  induction h2 with
  | refl => exact h1
  | step _ hc ih => exact .step ih hc

theorem Path.mem {fetch : Id → Option Event} {allConf : List Id} {r n : Id}
    (hp : Path fetch allConf r n) (hr : r ∈ allConf) : n ∈ allConf := by
  cases hp with
  | refl => exact hr
  | step _ hc => exact (mem_children.mp hc).2

/-- The graph under construction: distinct keys, and the edges of a key are its children. -/
structure GInv (fetch : Id → Option Event) (allConf : List Id) (g : Graph) : Prop where
  nodup : g.nodes.Nodup
  edges : ∀ n es, (n, es) ∈ g → ∀ c, c ∈ es ↔ c ∈ children fetch allConf n

theorem graphInsertNode_eq (g : Graph) (eid : Id) :
    graphInsertNode g eid = if eid ∈ g.nodes then g else g ++ [(eid, [])] := by
  rw [graphInsertNode, contains_eq_mem_nodes]; simp

theorem nodes_graphInsertNode {g : Graph} {eid n : Id} :
    n ∈ (graphInsertNode g eid).nodes ↔ n = eid ∨ n ∈ g.nodes := by
  rw [graphInsertNode_eq]; split
  · exact ⟨.inr, fun h => h.elim (· ▸ ‹eid ∈ g.nodes›) id⟩
  · simp [Graph.nodes, or_comm]

theorem nodup_graphInsertNode {g : Graph} {eid : Id} (h : g.nodes.Nodup) :
    (graphInsertNode g eid).nodes.Nodup := by
  rw [graphInsertNode_eq]; split
  · exact h
  · rw [Graph.nodes, List.map_append]
    exact List.nodup_append.mpr ⟨h, by simp, fun a ha b hb hab => by simp_all [Graph.nodes]⟩

/-- One iteration of `while let Some(eid) = state.pop()`. -/
theorem dfs_step {fetch : Id → Option Event} {allConf : List Id} {g : Graph}
    (inv : GInv fetch allConf g) (eid : Id) (st : List Id) :
    ∃ (g' : Graph) (pushes : List Id), addAuthEdges allConf eid (authEventsOf fetch eid) (graphInsertNode g eid) st
        = .ok (g', pushes.reverse ++ st) ∧
      GInv fetch allConf g' ∧
      (∀ n, n ∈ g'.nodes ↔ n = eid ∨ n ∈ g.nodes) ∧
      (∀ c, c ∈ pushes ↔ c ∈ children fetch allConf eid ∧ c ≠ eid ∧ c ∉ g.nodes) ∧
      pushes.length ≤ (authEventsOf fetch eid).length := by
  have hn1 := nodup_graphInsertNode (eid := eid) inv.nodup
  have hm1 : eid ∈ (graphInsertNode g eid).nodes := nodes_graphInsertNode.mpr (.inl rfl)
  refine ⟨_, _, addAuthEdges_eq allConf eid _ _ st hn1 hm1, ⟨?_, ?_⟩, ?_, ?_, ?_⟩
  · rw [nodes_mapEdges]; exact hn1
  · intro n es hm c
    obtain ⟨⟨n', es0⟩, hm0, he⟩ := List.mem_map.mp hm
    -- the entry before the loop: an old one, or the fresh empty one of `eid`
    have h0 : (∀ c ∈ es0, c ∈ children fetch allConf n') ∧
        (n' ≠ eid → ∀ c ∈ children fetch allConf n', c ∈ es0) := by
      have hold := fun h : (n', es0) ∈ g => And.intro (fun c => (inv.edges _ _ h c).mp)
        fun (_ : n' ≠ eid) c => (inv.edges _ _ h c).mpr
      rw [graphInsertNode_eq] at hm0
      split at hm0
      · exact hold hm0
      · rcases List.mem_append.mp hm0 with h | h
        · exact hold h
        · cases List.mem_singleton.mp h
          exact ⟨nofun, fun h => absurd rfl h⟩
    by_cases hne : n' = eid
    · simp only [hne, if_true, Prod.mk.injEq] at he
      obtain ⟨rfl, rfl⟩ := he
      rw [mem_foldl_insSet]
      exact ⟨fun h => h.elim (hne ▸ h0.1 c) id, .inr⟩
    · simp only [hne, if_false] at he
      cases he
      exact ⟨h0.1 c, h0.2 hne c⟩
  · intro n
    rw [nodes_mapEdges]; exact nodes_graphInsertNode
  · intro c
    simp [contains_eq_mem_nodes, nodes_graphInsertNode, children, and_assoc]
  · exact List.length_filter_le _ _

/-- Every child of a graph node is a graph node or still on the stack. -/
def Closed (fetch : Id → Option Event) (allConf : List Id) (g : Graph) (st : List Id) : Prop :=
  ∀ n ∈ g.nodes, ∀ c ∈ children fetch allConf n, c ∈ g.nodes ∨ c ∈ st

theorem closed_path {fetch : Id → Option Event} {allConf : List Id} {g : Graph}
    (cl : Closed fetch allConf g []) {r n : Id} (hr : r ∈ g.nodes) (hp : Path fetch allConf r n) :
    n ∈ g.nodes := by
  induction hp with
  | refl => exact hr
  | step _ hc ih => exact (cl _ ih _ hc).resolve_right List.not_mem_nil

/-- Stack discipline: an unvisited child of a visited node lies on the stack above every copy of
that node (so re-visiting a node pushes nothing). -/
def Lifo (fetch : Id → Option Event) (allConf : List Id) (g : Graph) (st : List Id) : Prop :=
  ∀ n ∈ g.nodes, ∀ c ∈ children fetch allConf n,
    c ∈ g.nodes ∨ ∃ pre post, st = pre ++ c :: post ∧ n ∉ pre

theorem Closed.lifo {fetch : Id → Option Event} {allConf : List Id} {g : Graph}
    (cl : Closed fetch allConf g []) (st : List Id) : Lifo fetch allConf g st :=
  fun n hn c hc => .inl ((cl n hn c hc).resolve_right List.not_mem_nil)

/-- Number of events of the full conflicted set that are not graph keys yet. -/
def unvisited (allConf : List Id) (g : Graph) : Nat :=
  (allConf.filter (fun x => decide (x ∉ g.nodes))).length

def authTotal (fetch : Id → Option Event) (allConf : List Id) : Nat :=
  (allConf.map (fun id => (authEventsOf fetch id).length)).sum

theorem le_sum_map {f : α → Nat} : ∀ {l : List α} {a : α}, a ∈ l → f a ≤ (l.map f).sum
  | x :: xs, a, h => by
    rcases List.mem_cons.mp h with rfl | h
    · simp
    · have := le_sum_map (f := f) h; simp; omega

theorem unvisited_insert {allConf : List Id} (hac : allConf.Nodup) {g g' : Graph} {eid : Id}
    (heid : eid ∈ allConf) (hv : eid ∉ g.nodes) (hnodes : ∀ n, n ∈ g'.nodes ↔ n = eid ∨ n ∈ g.nodes) :
    unvisited allConf g' + 1 = unvisited allConf g := by
  have hmem : eid ∈ allConf.filter (fun x => decide (x ∉ g.nodes)) :=
    List.mem_filter.mpr ⟨heid, decide_eq_true hv⟩
  have hperm := List.perm_cons_erase hmem
  rw [unvisited, unvisited, hperm.length_eq, List.length_cons, Nat.add_right_cancel_iff]
  refine ((List.perm_ext_iff_of_nodup (hac.sublist List.filter_sublist)
    ((hac.sublist List.filter_sublist).erase _)).mpr fun x => ?_).length_eq
  rw [(hac.sublist List.filter_sublist).mem_erase_iff]
  simp only [List.mem_filter, decide_eq_true_eq, hnodes, not_or]
  exact ⟨fun ⟨h1, h2, h3⟩ => ⟨h2, h1, h3⟩, fun ⟨h2, h1, h3⟩ => ⟨h1, h2, h3⟩⟩

/-- One `add_event_and_auth_chain_to_graph` run, started with enough fuel for the events not yet
visited: it does not fail, and adds to the graph exactly what is reachable from the stack. -/
theorem dfs_spec {fetch : Id → Option Event} {allConf : List Id} (hac : allConf.Nodup) :
    ∀ (fuel : Nat) (st : List Id) (g : Graph), GInv fetch allConf g → Lifo fetch allConf g st →
      (∀ x ∈ st, x ∈ allConf) →
      unvisited allConf g * (authTotal fetch allConf + 1) + st.length ≤ fuel →
      ∃ g', dfs fetch allConf fuel st g = .ok g' ∧ GInv fetch allConf g' ∧ Closed fetch allConf g' [] ∧
        (∀ n ∈ g.nodes, n ∈ g'.nodes) ∧ (∀ n ∈ st, n ∈ g'.nodes) ∧
        (∀ n ∈ g'.nodes, n ∈ g.nodes ∨ ∃ r ∈ st, Path fetch allConf r n)
  | fuel, [], g, inv, lifo, _, _ => by
    refine ⟨g, by cases fuel <;> rfl, inv, fun n hn c hc => ?_, fun _ => id, nofun, fun _ => .inl⟩
    exact (lifo n hn c hc).imp_right fun ⟨pre, post, he, _⟩ => by cases pre <;> cases he
  | 0, _ :: _, _, _, _, _, h => by simp at h
  | fuel + 1, eid :: st, g, inv, lifo, hst, hfuel => by
    obtain ⟨g1, pushes, hstep, inv1, hnodes, hpush, hlen⟩ := dfs_step inv eid st
    simp only [dfs, hstep]
    rw [List.forall_mem_cons] at hst
    have hsub : ∀ x ∈ pushes.reverse ++ st, x ∈ allConf := fun x hx => by
      rcases List.mem_append.mp hx with h | h
      · exact (List.mem_filter.mp ((hpush x).mp (List.mem_reverse.mp h)).1).2 |> of_decide_eq_true
      · exact hst.2 x h
    have hold : ∀ n ∈ g.nodes, ∀ c ∈ children fetch allConf n, c ∉ g1.nodes →
        ∃ pre post, pushes.reverse ++ st = pre ++ c :: post ∧ n ∉ pre := fun n hn c hc hcg => by
      rcases lifo n hn c hc with h | ⟨pre, post, he, hpre⟩
      · exact absurd ((hnodes c).mpr (.inr h)) hcg
      · cases pre with
        | nil => exact absurd ((hnodes c).mpr (.inl (List.cons.inj he).1.symm)) hcg
        | cons a pre' =>
          cases he
          refine ⟨pushes.reverse ++ pre', post, by simp, fun h => ?_⟩
          rcases List.mem_append.mp h with h | h
          · exact ((hpush n).mp (List.mem_reverse.mp h)).2.2 hn
          · exact hpre (List.mem_cons_of_mem _ h)
    have hlifo1 : Lifo fetch allConf g1 (pushes.reverse ++ st) := fun n hn c hc => by
      by_cases hcg : c ∈ g1.nodes
      · exact .inl hcg
      rcases (hnodes n).mp hn with rfl | hn'
      · by_cases hv : n ∈ g.nodes
        · exact .inr (hold n hv c hc hcg)
        · have hcp : c ∈ pushes.reverse := List.mem_reverse.mpr ((hpush c).mpr
            ⟨hc, fun e => hcg ((hnodes c).mpr (.inl e)), fun e => hcg ((hnodes c).mpr (.inr e))⟩)
          obtain ⟨pre, post, he⟩ := List.append_of_mem hcp
          refine .inr ⟨pre, post ++ st, by rw [he]; simp, fun hpre => ?_⟩
          exact ((hpush n).mp (List.mem_reverse.mp (he ▸ List.mem_append_left _ hpre))).2.1 rfl
      · exact .inr (hold n hn' c hc hcg)
    have hfuel1 : unvisited allConf g1 * (authTotal fetch allConf + 1) + (pushes.reverse ++ st).length
        ≤ fuel := by
      by_cases hv : eid ∈ g.nodes
      · -- re-visit: nothing is pushed
        have hp : pushes = [] := List.eq_nil_iff_forall_not_mem.mpr fun c hcp => by
          have hc := (hpush c).mp hcp
          rcases lifo eid hv c hc.1 with h | ⟨pre, post, he, hpre⟩
          · exact hc.2.2 h
          · cases pre with
            | nil => cases he; exact hc.2.1 rfl
            | cons a pre' => cases he; exact hpre List.mem_cons_self
        have hu : unvisited allConf g1 = unvisited allConf g := by
          unfold unvisited
          congr 1
          exact List.filter_congr fun x _ => by
            have : x ∈ g1.nodes ↔ x ∈ g.nodes := by
              rw [hnodes]; exact ⟨fun h => h.elim (· ▸ hv) id, .inr⟩
            simp [this]
        simp only [hp, hu, List.reverse_nil, List.nil_append, List.length_cons] at hfuel ⊢
        omega
      · have hu := unvisited_insert hac hst.1 hv hnodes
        have hS : pushes.length ≤ authTotal fetch allConf :=
          Nat.le_trans hlen (le_sum_map (f := fun id => (authEventsOf fetch id).length) hst.1)
        simp only [List.length_append, List.length_reverse, List.length_cons] at hfuel ⊢
        rw [← hu, Nat.add_mul, Nat.one_mul] at hfuel
        omega
    obtain ⟨g', hd, i1, i2, i3, i4, i5⟩ := dfs_spec hac fuel _ g1 inv1 hlifo1 hsub hfuel1
    refine ⟨g', hd, i1, i2, fun n hn => i3 n ((hnodes n).mpr (.inr hn)), ?_, fun n hn => ?_⟩
    · exact List.forall_mem_cons.mpr ⟨i3 _ ((hnodes eid).mpr (.inl rfl)),
        fun n hn => i4 n (List.mem_append_right _ hn)⟩
    · rcases i5 n hn with h1 | ⟨r, hr, hp⟩
      · rcases (hnodes n).mp h1 with rfl | h1
        · exact .inr ⟨n, List.mem_cons_self, .refl⟩
        · exact .inl h1
      · rcases List.mem_append.mp hr with hr | hr
        · have := (hpush r).mp (List.mem_reverse.mp hr)
          exact .inr ⟨eid, List.mem_cons_self, Path.trans (.step .refl this.1) hp⟩
        · exact .inr ⟨r, List.mem_cons_of_mem _ hr, hp⟩

/-- The graph built by `reverse_topological_power_sort`: the construction does not fail (neither the
`unwrap` nor the loop bound is reached), the nodes are the events reachable from the control events
inside the full conflicted set, and the edges of a node are its auth events inside that set. -/
theorem buildGraph_spec {fetch : Id → Option Event} {allConf : List Id} (hac : allConf.Nodup) :
    ∀ (cs : List Id) (g : Graph), (∀ c ∈ cs, c ∈ allConf) → GInv fetch allConf g →
      Closed fetch allConf g [] →
      ∃ g', buildGraph fetch allConf cs g = .ok g' ∧ GInv fetch allConf g' ∧
        ∀ n, n ∈ g'.nodes ↔ n ∈ g.nodes ∨ ∃ r ∈ cs, Path fetch allConf r n
  | [], g, _, inv, _ => ⟨g, rfl, inv, by simp⟩
  | c :: cs, g, hcs, inv, cl => by
    rw [List.forall_mem_cons] at hcs
    have hfuel : unvisited allConf g * (authTotal fetch allConf + 1) + [c].length ≤
        dfsFuel fetch allConf := by
      have := Nat.mul_le_mul_right (authTotal fetch allConf + 1)
        (List.length_filter_le (fun x => decide (x ∉ g.nodes)) allConf)
      simp only [dfsFuel, unvisited, authTotal, List.length_singleton] at this ⊢
      rw [Nat.add_mul allConf.length 1]
      omega
    obtain ⟨g1, hd, i1, i2, i3, i4, i5⟩ := dfs_spec hac _ [c] g inv (cl.lifo _)
      (List.forall_mem_singleton.mpr hcs.1) hfuel
    obtain ⟨g', hb, j1, j3⟩ := buildGraph_spec hac cs g1 hcs.2 i1 i2
    refine ⟨g', by simp only [buildGraph, hd]; exact hb, j1, fun n => ?_⟩
    rw [j3]
    constructor
    · rintro (h1 | ⟨r, hr, hp⟩)
      · exact (i5 n h1).imp_right fun ⟨r, hr, hp⟩ => ⟨r, by simp_all, hp⟩
      · exact .inr ⟨r, List.mem_cons_of_mem _ hr, hp⟩
    · rintro (h1 | ⟨r, hr, hp⟩)
      · exact .inl (i3 n h1)
      · rcases List.mem_cons.mp hr with rfl | hr
        · exact .inl (closed_path i2 (i4 r List.mem_cons_self) hp)
        · exact .inr ⟨r, hr, hp⟩

theorem buildGraph_nil {fetch : Id → Option Event} {allConf : List Id} (hac : allConf.Nodup)
    {cs : List Id} (hcs : ∀ c ∈ cs, c ∈ allConf) :
    ∃ G, buildGraph fetch allConf cs [] = .ok G ∧ G.nodes.Nodup ∧
      (∀ n, n ∈ G.nodes ↔ ∃ r ∈ cs, Path fetch allConf r n) ∧
      ∀ n es, (n, es) ∈ G → ∀ x, x ∈ es ↔ x ∈ children fetch allConf n := by
  obtain ⟨G, hb, inv, hn⟩ := buildGraph_spec hac cs [] hcs ⟨List.nodup_nil, nofun⟩ nofun
  exact ⟨G, hb, inv.nodup, by simpa [Graph.nodes] using hn, inv.edges⟩


def isPL (e : Event) : Bool := isTypeAndKey e tPowerLevels []
def isCreate (e : Event) : Bool := isTypeAndKey e tCreate []

theorem typeNames_ne : tPowerLevels ≠ tCreate ∧ tJoinRules ≠ tCreate ∧ tPowerLevels ≠ tMember ∧
    tJoinRules ≠ tMember ∧ tCreate ≠ tMember := by decide +kernel

theorem not_isPL_and_isCreate (e : Event) : ¬ (isPL e = true ∧ isCreate e = true) := by
  simp only [isPL, isCreate, isTypeAndKey, Bool.and_eq_true, decide_eq_true_eq]
  rintro ⟨⟨h1, _⟩, ⟨h2, _⟩⟩
  exact typeNames_ne.1 (h1.symm.trans h2)

/-- The loop of `get_power_level_for_sender` over the fetched auth events. -/
def scanE (lockSet : Bool) : List Event → Option Event → Option Event → Option Event × Option Event
  | [], pl, cr => (pl, cr)
  | aev :: rest, pl, cr =>
    let pc : Option Event × Option Event :=
      if isTypeAndKey aev tPowerLevels [] then (some aev, cr)
      else if !lockSet && isTypeAndKey aev tCreate [] then (pl, some aev)
      else (pl, cr)
    if pc.1.isSome && (lockSet || pc.2.isSome) then pc
    else scanE lockSet rest pc.1 pc.2

theorem scanAuth_eq_scanE (fetch : Id → Option Event) (lockSet : Bool) : ∀ (auths : List Id) pl cr,
    scanAuth fetch lockSet auths pl cr = scanE lockSet (auths.filterMap fetch) pl cr
  | [], pl, cr => rfl
  | a :: rest, pl, cr => by
    cases h : fetch a with
    | none => simp only [scanAuth, h, List.filterMap_cons]; exact scanAuth_eq_scanE fetch lockSet rest pl cr
    | some aev =>
      simp only [scanAuth, h, List.filterMap_cons, scanE]
      rw [scanAuth_eq_scanE fetch lockSet rest]

/-- At most one power-levels event and at most one create event. -/
def UniquePlCreate (L : List Event) : Prop :=
  (L.filter isPL).length ≤ 1 ∧ (L.filter isCreate).length ≤ 1

def scanStep (lockSet : Bool) (a : Event) (pl cr : Option Event) : Option Event × Option Event :=
  if isPL a then (some a, cr) else if !lockSet && isCreate a then (pl, some a) else (pl, cr)

theorem scanE_cons (lockSet : Bool) (a : Event) (L : List Event) (pl cr : Option Event) :
    scanE lockSet (a :: L) pl cr =
      if (scanStep lockSet a pl cr).1.isSome && (lockSet || (scanStep lockSet a pl cr).2.isSome)
      then scanStep lockSet a pl cr
      else scanE lockSet L (scanStep lockSet a pl cr).1 (scanStep lockSet a pl cr).2 := rfl

theorem find?_eq_none_of_unique {q : α → Bool} {a : α} {L : List α}
    (h : ((a :: L).filter q).length ≤ 1) (ha : q a = true) : L.find? q = none := by
  rw [List.filter_cons_of_pos ha, List.length_cons] at h
  exact List.find?_eq_none.mpr
    (List.filter_eq_nil_iff.mp (List.eq_nil_of_length_eq_zero (Nat.le_zero.mp (Nat.le_of_succ_le_succ h))))

theorem UniquePlCreate.tail {a : Event} {L : List Event} (h : UniquePlCreate (a :: L)) :
    UniquePlCreate L :=
  ⟨Nat.le_trans ((List.sublist_cons_self a L).filter _).length_le h.1,
    Nat.le_trans ((List.sublist_cons_self a L).filter _).length_le h.2⟩

/-- What `scanE` assumes of the events still to scan: a register that is filled already will not be
filled again. -/
structure ScanInv (L : List Event) (pl cr : Option Event) : Prop where
  pl : pl.isSome → L.find? isPL = none
  cr : cr.isSome → L.find? isCreate = none
  unique : UniquePlCreate L

theorem scanStep_spec (lockSet : Bool) {a : Event} {L : List Event} {pl cr : Option Event}
    (inv : ScanInv (a :: L) pl cr) :
    ScanInv L (scanStep lockSet a pl cr).1 (scanStep lockSet a pl cr).2 ∧
    ((a :: L).find? isPL).or pl = (L.find? isPL).or (scanStep lockSet a pl cr).1 ∧
    (lockSet = false →
      ((a :: L).find? isCreate).or cr = (L.find? isCreate).or (scanStep lockSet a pl cr).2) := by
  obtain ⟨hpl, hcr, hu⟩ := inv
  unfold scanStep
  by_cases hp : isPL a = true
  · have hc : isCreate a = false := Bool.eq_false_iff.mpr fun h => not_isPL_and_isCreate a ⟨hp, h⟩
    have hL := find?_eq_none_of_unique hu.1 hp
    rw [List.find?_cons_of_neg (by simp [hc])] at hcr
    simp only [hp, if_true, List.find?_cons_of_pos, List.find?_cons_of_neg, hc, hL,
      Bool.false_eq_true, not_false_eq_true, Option.some_or, Option.none_or, implies_true, and_true]
    exact ⟨fun _ => hL, hcr, hu.tail⟩
  · rw [List.find?_cons_of_neg hp] at hpl
    simp only [hp, Bool.false_eq_true, if_false, List.find?_cons_of_neg, not_false_eq_true]
    by_cases hc : isCreate a = true
    · have hL := find?_eq_none_of_unique hu.2 hc
      cases lockSet
      · simp only [Bool.not_false, Bool.true_and, hc, if_true, List.find?_cons_of_pos, hL,
          Option.some_or, Option.none_or, implies_true, and_true]
        exact ⟨hpl, fun _ => hL, hu.tail⟩
      · simp only [Bool.not_true, Bool.false_and, Bool.false_eq_true, if_false]
        refine ⟨⟨hpl, fun h => ?_, hu.tail⟩, trivial, nofun⟩
        rw [List.find?_cons_of_pos hc] at hcr
        exact nomatch hcr h
    · rw [List.find?_cons_of_neg hc] at hcr
      simp only [hc, Bool.and_false, Bool.false_eq_true, if_false, List.find?_cons_of_neg,
        not_false_eq_true, implies_true, and_true]
      exact ⟨hpl, hcr, hu.tail⟩

theorem scanE_spec (lockSet : Bool) : ∀ (L : List Event) (pl cr : Option Event), ScanInv L pl cr →
    (scanE lockSet L pl cr).1 = (L.find? isPL).or pl ∧
    (lockSet = false → (scanE lockSet L pl cr).2 = (L.find? isCreate).or cr)
  | [], pl, cr, _ => by simp [scanE]
  | a :: L, pl, cr, inv => by
    obtain ⟨inv', e1, e2⟩ := scanStep_spec lockSet inv
    rw [scanE_cons, e1]
    split
    · -- the `break`: every register that is still read is filled, so nothing more will be found
      rename_i hb
      simp only [Bool.and_eq_true, Bool.or_eq_true] at hb
      refine ⟨by rw [inv'.pl hb.1]; rfl, fun hl => ?_⟩
      rw [e2 hl, inv'.cr (by simpa [hl] using hb.2)]; rfl
    · obtain ⟨i1, i2⟩ := scanE_spec lockSet L _ _ inv'
      exact ⟨i1, fun hl => (i2 hl).trans (e2 hl).symm⟩

/-- What the power sort needs of an event `e` of the graph (§ DESIGN C06 `WF`): among its auth
events there is at most one power-levels event, and exactly the room's create event `c0`. -/
structure EventWF (fetch : Id → Option Event) (c0 : Event) (e : Event) : Prop where
  unique : UniquePlCreate (e.authEvents.filterMap fetch)
  create : createAmong fetch e = some c0

theorem plAmong_eq (fetch : Id → Option Event) (e : Event) :
    plAmong fetch e = (e.authEvents.filterMap fetch).find? isPL := rfl

theorem createAmong_eq (fetch : Id → Option Event) (e : Event) :
    createAmong fetch e = (e.authEvents.filterMap fetch).find? isCreate := rfl

theorem powerLevelForSender_eq {p : Params} {fetch : Id → Option Event} {c0 e : Event} {eid : Id}
    (he : fetch eid = some e) (wf : EventWF fetch c0 e) (lock : Option Str)
    (hlock : ∀ c, lock = some c → p.creatorOf c0 = some c) :
    powerLevelForSender p fetch lock eid =
      match senderPower p fetch e with
      | some v => .ok (v, p.creatorOf c0)
      | none => .error .err := by
  unfold powerLevelForSender senderPower
  obtain ⟨s1, s2⟩ := scanE_spec lock.isSome (e.authEvents.filterMap fetch) none none
    ⟨nofun, nofun, wf.unique⟩
  rw [Option.or_none, ← plAmong_eq] at s1
  rw [Option.or_none, ← createAmong_eq, wf.create] at s2
  simp only [he, wf.create, scanAuth_eq_scanE, s1]
  cases lock with
  | some c =>
    simp only [hlock c rfl, Option.bind_some]
    cases p.userLevel (plAmong fetch e) e.sender c <;> rfl
  | none =>
    simp only [s2 rfl]
    cases p.creatorOf c0 with
    | none => rfl
    | some c =>
      simp only [Option.bind_some]
      cases p.userLevel (plAmong fetch e) e.sender c <;> rfl

/-- The spec's power level of the sender of graph node `n`. -/
def specPL (p : Params) (fetch : Id → Option Event) (n : Id) : Option Int :=
  (fetch n).bind (senderPower p fetch)

/-- The `for event_id in graph.keys()` loop: every node gets the spec's power level of its sender,
whichever node fills the creator cache; it fails iff some sender's power level cannot be read. -/
theorem powerLevels_eq {p : Params} {fetch : Id → Option Event} {c0 : Event} :
    ∀ (nodes : List Id) (lock : Option Str) (m : List (Id × Int)),
    (∀ n ∈ nodes, ∃ e, fetch n = some e ∧ EventWF fetch c0 e) →
    (∀ c, lock = some c → p.creatorOf c0 = some c) →
    powerLevels p fetch nodes lock m =
      if ∀ n ∈ nodes, (specPL p fetch n).isSome = true
      then .ok (nodes.foldl (fun m n => AL.insert m n ((specPL p fetch n).getD 0)) m)
      else .error .err
  | [], _, m, _, _ => by simp [powerLevels]
  | n :: ns, lock, m, hwf, hlock => by
    rw [List.forall_mem_cons] at hwf
    obtain ⟨e, he, wfe⟩ := hwf.1
    have hn : specPL p fetch n = senderPower p fetch e := by simp [specPL, he]
    simp only [powerLevels, powerLevelForSender_eq he wfe lock hlock, List.forall_mem_cons,
      List.foldl_cons, hn]
    cases senderPower p fetch e with
    | none => simp
    | some v => simp [powerLevels_eq ns (p.creatorOf c0) (AL.insert m n v) hwf.2 fun c hc => hc]


/-- The comparison keys of the power sort, from the spec's sender power levels. -/
def powerKey (p : Params) (fetch : Id → Option Event) (n : Id) : Int × Int :=
  ((specPL p fetch n).getD 0, tsOf fetch n)

/-- `G` is any representation of the graph of events reachable from the control events inside the
full conflicted set. -/
theorem powerSort_eq {p : Params} {o : Orders} (ho : o.Valid) {fetch : Id → Option Event}
    {allConf control : List Id} {c0 : Event} (hac : allConf.Nodup)
    (hctl : ∀ c ∈ control, c ∈ allConf)
    (hwf : ∀ n ∈ allConf, ∃ e, fetch n = some e ∧ EventWF fetch c0 e)
    (G : Graph) (hG : G.nodes.Nodup)
    (hGn : ∀ n, n ∈ G.nodes ↔ ∃ r ∈ control, Path fetch allConf r n)
    (hGe : ∀ n es, (n, es) ∈ G → ∀ x, x ∈ es ↔ x ∈ children fetch allConf n) :
    powerSort p o fetch allConf control =
      if ∀ n ∈ G.nodes, (specPL p fetch n).isSome = true
      then .ok (lexTopo G (Kf (powerKey p fetch))) else .error .err := by
  obtain ⟨g0, hb, hg0, hnodes, hedges⟩ := buildGraph_nil (fetch := fetch) hac hctl
  unfold powerSort
  simp only [hb]
  have hsim : GraphSim G (o.graph.sh (g0.map (fun ne => (ne.1, (o.edges ne.1).sh ne.2)))) := by
    have hperm : GraphPerm g0 (o.graph.sh (g0.map (fun ne => (ne.1, (o.edges ne.1).sh ne.2)))) :=
      ⟨fun n l => (o.edges n).sh l, fun n l => (ho.edges n) l, ho.graph _⟩
    have hs0 := hperm.sim hg0
    refine ⟨hs0.1.trans ?_, ?_⟩
    · rw [List.perm_ext_iff_of_nodup hg0 hG]
      intro n; rw [hnodes, hGn]
    · intro n es es' h1 h2 x
      obtain ⟨es0, h3⟩ := mem_nodes_iff.mp (hs0.1.mem_iff.mp (mem_nodes_iff.mpr ⟨es', h2⟩))
      rw [hGe n es h1, ← hedges n es0 h3 x]
      exact hs0.2 n es0 es' h3 h2 x
  obtain ⟨g, hg⟩ : ∃ g : Graph, g = o.graph.sh (g0.map (fun ne => (ne.1, (o.edges ne.1).sh ne.2))) := ⟨_, rfl⟩
  rw [← hg] at hsim ⊢
  have hgn : g.nodes.Nodup := hsim.1.symm.nodup hG
  have hnodes_wf : ∀ n ∈ g.nodes, ∃ e, fetch n = some e ∧ EventWF fetch c0 e := fun n hn => by
    obtain ⟨r, hr, hp⟩ := (hGn n).mp (hsim.1.mem_iff.mp hn)
    exact hwf n (hp.mem (hctl r hr))
  have hiff : (∀ n ∈ g.nodes, (specPL p fetch n).isSome = true) ↔
      ∀ n ∈ G.nodes, (specPL p fetch n).isSome = true :=
    forall_congr' fun n => by rw [hsim.1.mem_iff]
  rw [powerLevels_eq g.nodes none [] hnodes_wf nofun]
  simp only [hiff]
  by_cases hall : ∀ n ∈ G.nodes, (specPL p fetch n).isSome = true
  · simp only [if_pos hall]
    rw [lexTopoSort_eq_lexTopo hgn (fun n l => (ho.parents n) l) (kf := powerKey p fetch),
      lexTopo_sim hG hsim]
    intro n hn
    obtain ⟨e, he, _⟩ := hnodes_wf n hn
    obtain ⟨v, hv⟩ := Option.isSome_iff_exists.mp (hall n (hsim.1.mem_iff.mp hn))
    simp [AL.get_foldl_insert, hn, he, hv, powerKey, tsOf]
  · simp only [if_neg hall]


theorem mem_fullConflicted {o : Orders} (ho : o.Valid) {fetch : Id → Option Event} {diff : List Id}
    {conf : List (SKey × List Id)} (id : Id) :
    id ∈ fullConflicted o fetch diff conf ↔
      (id ∈ diff ∨ id ∈ confIds conf) ∧ (fetch id).isSome = true := by
  unfold fullConflicted
  rw [(ho.allConf _).mem_iff, mem_dedup, List.mem_filter, List.mem_append,
    (((ho.confVals conf).map (·.2)).flatten).mem_iff]
  rfl

theorem nodup_fullConflicted {o : Orders} (ho : o.Valid) (fetch : Id → Option Event) (diff : List Id)
    (conf : List (SKey × List Id)) : (fullConflicted o fetch diff conf).Nodup :=
  (ho.allConf _).symm.nodup (nodup_dedup _)


/-- Two state maps with the same lookups. -/
def StEq (a b : StateMap) : Prop := ∀ k, AL.get a k = AL.get b k

theorem StEq.insert {a b : StateMap} (h : StEq a b) (k : SKey) (v : Id) :
    StEq (AL.insert a k v) (AL.insert b k v) := by
  intro k'; rw [AL.get_insert, AL.get_insert, h k']

/-- Outcomes up to lookup. -/
def ResEq : Except Fail StateMap → Except Fail StateMap → Prop
  | .ok a, .ok b => StEq a b
  | .error e, .error e' => e = e'
  | _, _ => False

theorem ResEq.rfl' {r : Except Fail StateMap} : ResEq r r := by
  cases r with
  | ok a => exact fun _ => rfl
  | error e => exact rfl

theorem overlayState_congr (fetch : Id → Option Event) {st st' : StateMap} (h : StEq st st')
    (ks : List SKey) (m : List (SKey × Event)) :
    overlayState fetch st ks m = overlayState fetch st' ks m := by
  fun_induction overlayState fetch st ks m <;> simp only [overlayState, ← h _, *]

theorem iterativeAuthCheck_congr (p : Params) (fetch : Id → Option Event) :
    ∀ (ids : List Id) {st st' : StateMap}, StEq st st' →
      ResEq (iterativeAuthCheck p fetch ids st) (iterativeAuthCheck p fetch ids st')
  | [], st, st', h => h
  | id :: rest, st, st', h => by
    have ih := @iterativeAuthCheck_congr p fetch rest
    -- the state is read by `overlayState` only; beyond it the two sides differ in the recursive calls alone
    simp only [iterativeAuthCheck, overlayState_congr fetch h]
    repeat' split
    · exact rfl
    · exact rfl
    · exact rfl
    · exact ih h
    · exact ih (h.insert _ _)
    · exact ih h

theorem extend_get : ∀ (clean st : StateMap) (k : SKey), (AL.keys clean).Nodup →
    AL.get (extend st clean) k = (AL.get clean k).or (AL.get st k)
  | [], st, k, _ => by simp [extend]
  | (q, v) :: t, st, k, hn => by
    simp only [AL.keys, List.map_cons, List.nodup_cons] at hn
    have ih := extend_get t (AL.insert st q v) k hn.2
    simp only [extend, List.foldl_cons] at ih ⊢
    rw [ih, AL.get_insert, AL.get_cons]
    by_cases hq : q = k
    · subst hq
      have : AL.get t q = none := (AL.get_eq_none_iff t q).mpr hn.1
      simp [this]
    · simp [hq]

theorem mkey_le_iff (a b : MKey) : MKey.le a b = true ↔
    a.depth < b.depth ∨ (a.depth = b.depth ∧ (a.ts < b.ts ∨ (a.ts = b.ts ∧ a.id ≤ b.id))) := by
  unfold MKey.le
  by_cases h1 : a.depth = b.depth <;> by_cases h2 : a.ts = b.ts <;> simp [h1, h2] <;> omega


theorem mkey_le_total (a b : MKey) : MKey.le a b = true ∨ MKey.le b a = true := by
  rw [mkey_le_iff, mkey_le_iff]
  have := List.le_total a.id b.id
  grind

theorem mkey_le_trans (a b c : MKey) (hab : MKey.le a b = true) (hbc : MKey.le b c = true) :
    MKey.le a c = true := by
  rw [mkey_le_iff] at *
  have : a.id ≤ b.id → b.id ≤ c.id → a.id ≤ c.id := List.le_trans
  grind

theorem mkey_le_antisymm (a b : MKey) (hab : MKey.le a b = true) (hba : MKey.le b a = true) :
    a = b := by
  rw [mkey_le_iff] at *
  have : a.id ≤ b.id → b.id ≤ a.id → a.id = b.id := List.le_antisymm
  cases a; cases b; grind

/-- Entries whose key carries their own id. -/
def KeyedOk (l : List (Id × MKey)) : Prop := ∀ e ∈ l, e.2.id = e.1

theorem keyedSort_sorted (l : List (Id × MKey)) :
    (l.mergeSort (fun a b => MKey.le a.2 b.2)).Pairwise (fun a b => MKey.le a.2 b.2 = true) :=
  List.pairwise_mergeSort (fun a b c => mkey_le_trans a.2 b.2 c.2)
    (fun a b => by simpa using mkey_le_total a.2 b.2) l

/-- The sort key `(depth, ts, id)` is injective on ids, so the sorted order of keyed entries is
unique: every sorted permutation of `l` is `l` sorted. -/
theorem keyedSort_unique {l s : List (Id × MKey)} (hk : KeyedOk l)
    (hs : s.Pairwise (fun a b => MKey.le a.2 b.2 = true)) (hp : s.Perm l) :
    l.mergeSort (fun a b => MKey.le a.2 b.2) = s := by
  refine List.Perm.eq_of_pairwise (le := fun a b => MKey.le a.2 b.2 = true) (fun a b ha hb h1 h2 => ?_)
    (keyedSort_sorted l) hs ((List.mergeSort_perm l _).trans hp.symm)
  have := mkey_le_antisymm a.2 b.2 h1 h2
  have := hk a (List.mem_mergeSort.mp ha)
  have := hk b (hp.mem_iff.mp hb)
  cases a; cases b; simp_all

theorem keyedSort_perm {l l' : List (Id × MKey)} (hk : KeyedOk l) (hp : l.Perm l') :
    l.mergeSort (fun a b => MKey.le a.2 b.2) = l'.mergeSort (fun a b => MKey.le a.2 b.2) :=
  keyedSort_unique hk (keyedSort_sorted l') ((List.mergeSort_perm l' _).trans hp.symm)

/-- The entry the `order_map` loop makes for `id`, if any. -/
def omEntry (fetch : Id → Option Event) (mm : List (Id × Nat)) (fuel : Nat) (id : Id) : Option (Id × MKey) :=
  match fetch id with
  | none => none
  | some ev =>
    match mainlineDepth fetch mm fuel (some ev) with
    | .ok d => some (id, ⟨d, ev.originServerTs, id⟩)
    | .error _ => none

/-- Whether the loop stops at `id` for lack of fuel. -/
def omIsFuel (fetch : Id → Option Event) (mm : List (Id × Nat)) (fuel : Nat) (id : Id) : Bool :=
  match fetch id with
  | none => false
  | some ev =>
    match mainlineDepth fetch mm fuel (some ev) with
    | .error .fuel => true
    | _ => false

theorem omEntry_keyedOk (fetch : Id → Option Event) (mm : List (Id × Nat)) (fuel : Nat) (l : List Id) :
    KeyedOk (l.filterMap (omEntry fetch mm fuel)) := by
  intro e he
  obtain ⟨id, _, h⟩ := List.mem_filterMap.mp he
  unfold omEntry at h
  split at h
  · cases h
  · split at h <;> cases h; rfl

theorem orderMap_eq (fetch : Id → Option Event) (mm : List (Id × Nat)) (fuel : Nat) :
    ∀ (l : List Id) (m : List (Id × MKey)), l.Nodup → (∀ id ∈ l, id ∉ AL.keys m) →
    orderMap fetch mm fuel l m =
      if l.any (omIsFuel fetch mm fuel) = true then .error .fuel
      else .ok (m ++ l.filterMap (omEntry fetch mm fuel))
  | [], m, _, _ => by simp [orderMap]
  | id :: rest, m, hn, hd => by
    rw [List.nodup_cons] at hn
    rw [List.forall_mem_cons] at hd
    have ih := orderMap_eq fetch mm fuel rest m hn.2 hd.2
    unfold orderMap
    cases hf : fetch id with
    | none => simp [ih, omEntry, omIsFuel, hf]
    | some ev =>
      cases hdep : mainlineDepth fetch mm fuel (some ev) with
      | ok d =>
        have hd2 : ∀ x ∈ rest, x ∉ AL.keys (AL.insert m id ⟨d, ev.originServerTs, id⟩) := fun x hx h => by
          rcases (AL.mem_keys_insert ..).mp h with rfl | h
          · exact hn.1 hx
          · exact hd.2 x hx h
        simp only [hdep]
        rw [orderMap_eq fetch mm fuel rest _ hn.2 hd2, AL.insert_of_not_mem m id _ hd.1]
        simp [omEntry, omIsFuel, hf, hdep]
      | error er => cases er <;> simp [ih, omEntry, omIsFuel, hf, hdep]

/-- The mainline sort of a duplicate-free list does not depend on the order
of that list nor on the iteration order of `order_map`: its sort key `(depth, ts, id)` is
injective on ids. -/
theorem mainlineSort_perm {o o' : Orders} (ho : o.Valid) (ho' : o'.Valid) (fetch : Id → Option Event)
    (fuel : Nat) {l l' : List Id} (hn : l.Nodup) (hp : l.Perm l') (pl : Option Id) :
    mainlineSort o fetch fuel l pl = mainlineSort o' fetch fuel l' pl := by
  unfold mainlineSort
  rw [hp.isEmpty_eq]
  split
  · rfl
  · cases mainlineChain fetch fuel pl [] with
    | error e => rfl
    | ok ml =>
      simp only []
      rw [orderMap_eq fetch _ fuel l [] hn (by simp [AL.keys]),
        orderMap_eq fetch _ fuel l' [] (hp.nodup hn) (by simp [AL.keys]), hp.any_eq]
      cases l'.any (omIsFuel fetch (mainlineMap ml) fuel) with
      | true => rfl
      | false =>
        simp only [Bool.false_eq_true, if_false, List.nil_append]
        rw [keyedSort_perm (fun e he => omEntry_keyedOk fetch _ fuel l e ((ho.orderMap _).mem_iff.mp he))
          ((ho.orderMap _).trans ((hp.filterMap _).trans (ho'.orderMap _).symm))]


theorem unconflicted_eq (sets : List StateMap) : ∃ f : SKey → Option (SKey × Id),
    unconflicted sets = (keysOf sets).filterMap f ∧
    ∀ k b, f k = some b ↔ b.1 = k ∧ Unconf sets k b.2 := by
  refine ⟨_, rfl, fun k b => ?_⟩
  cases sets with
  | nil => simp [Unconf]
  | cons s rest =>
    obtain ⟨bk, bv⟩ := b
    simp only [Unconf, List.forall_mem_cons, ne_eq, reduceCtorEq, not_false_eq_true, true_and]
    constructor
    · intro h
      split at h
      · rename_i v hg
        split at h
        · rename_i hall
          cases h
          exact ⟨rfl, hg, by simpa using hall⟩
        · cases h
      · cases h
    · rintro ⟨rfl, hg, hall⟩
      have : rest.all (fun s' => decide (AL.get s' bk = some bv)) = true := by simpa using hall
      simp [hg, this]

theorem keys_unconflicted_nodup (sets : List StateMap) : (AL.keys (unconflicted sets)).Nodup := by
  obtain ⟨f, hf, hfk⟩ := unconflicted_eq sets
  rw [hf, AL.keys, List.Nodup, List.pairwise_map]
  refine (nodup_dedup _ : (keysOf sets).Nodup).filterMap _ fun k k' hne b hb b' hb' => ?_
  rw [((hfk k b).mp hb).1, ((hfk k' b').mp hb').1]
  exact hne

theorem mem_unconflicted {sets : List StateMap} {k : SKey} {v : Id} :
    (k, v) ∈ unconflicted sets ↔ Unconf sets k v := by
  obtain ⟨f, hf, hfk⟩ := unconflicted_eq sets
  simp only [hf, List.mem_filterMap, hfk]
  refine ⟨fun ⟨k', _, hk, hu⟩ => hk ▸ hu, fun hu => ⟨k, ?_, rfl, hu⟩⟩
  obtain ⟨s, hs⟩ := List.exists_mem_of_ne_nil _ hu.1
  rw [keysOf, mem_dedup]
  exact List.mem_map.mpr ⟨(k, v), List.mem_flatten.mpr ⟨s, hs, AL.get_some_mem (hu.2 s hs)⟩, rfl⟩
theorem get_unconflicted {sets : List StateMap} {k : SKey} {v : Id} :
    AL.get (unconflicted sets) k = some v ↔ Unconf sets k v := by
  rw [← mem_unconflicted]
  exact ⟨AL.get_some_mem, AL.get_of_mem_nodup (keys_unconflicted_nodup sets)⟩

theorem mem_conflictedSet {sets : List StateMap} (wf : SetsWF sets) (id : Id) :
    id ∈ conflictedSet sets ↔ ∃ k, (∃ s ∈ sets, AL.get s k = some id) ∧ ¬ Unconf sets k id := by
  unfold conflictedSet
  rw [mem_dedup]
  simp only [List.mem_map, List.mem_filter, List.mem_flatten, ne_eq, decide_not, Bool.not_eq_true',
    decide_eq_false_iff_not]
  constructor
  · rintro ⟨⟨k, v⟩, ⟨⟨s, hs, hm⟩, hne⟩, rfl⟩
    exact ⟨k, ⟨s, hs, (AL.mem_iff_get (wf s hs)).mp hm⟩, fun hu => hne (get_unconflicted.mpr hu)⟩
  · rintro ⟨k, ⟨s, hs, hg⟩, hnu⟩
    exact ⟨(k, id), ⟨⟨s, hs, AL.get_some_mem hg⟩, fun h => hnu (get_unconflicted.mp h)⟩, rfl⟩

theorem conflictedSet_isEmpty {sets : List StateMap} (wf : SetsWF sets) :
    conflictedSet sets = [] ↔ ∀ k id, (∃ s ∈ sets, AL.get s k = some id) → Unconf sets k id := by
  simp only [List.eq_nil_iff_forall_not_mem, mem_conflictedSet wf, not_exists, not_and,
    Classical.not_not]
  exact forall_comm

theorem mem_fullConflictedSet {fetch : Id → Option Event} {sets : List StateMap}
    {chains : List (List Id)} (id : Id) :
    id ∈ fullConflictedSet fetch sets chains ↔
      (id ∈ conflictedSet sets ∨ id ∈ authDifference chains) ∧ (fetch id).isSome = true := by
  unfold fullConflictedSet
  rw [mem_dedup, List.mem_filter, List.mem_append]

/-- The two argument lists describe the same state sets as far as lookups go (in particular: any
permutation of the list and of every map). -/
structure SetsEquiv (sets sets' : List StateMap) : Prop where
  has : ∀ k v, (∃ s ∈ sets, AL.get s k = some v) ↔ ∃ s' ∈ sets', AL.get s' k = some v
  unconf : ∀ k v, Unconf sets k v ↔ Unconf sets' k v

/-- The two argument lists have the same events in some but not all of their chains. -/
def ChainsEquiv (chains chains' : List (List Id)) : Prop :=
  ∀ id, ((∃ c ∈ chains, id ∈ c) ∧ (∃ c ∈ chains, id ∉ c)) ↔
    ((∃ c ∈ chains', id ∈ c) ∧ (∃ c ∈ chains', id ∉ c))

theorem children_congr (fetch : Id → Option Event) {A A' : List Id} (h : ∀ x, x ∈ A ↔ x ∈ A') (n : Id) :
    children fetch A n = children fetch A' n :=
  List.filter_congr fun x _ => decide_eq_decide.mpr (h x)

theorem Path.congr {fetch : Id → Option Event} {A A' : List Id} (h : ∀ x, x ∈ A ↔ x ∈ A') {r n : Id}
    (hp : Path fetch A r n) : Path fetch A' r n := by
  induction hp with
  | refl => exact .refl
  | step _ hc ih => exact .step ih (children_congr fetch h _ ▸ hc)

theorem powerSort_congr (p : Params) {o o' : Orders} (ho : o.Valid) (ho' : o'.Valid)
    {fetch : Id → Option Event} {A A' : List Id} (hA : A.Nodup) (hA' : A'.Nodup)
    (hAA : ∀ x, x ∈ A ↔ x ∈ A') {c0 : Event}
    (hwf : ∀ n ∈ A, ∃ e, fetch n = some e ∧ EventWF fetch c0 e) (q : Id → Bool) :
    powerSort p o fetch A (A.filter q) = powerSort p o' fetch A' (A'.filter q) := by
  have hctl : ∀ c ∈ A.filter q, c ∈ A := fun c hc => (List.mem_filter.mp hc).1
  have hctl' : ∀ c ∈ A'.filter q, c ∈ A' := fun c hc => (List.mem_filter.mp hc).1
  obtain ⟨G, _, hGnd, hGn, hGe⟩ := buildGraph_nil (fetch := fetch) hA hctl
  have hGn' : ∀ n, n ∈ G.nodes ↔ ∃ r ∈ A'.filter q, Path fetch A' r n := fun n => by
    rw [hGn]
    constructor
    · rintro ⟨r, hr, hp⟩
      exact ⟨r, by simpa [← hAA] using hr, hp.congr hAA⟩
    · rintro ⟨r, hr, hp⟩
      exact ⟨r, by simpa [hAA] using hr, hp.congr fun x => (hAA x).symm⟩
  rw [powerSort_eq ho hA hctl hwf G hGnd hGn hGe,
    powerSort_eq ho' hA' hctl' (fun n hn => hwf n ((hAA n).mpr hn)) G hGnd hGn'
      fun n es h x => children_congr fetch hAA n ▸ hGe n es h x]

theorem mem_allConf_iff {o : Orders} (ho : o.Valid) {fetch : Id → Option Event} {sets : List StateMap}
    (wf : SetsWF sets) {chains : List (List Id)} (hc : ∀ c ∈ chains, c.Nodup) (id : Id) :
    id ∈ fullConflicted o fetch (authChainDiff o chains) (separate o sets).2 ↔
      id ∈ fullConflictedSet fetch sets chains := by
  rw [mem_fullConflicted ho, mem_fullConflictedSet, mem_authChainDiff ho hc, mem_authDifference,
    separate_conf ho wf, mem_conflictedSet wf, or_comm]

theorem fullConflictedSet_congr {fetch : Id → Option Event} {sets sets' : List StateMap}
    (wf : SetsWF sets) (wf' : SetsWF sets') (hs : SetsEquiv sets sets')
    {chains chains' : List (List Id)} (hce : ChainsEquiv chains chains') (id : Id) :
    id ∈ fullConflictedSet fetch sets chains ↔ id ∈ fullConflictedSet fetch sets' chains' := by
  simp only [mem_fullConflictedSet, mem_conflictedSet wf, mem_conflictedSet wf', mem_authDifference,
    hce id, hs.has, hs.unconf]

/-- `resolve` from the first iterative auth check on: the check of the sorted control events `sc`, a
sort of the remaining events that reads the resolved power-levels entry, the check of those, and
the overlay of the unconflicted map. -/
def tailWith (check : List Id → StateMap → Except Fail StateMap)
    (sortRest : Option Id → Except Fail (List Id)) (clean : StateMap) (sc : List Id) :
    Except Fail StateMap :=
  match check sc clean with
  | .error e => .error e
  | .ok rc =>
    match sortRest (AL.get rc (tPowerLevels, [])) with
    | .error e => .error e
    | .ok sl =>
      match check sl rc with
      | .error e => .error e
      | .ok r => .ok (extend r clean)

theorem resolve_eq_tail (p : Params) (o : Orders) (store : List Event) (sets : List StateMap)
    (chains : List (List Id)) :
    resolve p o store sets chains =
      if (separate o sets).2.isEmpty then .ok (separate o sets).1
      else
        let A := fullConflicted o (fetchOf store) (authChainDiff o chains) (separate o sets).2
        match powerSort p o (fetchOf store) A (A.filter (isPowerEventId p (fetchOf store))) with
        | .error e => .error e
        | .ok sc => tailWith (iterativeAuthCheck p (fetchOf store))
            (mainlineSort o (fetchOf store) (store.length + 1) (A.filter fun id => !sc.contains id))
            (separate o sets).1 sc := by
  unfold resolve tailWith; rfl

theorem ResEq.cases {a b : Except Fail StateMap} (h : ResEq a b) :
    (∃ e, a = .error e ∧ b = .error e) ∨ ∃ x y, a = .ok x ∧ b = .ok y ∧ StEq x y := by
  cases a <;> cases b
  · exact .inl ⟨_, rfl, congrArg _ (Eq.symm h)⟩
  · exact h.elim
  · exact h.elim
  · exact .inr ⟨_, _, rfl, rfl, h⟩

theorem tailWith_congr {check : List Id → StateMap → Except Fail StateMap}
    (hc : ∀ ids {st st'}, StEq st st' → ResEq (check ids st) (check ids st'))
    {sortRest sortRest' : Option Id → Except Fail (List Id)} {clean clean' : StateMap}
    (hk : (AL.keys clean).Nodup) (hk' : (AL.keys clean').Nodup) (hcl : StEq clean clean') (sc : List Id)
    (hs : ∀ rc, check sc clean = .ok rc →
      sortRest (AL.get rc (tPowerLevels, [])) = sortRest' (AL.get rc (tPowerLevels, []))) :
    ResEq (tailWith check sortRest clean sc) (tailWith check sortRest' clean' sc) := by
  unfold tailWith
  rcases (hc sc hcl).cases with ⟨e, h1, h2⟩ | ⟨rc, rc', h1, h2, hst⟩
  · rw [h1, h2]; exact rfl
  · rw [h1, h2]
    simp only [← hst (tPowerLevels, []), ← hs rc h1]
    cases sortRest (AL.get rc (tPowerLevels, [])) with
    | error e => exact rfl
    | ok sl =>
      rcases (hc sl hst).cases with ⟨e, h3, h4⟩ | ⟨rs, rs', h3, h4, hst2⟩
      · simp only [h3, h4]; exact rfl
      · simp only [h3, h4]
        intro k
        rw [extend_get clean rs k hk, extend_get clean' rs' k hk', hcl k, hst2 k]

theorem tailWith_ok {check : List Id → StateMap → Except Fail StateMap}
    {sortRest : Option Id → Except Fail (List Id)} {clean : StateMap} {sc : List Id} {m : StateMap}
    (h : tailWith check sortRest clean sc = .ok m) : ∃ r, m = extend r clean := by
  unfold tailWith at h
  repeat' split at h
  all_goals cases h
  exact ⟨_, rfl⟩

theorem tailWith_error {check : List Id → StateMap → Except Fail StateMap}
    {sortRest : Option Id → Except Fail (List Id)} {clean : StateMap} {sc : List Id} {e : Fail}
    (h : tailWith check sortRest clean sc = .error e) :
    (∃ ids st, check ids st = .error e) ∨ ∃ pe, sortRest pe = .error e := by
  unfold tailWith at h
  split at h
  · rename_i h1; cases h; exact .inl ⟨_, _, h1⟩
  · split at h
    · rename_i h2; cases h; exact .inr ⟨_, h2⟩
    · split at h
      · rename_i h3; cases h; exact .inl ⟨_, _, h3⟩
      · cases h

/-- Room well-formedness needed by the power sort (DESIGN C06 `WF`): every event of the full
conflicted set is known, cites exactly one create event `c0` and at most one power-levels event. In
particular the create event itself is not in the full conflicted set. -/
def RoomWF (store : List Event) (sets : List StateMap) (chains : List (List Id)) (c0 : Event) : Prop :=
  ∀ n ∈ fullConflictedSet (fetchOf store) sets chains,
    ∃ e, fetchOf store n = some e ∧ EventWF (fetchOf store) c0 e

theorem resolve_congr (p : Params) {o o' : Orders} (ho : o.Valid) (ho' : o'.Valid) (store : List Event)
    {sets sets' : List StateMap} (wf : SetsWF sets) (wf' : SetsWF sets') (hs : SetsEquiv sets sets')
    {chains chains' : List (List Id)} (hcn : ∀ c ∈ chains, c.Nodup) (hcn' : ∀ c ∈ chains', c.Nodup)
    (hce : ChainsEquiv chains chains') {c0 : Event} (hwf : RoomWF store sets chains c0) :
    ResEq (resolve p o store sets chains) (resolve p o' store sets' chains') := by
  rw [resolve_eq_tail, resolve_eq_tail]
  have hclean : StEq (separate o sets).1 (separate o' sets').1 := fun k => Option.ext fun v => by
    rw [separate_clean ho wf, separate_clean ho' wf', hs.unconf]
  have hemp : (separate o sets).2.isEmpty = (separate o' sets').2.isEmpty := by
    rw [Bool.eq_iff_iff, List.isEmpty_iff, List.isEmpty_iff, separate_conf_nil ho wf,
      separate_conf_nil ho' wf']
    simp only [hs.has, hs.unconf]
  rw [← hemp]
  split
  · exact hclean
  ·
    simp only []
    obtain ⟨A, hAdef⟩ : ∃ A, A = fullConflicted o (fetchOf store) (authChainDiff o chains) (separate o sets).2 := ⟨_, rfl⟩
    obtain ⟨A', hA'def⟩ : ∃ A', A' = fullConflicted o' (fetchOf store) (authChainDiff o' chains') (separate o' sets').2 := ⟨_, rfl⟩
    rw [← hAdef, ← hA'def]
    have hAn : A.Nodup := hAdef ▸ nodup_fullConflicted ho _ _ _
    have hAn' : A'.Nodup := hA'def ▸ nodup_fullConflicted ho' _ _ _
    have hAmem : ∀ x, x ∈ A ↔ x ∈ fullConflictedSet (fetchOf store) sets chains := fun x =>
      hAdef ▸ mem_allConf_iff ho wf hcn x
    have hAA : ∀ x, x ∈ A ↔ x ∈ A' := fun x => by
      rw [hAmem, hA'def, mem_allConf_iff ho' wf' hcn' x, fullConflictedSet_congr wf wf' hs hce]
    rw [powerSort_congr p ho ho' hAn hAn' hAA (fun n hn => hwf n ((hAmem n).mp hn))]
    cases powerSort p o' (fetchOf store) A' (A'.filter (isPowerEventId p (fetchOf store))) with
    | error e => exact rfl
    | ok sc =>
      exact tailWith_congr (iterativeAuthCheck_congr p _) (separate_clean_keys o sets)
        (separate_clean_keys o' sets') hclean sc fun rc _ =>
        mainlineSort_perm ho ho' _ _ (hAn.sublist List.filter_sublist)
          (((List.perm_ext_iff_of_nodup hAn hAn').mpr hAA).filter _) _

theorem forall_mem_of_perm_map {l' : List β} {l : List α} {f : α → β} (hp : l'.Perm (l.map f))
    (P : β → Prop) : (∀ y ∈ l', P y) ↔ ∀ x ∈ l, P (f x) := by
  simp [hp.mem_iff]

theorem exists_mem_of_perm_map {l' : List β} {l : List α} {f : α → β} (hp : l'.Perm (l.map f))
    (P : β → Prop) : (∃ y ∈ l', P y) ↔ ∃ x ∈ l, P (f x) := by
  simp only [hp.mem_iff, List.mem_map]
  exact ⟨fun ⟨_, ⟨x, hx, rfl⟩, h⟩ => ⟨x, hx, h⟩, fun ⟨x, hx, h⟩ => ⟨_, ⟨x, hx, rfl⟩, h⟩⟩

theorem SetsWF.of_perm {sets sets' : List StateMap} (σ : StateMap → StateMap) (hσ : ∀ s, (σ s).Perm s)
    (hp : sets'.Perm (sets.map σ)) (wf : SetsWF sets) : SetsWF sets' :=
  (forall_mem_of_perm_map hp _).mpr fun s hs => ((hσ s).map _).symm.nodup (wf s hs)

theorem SetsEquiv.of_perm {sets sets' : List StateMap} (wf : SetsWF sets) (σ : StateMap → StateMap)
    (hσ : ∀ s, (σ s).Perm s) (hp : sets'.Perm (sets.map σ)) : SetsEquiv sets sets' := by
  have hget : ∀ s ∈ sets, ∀ k, AL.get (σ s) k = AL.get s k := fun s hs k =>
    (AL.get_perm (wf s hs) (hσ s).symm k).symm
  constructor
  · intro k v
    rw [exists_mem_of_perm_map hp]
    exact exists_congr fun s => and_congr_right fun hs => by rw [hget s hs]
  · intro k v
    unfold Unconf
    rw [forall_mem_of_perm_map hp, ← List.length_pos_iff, ← List.length_pos_iff, hp.length_eq,
      List.length_map]
    exact and_congr_right fun _ => forall₂_congr fun s hs => by rw [hget s hs]

theorem ChainsEquiv.of_perm {chains chains' : List (List Id)} (τ : List Id → List Id)
    (hτ : ∀ c, (τ c).Perm c) (hp : chains'.Perm (chains.map τ)) : ChainsEquiv chains chains' := by
  intro id
  simp only [exists_mem_of_perm_map hp, (hτ _).mem_iff]

theorem chains_nodup_of_perm {chains chains' : List (List Id)} (τ : List Id → List Id)
    (hτ : ∀ c, (τ c).Perm c) (hp : chains'.Perm (chains.map τ)) (hn : ∀ c ∈ chains, c.Nodup) :
    ∀ c' ∈ chains', c'.Nodup :=
  (forall_mem_of_perm_map hp _).mpr fun c hc => (hτ c).symm.nodup (hn c hc)

theorem resolve_noconflict (p : Params) {o : Orders} (ho : o.Valid) (store : List Event)
    {sets : List StateMap} (wf : SetsWF sets) (chains : List (List Id))
    (h : ∀ k id, (∃ s ∈ sets, AL.get s k = some id) → Unconf sets k id) :
    ∃ m, resolve p o store sets chains = .ok m ∧ ∀ k v, AL.get m k = some v ↔ Unconf sets k v := by
  refine ⟨(separate o sets).1, ?_, fun k v => separate_clean ho wf k v⟩
  rw [resolve_eq_tail, (separate_conf_nil ho wf).mpr h]
  rfl

theorem unconf_of_identical {sets : List StateMap} {s : StateMap} (hs : (AL.keys s).Nodup)
    (hne : sets ≠ []) (hall : ∀ s' ∈ sets, s'.Perm s) (k : SKey) (v : Id) :
    Unconf sets k v ↔ AL.get s k = some v := by
  have hget : ∀ s' ∈ sets, AL.get s' k = AL.get s k := fun s' h =>
    (AL.get_perm hs (hall s' h).symm k).symm
  obtain ⟨a, ha⟩ := List.exists_mem_of_ne_nil _ hne
  exact ⟨fun h => hget a ha ▸ h.2 a ha, fun h => ⟨hne, fun s' hs' => (hget s' hs').trans h⟩⟩

end Ruma.StateRes
