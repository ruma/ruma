/-
  Lemmas for the topological sort (C06/C07): the code's tie-break order is a strict total order and
  is the spec's comparison; `popMin` (the binary heap) returns the least element whatever the
  storage order; the heap-based model loop computes the spec's Kahn iteration, which is a run of
  Kahn's algorithm on any graph, the spec's ordering on a DAG, and independent of the graph's
  representation.
-/
import RumaModel.Spec.StateResV2
namespace Ruma.StateRes
open Ruma Ruma.Spec.StateResV2

/-- A strict total order given as a Boolean function. -/
structure StrictTotal (lt : α → α → Bool) : Prop where
  irrefl : ∀ a, lt a a = false
  trans : ∀ a b c, lt a b = true → lt b c = true → lt a c = true
  total : ∀ a b, a ≠ b → lt a b = true ∨ lt b a = true

theorem StrictTotal.asymm {lt : α → α → Bool} (h : StrictTotal lt) {a b : α} (hab : lt a b = true) :
    lt b a = false :=
  Bool.eq_false_iff.mpr fun hba => by simpa [h.irrefl] using h.trans a b a hab hba

theorem tb_lt_iff (a b : TB) : TB.lt a b = true ↔
    b.pl < a.pl ∨ (a.pl = b.pl ∧ (a.ts < b.ts ∨ (a.ts = b.ts ∧ a.id < b.id))) := by
  unfold TB.lt
  by_cases h1 : a.pl = b.pl <;> by_cases h2 : a.ts = b.ts <;> simp [h1, h2] <;> omega

theorem powerLt_eq : powerLt = TB.lt := by
  funext a b
  rw [Bool.eq_iff_iff, tb_lt_iff]
  simp [powerLt]

theorem tbLt_strictTotal : StrictTotal TB.lt where
  irrefl a := by simp [TB.lt, List.lt_irrefl]
  trans a b c hab hbc := by
    rw [tb_lt_iff] at *
    have : a.id < b.id → b.id < c.id → a.id < c.id := List.lt_trans
    grind
  total a b hne := by
    rw [tb_lt_iff, tb_lt_iff]
    rcases Int.lt_trichotomy a.pl b.pl with h1 | h1 | h1
    · exact .inr (.inl h1)
    · rcases Int.lt_trichotomy a.ts b.ts with h2 | h2 | h2
      · exact .inl (.inr ⟨h1, .inl h2⟩)
      · rcases Std.lt_trichotomy a.id b.id with h3 | h3 | h3
        · exact .inl (.inr ⟨h1, .inr ⟨h2, h3⟩⟩)
        · exact absurd (by cases a; cases b; simp_all) hne
        · exact .inr (.inr ⟨h1.symm, .inr ⟨h2.symm, h3⟩⟩)
      · exact .inr (.inr ⟨h1.symm, .inl h2⟩)
    · exact .inl (.inl h1)

theorem powerLt_strictTotal : StrictTotal powerLt := powerLt_eq ▸ tbLt_strictTotal


theorem popMin_eq_none {lt : α → α → Bool} {l : List α} : popMin lt l = none ↔ l = [] := by
  fun_induction popMin lt l <;> simp

theorem popMin_perm {lt : α → α → Bool} {l : List α} {m : α} {rest : List α}
    (h : popMin lt l = some (m, rest)) : l.Perm (m :: rest) := by
  fun_induction popMin lt l generalizing m rest with
  | case1 => cases h
  | case2 x xs hn => cases h; rw [popMin_eq_none.mp hn]
  | case3 x xs m' r hp _ ih => cases h; exact ((ih hp).cons x).trans (.swap ..)
  | case4 => cases h; exact .refl _

/-- `m` is the least element of `l`. -/
def IsMin (lt : α → α → Bool) (l : List α) (m : α) : Prop :=
  m ∈ l ∧ ∀ x ∈ l, x ≠ m → lt m x = true

theorem IsMin.unique {lt : α → α → Bool} (h : StrictTotal lt) {l : List α} {m m' : α}
    (h1 : IsMin lt l m) (h2 : IsMin lt l m') : m = m' :=
  Classical.byContradiction fun hne => by
    simpa [h.asymm (h1.2 m' h2.1 (Ne.symm hne))] using h2.2 m h1.1 hne

theorem IsMin.of_perm {lt : α → α → Bool} {l l' : List α} {m : α} (hp : l.Perm l')
    (h1 : IsMin lt l m) : IsMin lt l' m :=
  ⟨hp.mem_iff.mp h1.1, fun x hx => h1.2 x (hp.mem_iff.mpr hx)⟩

theorem popMin_isMin {lt : α → α → Bool} (h : StrictTotal lt) {l : List α} {m : α} {rest : List α}
    (hp : popMin lt l = some (m, rest)) : IsMin lt l m := by
  fun_induction popMin lt l generalizing m rest with
  | case1 => cases hp
  | case2 x xs hn => cases hp; rw [popMin_eq_none.mp hn]; exact ⟨by simp, by simp⟩
  | case3 x xs m' r hq hlt ih =>
    cases hp
    refine ⟨.tail _ (ih hq).1, fun y hy hne => ?_⟩
    rcases List.mem_cons.mp hy with rfl | hy
    · exact hlt
    · exact (ih hq).2 y hy hne
  | case4 x xs m' r hq hlt ih =>
    cases hp
    -- `y < x` would give `m' < x`, directly or through `m' < y`
    refine ⟨.head _, fun y hy hne => (h.total x y (Ne.symm hne)).resolve_right fun hyx => hlt ?_⟩
    rcases List.mem_cons.mp hy with rfl | hy
    · exact absurd rfl hne
    · by_cases hym : y = m'
      · exact hym ▸ hyx
      · exact h.trans _ _ _ ((ih hq).2 y hy hym) hyx

theorem popMin_perm_invariant {lt : α → α → Bool} (h : StrictTotal lt) {l l' : List α}
    (hp : l.Perm l') {m : α} {rest : List α} (hpop : popMin lt l = some (m, rest)) :
    ∃ rest', popMin lt l' = some (m, rest') ∧ rest.Perm rest' := by
  cases hq : popMin lt l' with
  | none =>
    rw [popMin_eq_none.mp hq] at hp
    cases hp.eq_nil ▸ hpop
  | some p =>
    obtain ⟨m', r'⟩ := p
    obtain rfl : m = m' := ((popMin_isMin h hpop).of_perm hp).unique h (popMin_isMin h hq)
    exact ⟨r', rfl, (((popMin_perm hpop).symm.trans hp).trans (popMin_perm hq)).cons_inv⟩

theorem least_eq_popMin (lt : α → α → Bool) (l : List α) :
    least lt l = (popMin lt l).map (·.1) := by
  fun_induction popMin lt l <;> simp_all [least]

theorem least_none {lt : α → α → Bool} {l : List α} (hl : least lt l = none) : l = [] := by
  simpa [least_eq_popMin, popMin_eq_none] using hl

theorem least_some {lt : α → α → Bool} (h : StrictTotal lt) {l : List α} {m : α}
    (hl : least lt l = some m) : IsMin lt l m := by
  rw [least_eq_popMin, Option.map_eq_some_iff] at hl
  obtain ⟨⟨m', r⟩, hp, rfl⟩ := hl
  exact popMin_isMin h hp

theorem least_perm {lt : α → α → Bool} (h : StrictTotal lt) {l l' : List α} (hp : l.Perm l') :
    least lt l = least lt l' := by
  rw [least_eq_popMin, least_eq_popMin]
  cases hq : popMin lt l with
  | none => rw [popMin_eq_none.mp hq] at hp; rw [← hp.nil_eq]; rfl
  | some p =>
    obtain ⟨r', hr', _⟩ := popMin_perm_invariant h hp hq
    rw [hr']; rfl


theorem mem_nodes_iff {g : Graph} {n : Id} : n ∈ g.nodes ↔ ∃ es, (n, es) ∈ g := by
  simp [Graph.nodes]

theorem length_nodes (g : Graph) : g.nodes.length = g.length := by simp [Graph.nodes]

theorem edges?_of_mem : ∀ {g : Graph}, g.nodes.Nodup → ∀ {n es}, (n, es) ∈ g → g.edges? n = some es
  | (q, e) :: t, hn, n, es, h => by
    simp only [Graph.nodes, List.map_cons, List.nodup_cons] at hn
    rcases List.mem_cons.mp h with h | h
    · cases h; simp [Graph.edges?]
    · have : q ≠ n := fun hq => hn.1 (hq ▸ List.mem_map_of_mem (f := Prod.fst) h)
      simp [Graph.edges?, this, edges?_of_mem hn.2 h]

theorem edges_unique {g : Graph} (hn : g.nodes.Nodup) {n es es'} (h1 : (n, es) ∈ g)
    (h2 : (n, es') ∈ g) : es = es' :=
  Option.some.inj ((edges?_of_mem hn h1).symm.trans (edges?_of_mem hn h2))

/-- `f` applied to the edge lists of the nodes that satisfy `P`. -/
def mapEdges (P : Id → Prop) [DecidablePred P] (f : List Id → List Id) (g : Graph) : Graph :=
  g.map fun ne => if P ne.1 then (ne.1, f ne.2) else ne

section mapEdges
variable {P : Id → Prop} [DecidablePred P] {f : List Id → List Id}

theorem nodes_mapEdges (g : Graph) : (mapEdges P f g).nodes = g.nodes := by
  simp only [mapEdges, Graph.nodes, List.map_map]
  exact List.map_congr_left fun ne _ => by simp only [Function.comp]; split <;> rfl

theorem mapEdges_eq_self {g : Graph} (h : ∀ ne ∈ g, P ne.1 → f ne.2 = ne.2) : mapEdges P f g = g := by
  conv => rhs; rw [← List.map_id g]
  exact List.map_congr_left fun ne hne => by
    by_cases hp : P ne.1
    · simp [hp, h ne hne hp]
    · simp [hp]

theorem edges?_mapEdges (q : Id) : ∀ g : Graph,
    (mapEdges P f g).edges? q = (g.edges? q).map fun es => if P q then f es else es
  | [] => rfl
  | (n, es) :: t => by
    have ih := edges?_mapEdges q t
    unfold mapEdges at ih ⊢
    by_cases hn : n = q
    · subst hn; by_cases hp : P n <;> simp [Graph.edges?, hp]
    · by_cases hp : P n <;> simp [Graph.edges?, hp, hn, ih]

theorem mapEdges_cons {p : Id} {ps : List Id} (hp : p ∉ ps) (f : List Id → List Id) (g : Graph) :
    mapEdges (· ∈ ps) f (mapEdges (· = p) f g) = mapEdges (· ∈ p :: ps) f g := by
  simp only [mapEdges, List.map_map]
  refine List.map_congr_left fun ne _ => ?_
  by_cases h1 : ne.1 = p
  · simp [h1, hp]
  · simp [h1]

end mapEdges


/-- `outdegree_map` after the nodes of `done` were emitted. -/
def odOf (g : Graph) (done : List Id) : Graph :=
  mapEdges (fun _ => True) (·.filter (fun e => !done.contains e)) g

/-- Whether `c` is the only edge `p` has left in `od`. -/
def emptyAfter (od : Graph) (p c : Id) : Bool :=
  match od.edges? p with
  | some es => (es.filter (· ≠ c)).isEmpty
  | none => false

theorem removeEdge_eq : ∀ (od : Graph) (p c : Id), od.nodes.Nodup → p ∈ od.nodes →
    removeEdge od p c = some (mapEdges (· = p) (·.filter (· ≠ c)) od, emptyAfter od p c)
  | (q, es) :: t, p, c, hn, hp => by
    simp only [Graph.nodes, List.map_cons, List.nodup_cons, List.mem_cons] at hn hp
    by_cases hq : q = p
    · subst hq
      have : mapEdges (· = q) (·.filter (· ≠ c)) t = t :=
        mapEdges_eq_self fun ne hne h => absurd (h ▸ List.mem_map_of_mem hne) hn.1
      simp only [mapEdges] at this
      simp only [removeEdge, emptyAfter, Graph.edges?, mapEdges, List.map_cons, if_true, this]
    · have ih := removeEdge_eq t p c hn.2 (hp.resolve_left (Ne.symm hq))
      simp [removeEdge, hq, ih, emptyAfter, Graph.edges?, mapEdges]

/-- The comparison key of node `n` under a total key function. -/
def Kf (kf : Id → Int × Int) (n : Id) : TB := ⟨(kf n).1, (kf n).2, n⟩

theorem keyTB_total {key : Id → Option (Int × Int)} {kf : Id → Int × Int} {n : Id}
    (hk : key n = some (kf n)) : keyTB key n = .ok (Kf kf n) := by
  simp [keyTB, hk, Kf]

/-- The `for &parent in reverse_graph.get(node)` loop over distinct graph nodes `ps`: `c` leaves
their edge sets, and those left without edges are pushed (the last one on top). -/
theorem relax_eq {key : Id → Option (Int × Int)} {kf : Id → Int × Int} (c : Id) (ps : List Id) :
    ∀ (od : Graph) (h : List TB),
    (∀ p ∈ ps, key p = some (kf p)) → od.nodes.Nodup → ps.Nodup → (∀ p ∈ ps, p ∈ od.nodes) →
    relax key c ps od h =
      .ok (mapEdges (· ∈ ps) (·.filter (· ≠ c)) od,
        ((ps.filter (fun p => emptyAfter od p c)).map (Kf kf)).reverse ++ h) := by
  induction ps with
  | nil =>
    intro od h _ _ _ _
    simp only [relax, List.filter_nil, List.map_nil, List.reverse_nil, List.nil_append]
    rw [mapEdges_eq_self fun _ _ h => nomatch h]
  | cons p ps ih =>
    intro od h hk hn hps hsub
    rw [List.nodup_cons] at hps
    simp only [List.forall_mem_cons] at hk hsub
    obtain ⟨od', hod'⟩ : ∃ od', od' = mapEdges (· = p) (·.filter (· ≠ c)) od := ⟨_, rfl⟩
    have hfil : ps.filter (fun q => emptyAfter od' q c) = ps.filter (fun q => emptyAfter od q c) :=
      List.filter_congr fun q hq => by
        have : q ≠ p := fun h => hps.1 (h ▸ hq)
        simp only [hod', emptyAfter, edges?_mapEdges, this, if_false, Option.map_id']
    have ih := fun h => ih od' h hk.2 (by rw [hod', nodes_mapEdges]; exact hn) hps.2
      (by rw [hod', nodes_mapEdges]; exact hsub.2)
    simp only [relax, removeEdge_eq od p c hn hsub.1, ← hod']
    by_cases he : emptyAfter od p c = true
    · simp only [he, if_true, keyTB_total hk.1, ih, hfil, List.filter_cons, List.map_cons,
        List.reverse_cons, List.append_assoc, List.singleton_append]
      rw [hod', mapEdges_cons hps.1]
    · simp only [he, Bool.false_eq_true, if_false, ih, hfil, List.filter_cons]
      rw [hod', mapEdges_cons hps.1]

theorem mem_candidates {g : Graph} {done : List Id} {n : Id} :
    n ∈ candidates g done ↔ ∃ es, (n, es) ∈ g ∧ n ∉ done ∧ ∀ e ∈ es, e ∈ done := by
  simp only [candidates, List.mem_map, List.mem_filter, Bool.and_eq_true, Bool.not_eq_true',
    List.all_eq_true, List.contains_iff_mem, Prod.exists]
  constructor
  · rintro ⟨a, es, ⟨h1, h2, h3⟩, rfl⟩
    exact ⟨es, h1, by simpa using h2, h3⟩
  · rintro ⟨es, h1, h2, h3⟩
    exact ⟨n, es, ⟨h1, by simpa using h2, h3⟩, rfl⟩

theorem candidates_nodup {g : Graph} (hg : g.nodes.Nodup) (done : List Id) :
    (candidates g done).Nodup :=
  (List.filter_sublist.map _).nodup hg

/-- `reverse_graph[c]`: the nodes with an edge to `c`. -/
def parents (g : Graph) (c : Id) : List Id := (g.filter (fun p => p.2.contains c)).map (·.1)

theorem mem_parents {g : Graph} {c n : Id} : n ∈ parents g c ↔ ∃ es, (n, es) ∈ g ∧ c ∈ es := by
  simp only [parents, List.mem_map, List.mem_filter, List.contains_iff_mem, Prod.exists]
  constructor
  · rintro ⟨a, es, ⟨h1, h2⟩, rfl⟩; exact ⟨es, h1, h2⟩
  · rintro ⟨es, h1, h2⟩; exact ⟨n, es, ⟨h1, h2⟩, rfl⟩

theorem parents_nodup {g : Graph} (hg : g.nodes.Nodup) (c : Id) : (parents g c).Nodup :=
  (List.filter_sublist.map _).nodup hg

theorem parentsOf_of_mem {g : Graph} {c : Id} (hc : c ∈ g.nodes) : parentsOf g c = some (parents g c) := by
  obtain ⟨es, h⟩ := mem_nodes_iff.mp hc
  have : g.any (fun p => decide (p.1 = c) || p.2.contains c) = true :=
    List.any_eq_true.mpr ⟨(c, es), h, by simp⟩
  rw [parentsOf, if_pos this, parents]

theorem emptyAfter_odOf {g : Graph} (hg : g.nodes.Nodup) {done : List Id} {n c : Id} {es : List Id}
    (h : (n, es) ∈ g) :
    emptyAfter (odOf g done) n c = true ↔ ∀ e ∈ es, e ∉ done → e = c := by
  simp only [emptyAfter, odOf, edges?_mapEdges, edges?_of_mem hg h, Option.map, if_true,
    List.isEmpty_iff, List.filter_filter, List.filter_eq_nil_iff]
  refine forall₂_congr fun e _ => ?_
  by_cases hd : e ∈ done <;> simp [hd]

theorem mapEdges_odOf (g : Graph) (done : List Id) (c : Id) {ps : List Id}
    (hps : ∀ n, n ∈ ps ↔ n ∈ parents g c) :
    mapEdges (· ∈ ps) (·.filter (· ≠ c)) (odOf g done) = odOf g (done ++ [c]) := by
  simp only [mapEdges, odOf, List.map_map, if_true]
  refine List.map_congr_left fun ne hne => ?_
  simp only [Function.comp, List.filter_filter]
  by_cases h : ne.1 ∈ ps
  · simp only [h, if_true, Prod.mk.injEq, true_and]
    exact List.filter_congr fun e _ => by
      by_cases h1 : e = c <;> by_cases h2 : e ∈ done <;> simp [h1, h2]
  · have hce : c ∉ ne.2 := fun hc => h ((hps _).mpr (mem_parents.mpr ⟨ne.2, hne, hc⟩))
    simp only [h, if_false, Prod.mk.injEq, true_and]
    exact List.filter_congr fun e he => by
      have : e ≠ c := fun h' => hce (h' ▸ he)
      simp [this]

/-- The loop invariant of `kahnLoop` after the nodes of `done` were emitted. -/
structure KInv (g : Graph) (kf : Id → Int × Int) (done : List Id) (h : List TB) : Prop where
  nodup : done.Nodup
  sub : ∀ n ∈ done, n ∈ g.nodes
  closed : ∀ n es, (n, es) ∈ g → n ∈ done → ∀ e ∈ es, e ∈ done
  heap : h.Perm ((candidates g done).map (Kf kf))

theorem candidates_snoc {g : Graph} (hg : g.nodes.Nodup) {done : List Id}
    (closed : ∀ n es, (n, es) ∈ g → n ∈ done → ∀ e ∈ es, e ∈ done) {c : Id}
    (hc : c ∈ candidates g done) :
    (candidates g (done ++ [c])).Perm
      ((parents g c).filter (fun p => emptyAfter (odOf g done) p c) ++ (candidates g done).erase c) := by
  obtain ⟨ces, hcg, hcd, hcall⟩ := mem_candidates.mp hc
  have hdis : ∀ n, n ∈ parents g c → n ∉ candidates g done := fun n hp hn => by
    obtain ⟨es, hng, hce⟩ := mem_parents.mp hp
    obtain ⟨es', hng', _, hall⟩ := mem_candidates.mp hn
    exact hcd (hall c (edges_unique hg hng hng' ▸ hce))
  refine (List.perm_ext_iff_of_nodup (candidates_nodup hg _) ?_).mpr fun n => ?_
  · exact List.nodup_append.mpr ⟨(parents_nodup hg c).sublist List.filter_sublist,
      (candidates_nodup hg done).erase c,
      fun a ha b hb hab => hdis a (List.mem_filter.mp ha).1 (hab ▸ List.mem_of_mem_erase hb)⟩
  rw [List.mem_append, List.mem_filter, (candidates_nodup hg done).mem_erase_iff, mem_candidates,
    mem_candidates, mem_parents]
  simp only [List.mem_append, List.mem_singleton, not_or]
  constructor
  · rintro ⟨es, hn, ⟨hnd, hne⟩, hall⟩
    by_cases hce : c ∈ es
    · exact .inl ⟨⟨es, hn, hce⟩, (emptyAfter_odOf hg hn).mpr fun e he hd => (hall e he).resolve_left hd⟩
    · exact .inr ⟨hne, es, hn, hnd, fun e he => (hall e he).resolve_right fun h => hce (h ▸ he)⟩
  · rintro (⟨⟨es, hn, hce⟩, hemp⟩ | ⟨hne, es, hn, hnd, hall⟩)
    · refine ⟨es, hn, ⟨fun hd => hcd (closed n es hn hd _ hce), ?_⟩, fun e he => ?_⟩
      · rintro rfl
        exact hcd (hcall _ (edges_unique hg hn hcg ▸ hce))
      · exact Classical.or_iff_not_imp_left.mpr ((emptyAfter_odOf hg hn).mp hemp e he)
    · exact ⟨es, hn, ⟨hnd, hne⟩, fun e he => .inl (hall e he)⟩

theorem kinv_step {g : Graph} (hg : g.nodes.Nodup) {kf : Id → Int × Int} {done : List Id}
    {h h' : List TB} {m : TB} (inv : KInv g kf done h) (hpop : popMin TB.lt h = some (m, h'))
    {ps : List Id} (hps : ps.Perm (parents g m.id)) :
    m = Kf kf m.id ∧ m.id ∈ candidates g done ∧
    KInv g kf (done ++ [m.id])
      (((ps.filter (fun p => emptyAfter (odOf g done) p m.id)).map (Kf kf)).reverse ++ h') := by
  have hperm := (popMin_perm hpop).symm.trans inv.heap
  obtain ⟨c, hc, hcm⟩ := List.mem_map.mp (hperm.mem_iff.mp (List.mem_cons_self))
  obtain rfl : m.id = c := by rw [← hcm]; rfl
  obtain ⟨ces, hcg, hcd, hcall⟩ := mem_candidates.mp hc
  refine ⟨hcm.symm, hc, ?_, ?_, ?_, ?_⟩
  · exact List.nodup_append.mpr ⟨inv.nodup, by simp, fun a ha b hb hab => by simp_all⟩
  · intro n hn
    rcases List.mem_append.mp hn with h1 | h1
    · exact inv.sub n h1
    · rw [List.mem_singleton.mp h1]; exact mem_nodes_iff.mpr ⟨ces, hcg⟩
  · intro n es hn hd e he
    rcases List.mem_append.mp hd with h1 | h1
    · exact List.mem_append_left _ (inv.closed n es hn h1 e he)
    · rw [List.mem_singleton] at h1; subst h1
      exact List.mem_append_left _ (hcall e (edges_unique hg hcg hn ▸ he))
  ·
    have hrest : h'.Perm (((candidates g done).erase m.id).map (Kf kf)) := by
      have := hperm.trans ((List.perm_cons_erase hc).map (Kf kf))
      rw [List.map_cons, hcm] at this
      exact this.cons_inv
    refine (((List.reverse_perm _).trans ((hps.filter _).map _)).append hrest).trans ?_
    rw [← List.map_append]
    exact ((candidates_snoc hg inv.closed hc).map _).symm

theorem length_lt_of_mem_candidates {g : Graph} {done : List Id} {c : Id} (hn : done.Nodup)
    (hsub : ∀ n ∈ done, n ∈ g.nodes) (hc : c ∈ candidates g done) : done.length < g.length := by
  obtain ⟨es, hcg, hcd, _⟩ := mem_candidates.mp hc
  have := (List.nodup_cons.mpr ⟨hcd, hn⟩).length_le_of_subset (l₂ := g.nodes)
    (List.forall_mem_cons.mpr ⟨mem_nodes_iff.mpr ⟨es, hcg⟩, hsub⟩)
  rwa [length_nodes] at this

theorem kahnLoop_eq {g : Graph} (hg : g.nodes.Nodup) {psh : Id → List Id → List Id}
    (hpsh : ∀ n l, (psh n l).Perm l) {key : Id → Option (Int × Int)} {kf : Id → Int × Int}
    (hk : ∀ n ∈ g.nodes, key n = some (kf n)) :
    ∀ (fuel : Nat) (done : List Id) (h : List TB), KInv g kf done h →
      done.length + fuel = g.length →
      kahnLoop psh key g fuel (odOf g done) h done.reverse = .ok (kahn g (Kf kf) fuel done) := by
  intro fuel
  induction fuel with
  | zero =>
    intro done h inv hlen
    unfold kahnLoop
    cases hpop : popMin TB.lt h with
    | none => simp [kahn]
    | some p =>
      have hm := ((popMin_perm hpop).symm.trans inv.heap).mem_iff.mp List.mem_cons_self
      obtain ⟨c, hc, _⟩ := List.mem_map.mp hm
      have := length_lt_of_mem_candidates inv.nodup inv.sub hc
      omega
  | succ fuel ih =>
    intro done h inv hlen
    unfold kahnLoop
    cases hpop : popMin TB.lt h with
    | none =>
      rw [popMin_eq_none.mp hpop] at inv
      simp [kahn, inv.heap.nil_eq.symm, least]
    | some p =>
      obtain ⟨m, h'⟩ := p
      have hps := hpsh m.id (parents g m.id)
      obtain ⟨hmk, hmc, inv'⟩ := kinv_step hg inv hpop hps
      have hleast : least powerLt ((candidates g done).map (Kf kf)) = some m := by
        obtain ⟨r', hr', _⟩ := popMin_perm_invariant tbLt_strictTotal inv.heap hpop
        rw [least_eq_popMin, powerLt_eq, hr']; rfl
      have hod : (odOf g done).nodes = g.nodes := nodes_mapEdges g
      have hsub : ∀ p ∈ psh m.id (parents g m.id), p ∈ (odOf g done).nodes := fun p hp => by
        obtain ⟨es, hpg, _⟩ := mem_parents.mp (hps.mem_iff.mp hp)
        rw [hod]; exact mem_nodes_iff.mpr ⟨es, hpg⟩
      simp only [parentsOf_of_mem (inv'.sub m.id (by simp))]
      rw [relax_eq m.id _ _ _ (fun p hp => hk p (hod ▸ hsub p hp)) (hod ▸ hg)
        (hps.symm.nodup (parents_nodup hg _)) hsub]
      simp only []
      rw [mapEdges_odOf g done m.id fun n => hps.mem_iff]
      have := ih (done ++ [m.id]) _ inv'
        (by simp only [List.length_append, List.length_singleton]; omega)
      simp only [List.reverse_append, List.reverse_singleton, List.singleton_append] at this
      rw [this]
      simp [kahn, hleast]

theorem odOf_nil (g : Graph) : odOf g [] = g :=
  mapEdges_eq_self fun _ _ _ => List.filter_eq_self.mpr fun _ _ => rfl

theorem initHeap_eq {key : Id → Option (Int × Int)} {kf : Id → Int × Int}
    : ∀ (g : Graph), (∀ n ∈ g.nodes, key n = some (kf n)) →
    initHeap key g = .ok ((candidates g []).map (Kf kf))
  | [], _ => rfl
  | (n, es) :: t, hk => by
    simp only [Graph.nodes, List.map_cons, List.forall_mem_cons] at hk
    simp only [initHeap, keyTB_total hk.1, initHeap_eq t hk.2]
    cases es <;> simp [candidates, List.filter_cons]

/-- The heap-based model computes the spec's Kahn iteration, for every graph with distinct node
keys, every total key function and every iteration order of the `reverse_graph` sets; in
particular neither `expect` fires and the loop bound suffices. -/
theorem lexTopoSort_eq_lexTopo {g : Graph} (hg : g.nodes.Nodup) {psh : Id → List Id → List Id}
    (hpsh : ∀ n l, (psh n l).Perm l) {key : Id → Option (Int × Int)} {kf : Id → Int × Int}
    (hk : ∀ n ∈ g.nodes, key n = some (kf n)) :
    lexTopoSort psh g key = .ok (lexTopo g (Kf kf)) := by
  unfold lexTopoSort lexTopo
  rw [initHeap_eq g hk]
  have inv : KInv g kf [] ((candidates g []).map (Kf kf)) :=
    ⟨List.nodup_nil, by simp, (fun _ _ _ h => nomatch h), List.Perm.refl _⟩
  have := kahnLoop_eq hg hpsh hk g.length [] _ inv (by simp)
  rwa [odOf_nil] at this


theorem kahn_run (g : Graph) (kf : Id → Int × Int) : ∀ (fuel : Nat) (done : List Id),
    ∃ rest, kahn g (Kf kf) fuel done = done ++ rest ∧ KahnRun g (Kf kf) done rest ∧
      rest.length ≤ fuel ∧ (rest.length < fuel → candidates g (done ++ rest) = [])
  | 0, done => ⟨[], by simp [kahn], .nil _, by simp, by simp⟩
  | fuel + 1, done => by
    unfold kahn
    cases hl : least powerLt ((candidates g done).map (Kf kf)) with
    | none => exact ⟨[], by simp, .nil _, by simp, fun _ => by simpa using least_none hl⟩
    | some m =>
      have hmin := least_some powerLt_strictTotal hl
      obtain ⟨c, hc, hcm⟩ := List.mem_map.mp hmin.1
      obtain rfl : m.id = c := by rw [← hcm]; rfl
      obtain ⟨rest, h1, h2, h3, h4⟩ := kahn_run g kf fuel (done ++ [m.id])
      refine ⟨m.id :: rest, by simp [h1], .cons hc (fun c' hc' hne => ?_) h2, by simp; omega,
        fun hlt => by simpa using h4 (by simpa using hlt)⟩
      rw [hcm]
      exact hmin.2 _ (List.mem_map_of_mem hc') fun he => hne (congrArg TB.id he)

theorem kahnRun_nodup {g : Graph} {K : Id → TB} {done rest : List Id} (h : KahnRun g K done rest) :
    done.Nodup → (done ++ rest).Nodup ∧ ∀ x ∈ rest, x ∈ g.nodes := by
  induction h with
  | nil done => intro hd; simp [hd]
  | @cons done c rest hc _ _ ih =>
    intro hd
    obtain ⟨es, hcg, hcd, _⟩ := mem_candidates.mp hc
    obtain ⟨h1, h2⟩ := ih (List.nodup_append.mpr ⟨hd, by simp, fun a ha b hb hab => by simp_all⟩)
    exact ⟨by simpa using h1, List.forall_mem_cons.mpr ⟨mem_nodes_iff.mpr ⟨es, hcg⟩, h2⟩⟩

/-- For an arbitrary graph (cycles, self loops, edges to unknown nodes): the iteration emits
distinct nodes of the graph in a run of Kahn's algorithm and stops only when no candidate is left;
nodes on or behind a cycle or a dangling edge are never candidates and are dropped. -/
theorem lexTopo_general {g : Graph} (kf : Id → Int × Int) :
    (lexTopo g (Kf kf)).Nodup ∧ (∀ n ∈ lexTopo g (Kf kf), n ∈ g.nodes) ∧
    KahnRun g (Kf kf) [] (lexTopo g (Kf kf)) ∧ candidates g (lexTopo g (Kf kf)) = [] := by
  obtain ⟨rest, h1, h2, h3, h4⟩ := kahn_run g kf g.length []
  rw [lexTopo, h1]
  simp only [List.nil_append] at h4 ⊢
  obtain ⟨hn, hsub⟩ := kahnRun_nodup h2 List.nodup_nil
  refine ⟨hn, hsub, h2, List.eq_nil_iff_forall_not_mem.mpr fun c hc => ?_⟩
  -- a further candidate would make `rest` shorter than the node list: the iteration has not stopped
  rw [h4 (length_lt_of_mem_candidates hn hsub hc)] at hc
  cases hc

/-- A finite DAG whose edges stay inside the node set. -/
structure IsDag (g : Graph) : Prop where
  nodup : g.nodes.Nodup
  closed : ∀ n es, (n, es) ∈ g → ∀ e ∈ es, e ∈ g.nodes
  acyclic : ∃ rank : Id → Nat, ∀ n es, (n, es) ∈ g → ∀ e ∈ es, rank e < rank n

/-- In a DAG, below every node that is not emitted yet there is a candidate. -/
theorem exists_candidate {g : Graph} (closed : ∀ n es, (n, es) ∈ g → ∀ e ∈ es, e ∈ g.nodes)
    (rank : Id → Nat) (hr : ∀ n es, (n, es) ∈ g → ∀ e ∈ es, rank e < rank n) (done : List Id) :
    ∀ (k : Nat) (n : Id), rank n < k → n ∈ g.nodes → n ∉ done → candidates g done ≠ []
  | 0, _, hk, _, _ => nomatch hk
  | k + 1, n, hk, hn, hd => by
    obtain ⟨es, hg⟩ := mem_nodes_iff.mp hn
    by_cases hall : ∀ e ∈ es, e ∈ done
    · exact List.ne_nil_of_mem (mem_candidates.mpr ⟨es, hg, hd, hall⟩)
    · obtain ⟨e, he, hed⟩ : ∃ e, e ∈ es ∧ e ∉ done := by simpa using hall
      exact exists_candidate closed rank hr done k e
        (Nat.lt_of_lt_of_le (hr n es hg e he) (Nat.le_of_lt_succ hk)) (closed n es hg e he) hed

theorem lexTopo_isLexTopoOrder {g : Graph} (hd : IsDag g) (kf : Id → Int × Int) :
    IsLexTopoOrder g (Kf kf) (lexTopo g (Kf kf)) := by
  obtain ⟨hn, hsub, hrun, hc⟩ := lexTopo_general (g := g) kf
  obtain ⟨rank, hr⟩ := hd.acyclic
  refine ⟨(List.perm_ext_iff_of_nodup hn hd.nodup).mpr fun a => ⟨hsub a, fun ha => ?_⟩, hrun⟩
  exact Classical.byContradiction fun hna =>
    exists_candidate hd.closed rank hr _ (rank a + 1) a (Nat.lt_succ_self _) ha hna hc

theorem kahn_congr {g g' : Graph} {K K' : Id → TB}
    (h : ∀ done, ((candidates g' done).map K').Perm ((candidates g done).map K)) :
    ∀ (fuel : Nat) (done : List Id), kahn g' K' fuel done = kahn g K fuel done
  | 0, _ => rfl
  | fuel + 1, done => by
    unfold kahn
    rw [least_perm powerLt_strictTotal (h done)]
    cases least powerLt ((candidates g done).map K) with
    | none => rfl
    | some m => exact kahn_congr h fuel _

/-- Same node set and, node by node, the same edge set (any representation of one graph). -/
def GraphSim (g g' : Graph) : Prop :=
  g'.nodes.Perm g.nodes ∧
  ∀ n es es', (n, es) ∈ g → (n, es') ∈ g' → ∀ x, x ∈ es ↔ x ∈ es'

theorem candidates_sim {g g' : Graph} (hg : g.nodes.Nodup) (h : GraphSim g g') (done : List Id) :
    (candidates g' done).Perm (candidates g done) := by
  refine (List.perm_ext_iff_of_nodup (candidates_nodup (h.1.symm.nodup hg) _)
    (candidates_nodup hg _)).mpr fun n => ?_
  rw [mem_candidates, mem_candidates]
  constructor
  · rintro ⟨es', h1, h2, h3⟩
    obtain ⟨es, h4⟩ := mem_nodes_iff.mp (h.1.mem_iff.mp (mem_nodes_iff.mpr ⟨es', h1⟩))
    exact ⟨es, h4, h2, fun e he => h3 e ((h.2 n es es' h4 h1 e).mp he)⟩
  · rintro ⟨es, h1, h2, h3⟩
    obtain ⟨es', h4⟩ := mem_nodes_iff.mp (h.1.mem_iff.mpr (mem_nodes_iff.mpr ⟨es, h1⟩))
    exact ⟨es', h4, h2, fun e he => h3 e ((h.2 n es es' h1 h4 e).mpr he)⟩

theorem lexTopo_sim {g g' : Graph} (hg : g.nodes.Nodup) (h : GraphSim g g') (K : Id → TB) :
    lexTopo g' K = lexTopo g K := by
  have : g'.length = g.length := by rw [← length_nodes, ← length_nodes, h.1.length_eq]
  rw [lexTopo, lexTopo, this]
  exact kahn_congr (fun done => (candidates_sim hg h done).map K) _ _

/-- `g'` is `g` with the node list and every adjacency list permuted (another iteration order of
the same `HashMap<Id, HashSet<Id>>`). -/
def GraphPerm (g g' : Graph) : Prop :=
  ∃ sh : Id → List Id → List Id, (∀ n l, (sh n l).Perm l) ∧
    g'.Perm (g.map (fun ne => (ne.1, sh ne.1 ne.2)))

theorem GraphPerm.nodes {g g' : Graph} (h : GraphPerm g g') : g'.nodes.Perm g.nodes := by
  obtain ⟨sh, _, hp⟩ := h
  simpa [Graph.nodes, List.map_map, Function.comp_def] using hp.map (·.1)

theorem GraphPerm.sim {g g' : Graph} (hg : g.nodes.Nodup) (h : GraphPerm g g') : GraphSim g g' := by
  refine ⟨h.nodes, fun n es es' h1 h2 x => ?_⟩
  obtain ⟨sh, hsh, hp⟩ := h
  obtain ⟨a, ha, he⟩ := List.mem_map.mp (hp.mem_iff.mp h2)
  cases he
  rw [edges_unique hg h1 ha]
  exact (hsh _ _).mem_iff.symm

/-- A decidable certificate for `IsDag` (used for examples). -/
theorem isDag_of_check (g : Graph) (rank : Id → Nat) (h1 : g.nodes.Nodup)
    (h2 : g.all (fun ne => ne.2.all (fun e => decide (e ∈ g.nodes) && decide (rank e < rank ne.1))) = true) :
    IsDag g := by
  simp only [List.all_eq_true, Bool.and_eq_true, decide_eq_true_eq] at h2
  exact ⟨h1, fun n es hm e he => (h2 _ hm e he).1, rank, fun n es hm e he => (h2 _ hm e he).2⟩

end Ruma.StateRes
