/-
  The F4 witness room (DESIGN §7 F4, `corpus/C07/f4-mainline-depth.req`, `sr::f4_witness(6)` of the
  harness): two conflicting topics, `$t1` sent before the room's only power-levels event (ts 50) and
  `$t2` citing it (ts 20). Evaluated facts about it, used by the refutations in `Props/C07.lean`.
-/
import RumaModel.Lemmas.StateResAuth
import RumaModel.Lemmas.StateResEval
import RumaModel.Lemmas.StateResHyp
import RumaModel.Lemmas.Json
namespace Ruma.StateRes.F4Witness
open Ruma Ruma.StateRes Ruma.Spec.StateResV2

def alice : Str := bs "@alice:s0"
def room : Str := bs "!r:s0"
def tTopic : Str := bs "m.room.topic"

def c : Event :=
  { eventId := bs "$c", roomId := room, sender := alice, type := tCreate, stateKey := some [],
    content := [(bs "creator", .str alice)], prevEvents := [], authEvents := [], originServerTs := 1 }
def ma : Event :=
  { eventId := bs "$ma", roomId := room, sender := alice, type := tMember, stateKey := some alice,
    content := [(bs "membership", .str (bs "join"))], prevEvents := [bs "$c"], authEvents := [bs "$c"],
    originServerTs := 2 }
def t1 : Event :=
  { eventId := bs "$t1", roomId := room, sender := alice, type := tTopic, stateKey := some [],
    content := [(bs "topic", .str (bs "before"))], prevEvents := [bs "$ma"],
    authEvents := [bs "$c", bs "$ma"], originServerTs := 50 }
def pl : Event :=
  { eventId := bs "$pl", roomId := room, sender := alice, type := tPowerLevels, stateKey := some [],
    content := [(bs "users", .obj [(alice, .int 100)])], prevEvents := [bs "$ma"],
    authEvents := [bs "$c", bs "$ma"], originServerTs := 10 }
def t2 : Event :=
  { eventId := bs "$t2", roomId := room, sender := alice, type := tTopic, stateKey := some [],
    content := [(bs "topic", .str (bs "after"))], prevEvents := [bs "$pl"],
    authEvents := [bs "$c", bs "$ma", bs "$pl"], originServerTs := 20 }

def store : List Event := [c, ma, t1, pl, t2]

def base : StateMap := [((tCreate, []), bs "$c"), ((tMember, alice), bs "$ma")]
def s1 : StateMap := base ++ [((tTopic, []), bs "$t1"), ((tPowerLevels, []), bs "$pl")]
def s2 : StateMap := base ++ [((tPowerLevels, []), bs "$pl"), ((tTopic, []), bs "$t2")]
def sets : List StateMap := [s1, s2]
def chains : List (List Id) :=
  [[bs "$c", bs "$ma", bs "$pl", bs "$t1"], [bs "$c", bs "$ma", bs "$pl", bs "$t2"]]

/-- Room version 6 rules (the corpus line `c07.resolve 6 …`). -/
def params : Params := realParams AuthRules.v6

def topicOf (r : Except Fail StateMap) : Option Id :=
  match r with
  | .ok m => AL.get m (tTopic, [])
  | .error _ => none

def isOk (r : Except Fail StateMap) : Bool :=
  match r with
  | .ok _ => true
  | .error _ => false

theorem topicOf_resEq {a b : Except Fail StateMap} (h : ResEq a b) : topicOf a = topicOf b := by
  cases a with
  | error e => cases b with
    | error e' => rfl
    | ok m => exact h.elim
  | ok m => cases b with
    | error e' => exact h.elim
    | ok m' => exact h (tTopic, [])

theorem shuffleId_valid : Shuffle.id.Valid := fun l => List.Perm.refl l

theorem ordersId_valid : Orders.id.Valid :=
  ⟨shuffleId_valid, fun _ => shuffleId_valid, shuffleId_valid, shuffleId_valid, shuffleId_valid,
   shuffleId_valid, fun _ => shuffleId_valid, fun _ => shuffleId_valid, shuffleId_valid⟩

theorem fullConf_eq : fullConflictedSet (fetchOf store) sets chains = [bs "$t1", bs "$t2"] := by
  decide +kernel

deriving instance DecidableEq for Event

theorem roomOkB_eq : roomOkB store sets chains = some c := by decide +kernel

theorem roomOk : RoomOk store sets chains c := roomOkB_sound roomOkB_eq

theorem closed : ∀ id e, fetchOf store id = some e → ∀ a ∈ e.authEvents, (fetchOf store a).isSome = true :=
  roomOk.closed

theorem acyclic : ∃ rank : Id → Nat, ∀ id e, fetchOf store id = some e → ∀ a ∈ e.authEvents, rank a < rank id :=
  roomOk.acyclic

theorem storeOk : StoreOk (fetchOf store) (store.map (·.eventId)) :=
  ⟨fetchOf_ident store, closed, acyclic, fetchOf_finite store⟩

theorem setsWF : SetsWF sets := roomOk.setsWF

theorem roomWF : RoomWF store sets chains c := roomOk.room

theorem specWF : SpecWF params store sets chains c :=
  { roomOk with authLocal := authLocal_realParams _ (by decide) }

/-- Both resolutions evaluated together (they share everything up to the mainline ordering). -/
theorem topics : topicOf (resolveWithE false params store sets chains) = some (bs "$t2") ∧
    topicOf (resolveWithE true params store sets chains) = some (bs "$t1") := by decide +kernel

theorem spec_topic : topicOf (resolveV2 params store sets chains) = some (bs "$t2") := by
  rw [resolveV2, resolveWith_eq_E]; exact topics.1

theorem dev_topic : topicOf (resolveV2F4 params store sets chains) = some (bs "$t1") := by
  rw [resolveV2F4, resolveWith_eq_E]; exact topics.2

theorem orders :
    mainlineOrderE false (fetchOf store) 6 (some pl) [bs "$t1", bs "$t2"] = [bs "$t1", bs "$t2"] ∧
    mainlineOrderE true (fetchOf store) 6 (some pl) [bs "$t1", bs "$t2"] = [bs "$t2", bs "$t1"] := by
  decide +kernel

theorem order_spec :
    mainlineOrder false (fetchOf store) 6 (some pl) [bs "$t1", bs "$t2"] = [bs "$t1", bs "$t2"] := by
  rw [mainlineOrder_eq_E]; exact orders.1

theorem order_dev :
    mainlineOrder true (fetchOf store) 6 (some pl) [bs "$t1", bs "$t2"] = [bs "$t2", bs "$t1"] := by
  rw [mainlineOrder_eq_E]; exact orders.2

end Ruma.StateRes.F4Witness
