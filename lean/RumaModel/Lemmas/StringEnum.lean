/-
  C19 — helper lemmas: the first-match conversion `fromStr` refines the order-free relation
  `Spec.StringEnum.Denotes`, and on well-formed tables that relation is functional. For the tables
  of the real enums: a table written out as specification lines (`linesOf`) is read back by
  `toTable`, so the specification and the extracted tables need to be compared only as lines;
  distinctness of keys is checked on numbers (`code`). Last, `cmpBytes` is the order of `Str`.
-/
import RumaModel.Model.StringEnum
import RumaModel.Spec.StringEnum
import RumaModel.Lemmas.Json
namespace Ruma.StringEnum
open Ruma Ruma.Spec.StringEnum

theorem mem_keys {r : Row} {s : Str} : s ∈ r.keys ↔ Row.Spells r s := by
  simp [Row.keys, Row.Spells, or_comm]

theorem stripFirst_some {ps : List Str} {s suf : Str} (h : stripFirst ps s = some suf) :
    ∃ p ∈ ps, s = p ++ suf := by
  induction ps with
  | nil => simp [stripFirst] at h
  | cons p ps ih =>
    unfold stripFirst at h
    by_cases hp : p.isPrefixOf s = true
    · rw [if_pos hp] at h
      injection h with h
      refine ⟨p, List.mem_cons_self, ?_⟩
      have := List.prefix_iff_eq_append.mp (List.isPrefixOf_iff_prefix.mp hp)
      rw [h] at this; exact this.symm
    · rw [if_neg hp] at h
      obtain ⟨q, hq, e⟩ := ih h
      exact ⟨q, List.mem_cons_of_mem _ hq, e⟩

theorem stripFirst_none {ps : List Str} {s : Str} (h : stripFirst ps s = none) :
    ∀ p ∈ ps, ¬ p <+: s := by
  induction ps with
  | nil => simp
  | cons p ps ih =>
    unfold stripFirst at h
    by_cases hp : p.isPrefixOf s = true
    · rw [if_pos hp] at h; cases h
    · rw [if_neg hp] at h
      intro q hq
      rcases List.mem_cons.mp hq with rfl | hq
      · exact fun hpre => hp (List.isPrefixOf_iff_prefix.mpr hpre)
      · exact ih h q hq

theorem eq_of_pairwise {α} {R : α → α → Prop} {P : α → Prop} {l : List α} (h : l.Pairwise R)
    (hR : ∀ {a b}, R a b → P a → P b → False) {a b : α} (ha : a ∈ l) (hb : b ∈ l) (pa : P a)
    (pb : P b) : a = b :=
  List.Pairwise.forall_of_forall_of_flip (R := fun a b => P a → P b → a = b) (fun _ _ _ _ => rfl)
    (h.imp fun r pa pb => (hR r pa pb).elim) (h.imp fun r pb pa => (hR r pa pb).elim) ha hb pa pb

theorem incomparable_eq {l : List Str}
    (hl : l.Pairwise (fun p q => ¬ p <+: q ∧ ¬ q <+: p)) {p q s : Str}
    (hp : p ∈ l) (hq : q ∈ l) (hps : p <+: s) (hqs : q <+: s) : p = q :=
  eq_of_pairwise (P := (· <+: s)) hl
    (fun h hp hq => (List.prefix_or_prefix_of_prefix hp hq).elim h.1 h.2) hp hq hps hqs

theorem incomparable_nodup {l : List Str}
    (hl : l.Pairwise (fun p q => ¬ p <+: q ∧ ¬ q <+: p)) : l.Nodup := by
  refine hl.imp ?_
  intro a b h e
  subst e
  exact h.1 (List.prefix_refl a)

theorem flatMap_keys_unique {l : List Row} (hn : (l.flatMap Row.keys).Nodup) {r r' : Row} {k : Str}
    (hr : r ∈ l) (hr' : r' ∈ l) (hk : k ∈ r.keys) (hk' : k ∈ r'.keys) : r = r' :=
  eq_of_pairwise (P := (k ∈ ·.keys)) (List.pairwise_flatMap.mp hn).2
    (fun h hk hk' => h k hk k hk' rfl) hr hr' hk hk'

theorem mem_fixedKeys {tbl : Table} {k : Str} :
    k ∈ fixedKeys tbl ↔ ∃ r ∈ tbl, r.wildcard = false ∧ k ∈ r.keys := by
  simp [fixedKeys, List.mem_flatMap, List.mem_filter, and_assoc]

theorem mem_wildKeys {tbl : Table} {k : Str} :
    k ∈ wildKeys tbl ↔ ∃ r ∈ tbl, r.wildcard = true ∧ k ∈ r.keys := by
  simp [wildKeys, List.mem_flatMap, List.mem_filter, and_assoc]

theorem match?_denotes {tbl : Table} {r : Row} (hr : r ∈ tbl) {s : Str} {v : Val}
    (h : r.match? s = some v) : Denotes tbl s v := by
  unfold Row.match? at h
  by_cases hw : r.wildcard = true
  · rw [if_pos hw] at h
    cases hs : stripFirst r.keys s with
    | none => rw [hs] at h; cases h
    | some suf =>
      rw [hs] at h
      injection h with h; subst h
      obtain ⟨p, hp, e⟩ := stripFirst_some hs
      exact Denotes.frag r p suf hr hw (mem_keys.mp hp) e
  · rw [if_neg hw] at h
    by_cases hc : r.keys.contains s = true
    · rw [if_pos hc] at h
      injection h with h; subst h
      exact Denotes.unit r hr (by simpa using hw) (mem_keys.mp (List.contains_iff_mem.mp hc))
    · rw [if_neg hc] at h; cases h

theorem match?_none {r : Row} {s : Str} (h : r.match? s = none) :
    (r.wildcard = false → ¬ Row.Spells r s) ∧
    (r.wildcard = true → ∀ p, Row.Spells r p → ¬ p <+: s) := by
  unfold Row.match? at h
  by_cases hw : r.wildcard = true
  · rw [if_pos hw] at h
    refine ⟨fun hf => (by rw [hw] at hf; cases hf), fun _ p hp => ?_⟩
    cases hs : stripFirst r.keys s with
    | none => exact stripFirst_none hs p (mem_keys.mpr hp)
    | some suf => rw [hs] at h; cases h
  · rw [if_neg hw] at h
    refine ⟨fun _ hsp => ?_, fun ht => absurd ht hw⟩
    by_cases hc : r.keys.contains s = true
    · rw [if_pos hc] at h; cases h
    · exact hc (List.contains_iff_mem.mpr (mem_keys.mpr hsp))

/-- `pre`: the rows already passed; they did not match. -/
theorem denotes_append_fromStr (tbl pre : Table) (s : Str)
    (hpre : ∀ r ∈ pre, (r.wildcard = false → ¬ Row.Spells r s) ∧
      (r.wildcard = true → ∀ p, Row.Spells r p → ¬ p <+: s)) :
    Denotes (pre ++ tbl) s (fromStr tbl s) := by
  induction tbl generalizing pre with
  | nil =>
    simp only [fromStr, List.append_nil]
    exact Denotes.custom (fun r hr => (hpre r hr).1) (fun r hr => (hpre r hr).2)
  | cons r t ih =>
    unfold fromStr
    cases hm : r.match? s with
    | some v => exact match?_denotes (by simp) hm
    | none =>
      have := ih (pre ++ [r]) (by
        intro r' hr'
        rcases List.mem_append.mp hr' with h | h
        · exact hpre r' h
        · rw [List.mem_singleton.mp h]; exact match?_none hm)
      simpa using this

theorem denotes_unique {tbl : Table} (h : WF tbl) {s : Str} {v w : Val}
    (hv : Denotes tbl s v) (hw : Denotes tbl s w) : v = w := by
  obtain ⟨hnd, hwf, hww⟩ := h
  cases hv with
  | unit r hr hf hs =>
    cases hw with
    | unit r' hr' hf' hs' =>
      have : r = r' := flatMap_keys_unique (l := tbl.filter (fun r => !r.wildcard)) hnd
        (List.mem_filter.mpr ⟨hr, by simp [hf]⟩) (List.mem_filter.mpr ⟨hr', by simp [hf']⟩)
        (mem_keys.mpr hs) (mem_keys.mpr hs')
      rw [this]
    | frag r' p suf hr' hw' hp' e =>
      exact absurd (e ▸ List.prefix_append p suf)
        (hwf p (mem_wildKeys.mpr ⟨r', hr', hw', mem_keys.mpr hp'⟩) s
          (mem_fixedKeys.mpr ⟨r, hr, hf, mem_keys.mpr hs⟩))
    | custom hc _ => exact absurd hs (hc r hr hf)
  | frag r p suf hr hwr hp e =>
    cases hw with
    | unit r' hr' hf' hs' =>
      exact absurd (e ▸ List.prefix_append p suf)
        (hwf p (mem_wildKeys.mpr ⟨r, hr, hwr, mem_keys.mpr hp⟩) s
          (mem_fixedKeys.mpr ⟨r', hr', hf', mem_keys.mpr hs'⟩))
    | frag r' p' suf' hr' hw' hp' e' =>
      have hpk : p ∈ wildKeys tbl := mem_wildKeys.mpr ⟨r, hr, hwr, mem_keys.mpr hp⟩
      have hpk' : p' ∈ wildKeys tbl := mem_wildKeys.mpr ⟨r', hr', hw', mem_keys.mpr hp'⟩
      have hpp : p = p' := incomparable_eq hww hpk hpk' (e ▸ List.prefix_append p suf)
        (e' ▸ List.prefix_append p' suf')
      subst hpp
      have hr2 : r = r' := flatMap_keys_unique (l := tbl.filter (fun r => r.wildcard))
        (incomparable_nodup hww)
        (List.mem_filter.mpr ⟨hr, hwr⟩) (List.mem_filter.mpr ⟨hr', hw'⟩)
        (mem_keys.mpr hp) (mem_keys.mpr hp')
      subst hr2
      have : suf = suf' := List.append_cancel_left (e.symm.trans e')
      rw [this]
    | custom _ hc => exact absurd (e ▸ List.prefix_append p suf) (hc r hr hwr p hp)
  | custom hc1 hc2 =>
    cases hw with
    | unit r' hr' hf' hs' => exact absurd hs' (hc1 r' hr' hf')
    | frag r' p' suf' hr' hw' hp' e' =>
      exact absurd (e' ▸ List.prefix_append p' suf') (hc2 r' hr' hw' p' hp')
    | custom _ _ => rfl

/-- The lines that describe one row: its `v` or `w` line, then an `a` line for each alias. -/
def Row.lines (r : Row) : List Entry :=
  (if r.wildcard then Entry.w r.label (r.spelling ++ b!"*") else Entry.v r.label r.spelling) ::
    r.aliases.map (Entry.a r.label)

/-- The entry list that describes a table, row by row. -/
def linesOf (tbl : Table) : List Entry := tbl.flatMap Row.lines

theorem entryIn_of_mem_linesOf {tbl : Table} {ent : Entry} (h : ent ∈ linesOf tbl) :
    EntryIn tbl ent := by
  obtain ⟨r, hr, he⟩ := List.mem_flatMap.mp h
  rcases List.mem_cons.mp he with rfl | he
  · by_cases hw : r.wildcard = true
    · rw [if_pos hw]; exact ⟨r, hr, rfl, List.dropLast_concat.symm, hw⟩
    · rw [if_neg hw]; exact ⟨r, hr, rfl, rfl, by simpa using hw⟩
  · obtain ⟨a, ha, rfl⟩ := List.mem_map.mp he
    exact ⟨r, hr, rfl, ha⟩

theorem addAlias_concat {l : String} {acc : Table} (hacc : ∀ r ∈ acc, r.label ≠ l)
    (s al : Str) (as : List Str) (w : Bool) :
    addAlias l al (acc ++ [⟨l, s, as, w⟩]) = acc ++ [⟨l, s, as ++ [al], w⟩] := by
  induction acc with
  | nil => simp [addAlias]
  | cons a acc ih =>
    simp [addAlias, hacc a List.mem_cons_self, ih fun r h => hacc r (List.mem_cons_of_mem _ h)]

theorem toTable_aliases {l : String} {acc : Table} (hacc : ∀ r ∈ acc, r.label ≠ l)
    (s : Str) (as₀ as : List Str) (w : Bool) (es : List Entry) :
    toTable (as.map (Entry.a l) ++ es) (acc ++ [⟨l, s, as₀, w⟩]) =
      toTable es (acc ++ [⟨l, s, as₀ ++ as, w⟩]) := by
  induction as generalizing as₀ with
  | nil => simp
  | cons a as ih =>
    simp only [List.map_cons, List.cons_append, toTable]
    rw [addAlias_concat hacc, ih, List.append_assoc, List.singleton_append]

/-- The first line of a row whose label is new appends it without aliases; the alias lines then
find it at the end. -/
theorem toTable_lines {r : Row} {acc : Table} (hacc : ∀ r' ∈ acc, r'.label ≠ r.label)
    (es : List Entry) : toTable (r.lines ++ es) acc = toTable es (acc ++ [r]) := by
  obtain ⟨l, s, as, w⟩ := r
  have h := toTable_aliases hacc s [] as w es
  cases w <;> simpa [Row.lines, toTable] using h

theorem entriesOk_aliases {l : String} {as : List Str} {es : List Entry} {seen : List String}
    (h : entriesOk (as.map (Entry.a l) ++ es) seen = true) : entriesOk es seen = true := by
  induction as with
  | nil => exact h
  | cons a as ih =>
    simp only [List.map_cons, List.cons_append, entriesOk, Bool.and_eq_true] at h
    exact ih h.2

theorem entriesOk_lines {r : Row} {es : List Entry} {seen : List String}
    (h : entriesOk (r.lines ++ es) seen = true) :
    r.label ∉ seen ∧ entriesOk es (r.label :: seen) = true := by
  obtain ⟨l, s, as, w⟩ := r
  cases w <;> simp [Row.lines, entriesOk] at h
  · exact ⟨h.1, entriesOk_aliases h.2⟩
  · exact ⟨h.1.1, entriesOk_aliases h.2⟩

theorem toTable_linesOf_append {tbl acc : Table} {seen : List String}
    (hacc : ∀ r ∈ acc, r.label ∈ seen) (h : entriesOk (linesOf tbl) seen = true) :
    toTable (linesOf tbl) acc = acc ++ tbl := by
  induction tbl generalizing acc seen with
  | nil => exact (List.append_nil acc).symm
  | cons r t ih =>
    rw [linesOf, List.flatMap_cons, ← linesOf] at h ⊢
    obtain ⟨hr, ht⟩ := entriesOk_lines h
    rw [toTable_lines fun r' hr' e => hr (e ▸ hacc r' hr'), ih ?_ ht, List.append_assoc,
      List.singleton_append]
    intro r' hr'
    rcases List.mem_append.mp hr' with h' | h'
    · exact List.mem_cons_of_mem _ (hacc r' h')
    · rw [List.mem_singleton.mp h']; exact List.mem_cons_self

theorem toTable_linesOf {tbl : Table} (h : entriesOk (linesOf tbl) [] = true) :
    toTable (linesOf tbl) [] = tbl :=
  toTable_linesOf_append (acc := []) (fun _ h => nomatch h) h

/-- A string as one number (base 256 under a leading 1). The kernel compares two of these in one
step, where comparing two byte lists costs a step per common byte. -/
def code (s : Str) : Nat := s.foldl (fun n b => n * 256 + b) 1

/-- `l.Nodup` as a Boolean function. (The kernel runs it in half the steps it needs for the
`Decidable` instance of `List.Pairwise`.) -/
def distinct : List Nat → Bool
  | [] => true
  | x :: xs => !xs.contains x && distinct xs

theorem nodup_of_distinct {l : List Nat} (h : distinct l = true) : l.Nodup := by
  induction l with
  | nil => exact .nil
  | cons x xs ih =>
    simp only [distinct, Bool.and_eq_true, Bool.not_eq_true', List.contains_eq_mem,
      decide_eq_false_iff_not] at h
    exact List.nodup_cons.mpr ⟨h.1, ih h.2⟩

/-- Keys with pairwise different codes are pairwise different, whether or not `code` is injective. -/
theorem WF.of_codes {tbl : Table}
    (h : distinct ((fixedKeys tbl).map code) = true ∧
      (∀ p ∈ wildKeys tbl, ∀ k ∈ fixedKeys tbl, ¬ p <+: k) ∧
      (wildKeys tbl).Pairwise (fun p q => ¬ p <+: q ∧ ¬ q <+: p)) : WF tbl :=
  ⟨(nodup_of_distinct h.1).of_map code fun _ _ hne e => hne (congrArg code e), h.2⟩

theorem cmpBytes_spec (a b : Str) :
    (cmpBytes a b = .lt ↔ a < b) ∧ (cmpBytes a b = .eq ↔ a = b) ∧
      cmpBytes b a = (cmpBytes a b).swap := by
  induction a generalizing b with
  | nil => cases b <;> simp [cmpBytes, Ordering.swap]
  | cons x a ih =>
    cases b with
    | nil => simp [cmpBytes, Ordering.swap]
    | cons y b =>
      obtain ⟨h1, h2, h3⟩ := ih b
      unfold cmpBytes
      rw [List.cons_lt_cons_iff]
      rcases Nat.lt_trichotomy x y with h | rfl | h
      · have : ¬ y < x := by omega
        have : x ≠ y := by omega
        simp [*, Ordering.swap]
      · simp [*]
      · have : ¬ x < y := by omega
        have : x ≠ y := by omega
        simp [*, Ordering.swap]

theorem cmpBytes_gt {a b : Str} : cmpBytes a b = .gt ↔ b < a := by
  rw [← (cmpBytes_spec b a).1, (cmpBytes_spec a b).2.2]
  cases cmpBytes a b <;> simp [Ordering.swap]

end Ruma.StringEnum
