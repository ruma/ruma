/-
  C01 — Canonical JSON is the spec's unique, order-independent, lossless encoding.
  Property theorems only; helper lemmas live in `Lemmas/Canonical*.lean`.

  Reading guide.
  * `normalize` is the model of `TryFrom<serde_json::Value> for CanonicalJsonValue`, `normalizeMap`
    of `try_from_json_map`, `encode` of the compact serialiser behind `to_string` / `Display` /
    `ruma_signatures::canonical_json` (`Model/Canonical.lean`). Strings are UTF-8 byte lists, an
    object is the list of its entries: *in text order, duplicates possible* for an input, ascending
    by key for a canonical value. `serdeValue` models serde_json's own `Map` construction in front
    of ruma's code (external; a later duplicate replaces an earlier one).
  * `Spec/CanonicalJson.lean` is the Matrix specification's side: `IntInRange`, `IsCanonical`
    (value level, strings as bytes), `CVal` / `CVal.WF` / `text` / `canonicalBytes` (the grammar, on
    code points), `CharText` (the ABNF's `char` production), `NoInsignificantWhitespace`,
    `Representable`, `utf8Encode`.
-/
import RumaModel.Lemmas.CanonicalSurj
import RumaModel.Lemmas.CanonicalDecode
namespace Ruma.Props.C01
open Ruma Ruma.Canonical Ruma.Spec.CanonicalJson

/-! ## The canonical value: sorted, duplicate-free, integers only, at every depth -/

/-- Whatever `normalize` accepts comes out canonical: at every depth the keys of every object are
strictly ascending (hence no key occurs twice), every number is an integer within ±(2^53−1), and no
non-integer number is left. -/
theorem normalize_sorted (v c : JVal) (h : normalize v = .ok c) : IsCanonical c :=
  normalize_isCanonical v c h

/-- The same for `try_from_json_map`. -/
theorem normalizeMap_sorted (kvs : List (Str × JVal)) (o : Obj) (h : normalizeMap kvs = .ok o) :
    IsCanonical (.obj o) :=
  normalize_isCanonical (.obj kvs) _ (by rw [normalize_obj_eq, h]; rfl)

/-- Strictly ascending keys have no duplicates (spelled out for the top level). -/
theorem normalize_keys_nodup (kvs : List (Str × JVal)) (o : Obj) (h : normalize (.obj kvs) = .ok (.obj o)) :
    List.Pairwise (· < ·) (Obj.keys o) ∧ (Obj.keys o).Nodup := by
  have := normalize_sorted _ _ h
  exact ⟨this.1, sorted_keys_nodup this.1⟩

/-! ## The result does not depend on the order of the entries -/

/-- Top level: two objects whose entries are permutations of each other (distinct keys) are
converted to the same result — the same canonical value, or both are rejected. -/
theorem normalize_perm (kvs kvs' : List (Str × JVal)) (hp : kvs.Perm kvs') (hnd : (Obj.keys kvs).Nodup) :
    normalize (.obj kvs) = normalize (.obj kvs') := by
  rw [normalize_obj_eq, normalize_obj_eq, normalizeMap_perm hp hnd]

/-- Every depth: `Shuffled v w` says that `w` is `v` with the entries of any objects, at any depth,
reordered (each reordered object having distinct keys). Such values are converted alike. -/
theorem normalize_perm_deep (v w : JVal) (h : Shuffled v w) : normalize v = normalize w :=
  shuffled_normalize h

/-- The hypothesis is satisfiable on a non-trivial input: an object reordered at two depths. -/
example : Shuffled
    (.obj [(bs "a", .obj [(bs "x", .int 1), (bs "y", .int 2)]), (bs "b", .arr [.null])])
    (.obj [(bs "b", .arr [.null]), (bs "a", .obj [(bs "y", .int 2), (bs "x", .int 1)])]) := by
  refine .obj (mid := [(bs "a", .obj [(bs "y", .int 2), (bs "x", .int 1)]), (bs "b", .arr [.null])])
    (.cons ?_ (.cons (.atom _) .nil)) (List.Perm.swap _ _ _) (by decide)
  exact .obj (mid := [(bs "x", .int 1), (bs "y", .int 2)])
    (.cons (.atom _) (.cons (.atom _) .nil)) (List.Perm.swap _ _ _) (by decide)

/-- `try_from_json_map` likewise. -/
theorem normalizeMap_perm' (kvs kvs' : List (Str × JVal)) (hp : kvs.Perm kvs') (hnd : (Obj.keys kvs).Nodup) :
    normalizeMap kvs = normalizeMap kvs' :=
  normalizeMap_perm hp hnd

/-- Hence the bytes depend only on the value, not on the order of the text. -/
theorem canonical_bytes_order_independent (v w : JVal) (h : Shuffled v w) :
    (normalize v).map encode = (normalize w).map encode := by
  rw [normalize_perm_deep v w h]

/-! ## Duplicate keys: the last one decides -/

/-- If the entries are `pre ++ (k, v) :: post` and `k` does not occur again in `post`, the canonical
object holds under `k` the converted `v` — whatever earlier entries with key `k` said. -/
theorem normalize_dup_last_wins (pre post : List (Str × JVal)) (k : Str) (v : JVal) (o : Obj)
    (hk : k ∉ Obj.keys post) (h : normalize (.obj (pre ++ (k, v) :: post)) = .ok (.obj o)) :
    ∃ v', normalize v = .ok v' ∧ Obj.get o k = some v' := by
  obtain ⟨l, h1, h2⟩ := normalize_obj_ok.mp h
  injection h2 with h2
  obtain ⟨hall, rfl⟩ := normalizeO_eq_ok h1
  refine ⟨normVal v, hall (k, v) (by simp), ?_⟩
  rw [h2, get_ofList, getLast_map, getLast_append, getLast, getLast_none_of_not_mem post k hk, if_pos rfl]
  rfl

example : normalize (.obj ([(bs "a", .int 1)] ++ (bs "a", .int 2) :: [(bs "b", .null)]))
    = .ok (.obj [(bs "a", .int 2), (bs "b", .null)]) := by decide +kernel

/-- Said directly: an entry whose key occurs again later in the text can be deleted from the input
without changing the result (provided its own value is representable; serde_json drops it before
ruma sees it in any case, see `normalize_after_serde`). -/
theorem normalize_shadowed_duplicate_irrelevant (pre rest : List (Str × JVal)) (k : Str) (v0 c0 : JVal)
    (h0 : normalize v0 = .ok c0) (hk : k ∈ Obj.keys rest) :
    normalize (.obj (pre ++ (k, v0) :: rest)) = normalize (.obj (pre ++ rest)) := by
  have h1 : (normalize v0).isOk = true := by rw [h0]; rfl
  rw [normalize_obj_eq, normalize_obj_eq, normalizeMap_eq, normalizeMap_eq]
  simp only [List.all_append, List.all_cons, h1, Bool.true_and, List.map_append, List.map_cons]
  rw [ofList_drop_shadowed _ _ _ _ (by rwa [keys_map])]

/-- A key that does not occur in the input does not occur in the output. -/
theorem normalize_no_new_keys (kvs : List (Str × JVal)) (o : Obj) (k : Str)
    (hk : k ∉ Obj.keys kvs) (h : normalize (.obj kvs) = .ok (.obj o)) : Obj.get o k = none := by
  obtain ⟨l, h1, h2⟩ := normalize_obj_ok.mp h
  injection h2 with h2
  obtain ⟨_, rfl⟩ := normalizeO_eq_ok h1
  rw [h2, get_ofList, getLast_none_of_not_mem _ k (by rwa [keys_map])]

/-- Together with sortedness these two facts determine the canonical object completely: two
strictly sorted objects with the same lookups are the same object. -/
theorem canonical_object_determined_by_lookups (o o' : Obj) (h : Obj.Sorted o) (h' : Obj.Sorted o')
    (hl : ∀ k, Obj.get o k = Obj.get o' k) : o = o' :=
  Obj.sorted_ext o o' h h' hl

/-- serde_json's own duplicate handling in front (`serdeValue`: a later duplicate replaces) changes
nothing whenever the conversion of the raw entries succeeds. -/
theorem normalize_after_serde (v c : JVal) (h : normalize v = .ok c) : normalize (serdeValue v) = .ok c :=
  normalize_serdeValue v c h

/-! ## Numbers: accepted iff representable, never altered -/

/-- An integer is accepted iff it lies in [−(2^53−1), 2^53−1], and it is then unchanged. -/
theorem normalize_int_iff (i : Int) (c : JVal) :
    normalize (.int i) = .ok c ↔ (-(2 ^ 53 - 1) ≤ i ∧ i ≤ 2 ^ 53 - 1) ∧ c = .int i :=
  normalize_int_ok

/-- A number that is not an i64 integer for serde_json is rejected. This holds by the construction of
the model's `JVal.float` ("every number for which `as_i64` answers `None`"); *that* fractions,
exponents, `-0` and numbers above u64 are such numbers is serde_json's number classification
(external code) and is checked by the differential correspondence (T2) only, not by a theorem. -/
theorem normalize_float_rejected : normalize .float = .error .intConvert := rfl

/-- In general: a value is accepted iff every number in it, at any depth, is an integer within
range (`Representable`); a single unrepresentable number anywhere rejects the whole value. -/
theorem normalize_ok_iff_representable (v : JVal) : (∃ c, normalize v = .ok c) ↔ Representable v :=
  normalize_ok_iff v

example : normalize (.arr [.obj [(bs "deep", .int 9007199254740992)]]) = .error .intConvert := by decide +kernel
example : normalize (.arr [.obj [(bs "deep", .int (-9007199254740991))]])
    = .ok (.arr [.obj [(bs "deep", .int (-9007199254740991))]]) := by decide +kernel

/-! ## Idempotence -/

/-- Converting a canonical value gives that value: nothing is reordered, dropped or changed. -/
theorem normalize_idempotent (c : JVal) (h : IsCanonical c) : normalize c = .ok c :=
  normalize_of_isCanonical c h

/-- In particular converting twice is converting once. -/
theorem normalize_twice (v c : JVal) (h : normalize v = .ok c) : normalize c = .ok c :=
  normalize_idempotent c (normalize_sorted v c h)

/-! ## Escapes are minimal and are the grammar's -/

/-- A byte of a string is written raw iff it is not `"`, `\` or a C0 control; these three kinds are
escaped (the escape starts with `\`). In particular U+007F and every byte of a multi-byte UTF-8
sequence are raw. -/
theorem escape_minimal (b : Nat) :
    (escapeByte b = [b] ↔ ¬ (b = 34 ∨ b = 92 ∨ b < 32)) ∧
    ((b = 34 ∨ b = 92 ∨ b < 32) → ∃ rest, escapeByte b = 92 :: rest ∧ rest ≠ []) := by
  rcases escapeByte_cases b with ⟨c, hc, e⟩ | ⟨hb, e⟩ | ⟨hb, e⟩
  · have := (shortEscapes_spec _ hc).1
    exact ⟨by simp [e, this], fun _ => ⟨_, e, List.cons_ne_nil _ _⟩⟩
  · have : b < 32 := by omega
    exact ⟨by simp [e, this], fun _ => ⟨_, e, List.cons_ne_nil _ _⟩⟩
  · exact ⟨by simp [e, hb], fun h => absurd h hb⟩

/-- What is written for a code point below U+0080 is exactly the grammar's `char` production
(short escapes `\b \f \n \r \t \" \\`, `\u00xx` lower-case for the other controls). -/
theorem escape_matches_grammar (b : Nat) (h : b ≤ 0x10FFFF) : CharText b (escapeByte b) := by
  rw [escapeByte_eq_charText]; exact charText_sound b h

/-- The grammar allows exactly one spelling per code point. -/
theorem grammar_char_unique (c : Nat) (t t' : List Nat) (h : CharText c t) (h' : CharText c t') : t = t' := by
  rw [charText_complete h, charText_complete h']

/-! ## No insignificant whitespace -/

/-- Outside string literals the output consists of structural bytes only (`{}[]:,`, digits, `-`,
the letters of `true false null`): no space, tab or line break between tokens. (The statement also
covers values containing `float`, which are not canonical and which `normalize` never returns; for
them `encode` is the empty placeholder `[]` of `Model/Canonical.lean`, so this theorem and the next
say nothing of interest about them.) -/
theorem encode_no_whitespace (v : JVal) : NoInsignificantWhitespace (encode v) := by
  intro x hx
  have := outside_encode v [] x (by rw [List.append_nil]; exact hx)
  rcases this with h | h
  · exact h
  · simp [outsideStrings] at h

/-- No byte of the output is below 0x20 at all (inside strings controls are escaped). -/
theorem encode_no_control_bytes (v : JVal) : ∀ x ∈ encode v, 32 ≤ x := encode_ge v

/-! ## UTF-8 byte order is code point order -/

/-- Byte-lexicographic order of UTF-8 encodings equals code-point-lexicographic order. This is what
makes the order of `BTreeMap<String, _>` (bytes) the order the specification asks for (code
points) — for all code points, astral ones included. -/
theorem utf8_lex_iff_codepoint_lex (a b : List Nat) : utf8Encode a < utf8Encode b ↔ a < b :=
  utf8Encode_lt_iff a b

/-- Different code point sequences have different UTF-8 encodings (so distinct keys stay distinct). -/
theorem utf8_injective (a b : List Nat) (h : utf8Encode a = utf8Encode b) : a = b := by
  rcases str_trichotomy a b with h1 | h1 | h1
  · exact absurd (h ▸ utf8Encode_mono h1) (List.lt_irrefl _)
  · exact h1
  · exact absurd (h ▸ utf8Encode_mono h1) (List.lt_irrefl _)

/-- UTF-16 code unit order is a different order (so an implementation sorting by UTF-16 would not
be canonical): U+FFFF < U+10000 as code points and in UTF-8, but not in UTF-16. -/
example : [0xFFFF] < [0x10000] ∧ utf8Encode [0xFFFF] < utf8Encode [0x10000] ∧
    ¬ ([0xFFFF].flatMap utf16EncodeChar < [0x10000].flatMap utf16EncodeChar) := by decide

/-- A well-formed specification value (keys ascending by code point), held in memory with UTF-8
strings, is canonical in the byte order the implementation uses. -/
theorem spec_value_is_canonical (v : CVal) (h : v.WF) : IsCanonical v.toJVal :=
  toJVal_isCanonical v h

/-! ## The bytes are the specification's -/

/-- The serialiser's output for a specification value is the UTF-8 encoding of the grammar's text
of that value: sorted members, no whitespace, the grammar's escapes, decimal integers. -/
theorem encode_eq_spec (v : CVal) : encode v.toJVal = canonicalBytes v :=
  encode_toJVal v

/-- Converting a well-formed specification value and serialising it yields canonical JSON in the
specification's sense. -/
theorem canonical_of_spec_value (v : CVal) (h : v.WF) :
    (normalize v.toJVal).map encode = .ok (canonicalBytes v) ∧ IsCanonicalJson (canonicalBytes v) := by
  rw [normalize_idempotent _ (spec_value_is_canonical v h)]
  exact ⟨congrArg _ (encode_eq_spec v), v, h, rfl⟩

/-- Any reordering, at any depth, of the in-memory form of a well-formed specification value is
converted and serialised to the specification's bytes of that value. -/
theorem canonical_of_any_reordering (v : CVal) (h : v.WF) (w : JVal) (hs : Shuffled v.toJVal w) :
    (normalize w).map encode = .ok (canonicalBytes v) := by
  rw [← normalize_perm_deep _ _ hs]
  exact (canonical_of_spec_value v h).1

/-- The three theorems above speak about in-memory values of the form `v.toJVal` (or reorderings
of one). This one closes the gap for *every* canonical in-memory value, however it was obtained: if
its strings and keys are valid UTF-8 (`StringsUtf8`: each is the UTF-8 encoding of a sequence of
Unicode scalar values — the invariant of a Rust `String`), the serialised form is canonical JSON
in the specification's sense, i.e. it is the specification's byte string of some well-formed
specification value. Uses that `CVal.toJVal` is onto the canonical values with valid UTF-8 strings
(`toJVal_surjective`, `Lemmas/CanonicalSurj.lean`). -/
theorem canonical_of_canonical_value (c : JVal) (h : IsCanonical c) (hu : StringsUtf8 c) :
    IsCanonicalJson (encode c) := by
  obtain ⟨v, hv, rfl⟩ := toJVal_surjective c h hu
  exact ⟨v, hv, encode_toJVal v⟩

/-- In particular for whatever `normalize` accepts, if the strings and keys of the input are valid
UTF-8. -/
theorem canonical_of_normalize (v c : JVal) (h : normalize v = .ok c) (hu : StringsUtf8 v) :
    IsCanonicalJson (encode c) :=
  canonical_of_canonical_value c (normalize_sorted v c h) (normalize_stringsUtf8 v c h hu)

/-- `StringsUtf8` holds on a non-trivial input (an astral character in a key and in a value,
entries out of order, a duplicate key), and `normalize` accepts it. -/
example : StringsUtf8 (.obj [(bs "b", .str [240, 159, 152, 128]), ([240, 144, 128, 128], .arr [.int 1]),
      (bs "b", .null)]) ∧
    normalize (.obj [(bs "b", .str [240, 159, 152, 128]), ([240, 144, 128, 128], .arr [.int 1]),
      (bs "b", .null)]) = .ok (.obj [(bs "b", .null), ([240, 144, 128, 128], .arr [.int 1])]) := by
  exact ⟨⟨⟨[0x62], by decide +kernel, by decide +kernel⟩, ⟨[0x1F600], by decide +kernel, by decide +kernel⟩, ⟨[0x10000], by decide +kernel, by decide +kernel⟩,
    ⟨trivial, trivial⟩, ⟨[0x62], by decide +kernel, by decide +kernel⟩, trivial, trivial⟩, by decide +kernel⟩

example : (CVal.obj [([0xFFFF], .int 2), ([0x10000], .str [0x1F600, 10])]).WF :=
  ⟨by unfold KeysAscending; decide, by decide, by unfold CVal.WF IntInRange; omega, by decide,
    by unfold CVal.WF; decide, trivial⟩

/-! ## Lossless: parsing it back gives an equal value -/

/-- `decodeCanon` (a reader for the canonical grammar, `Lemmas/CanonicalDecode.lean`) applied to
the serialised form of a canonical value returns that value. -/
theorem decode_encode (c : JVal) (h : IsCanonical c) : decodeCanon (encode c) = some c :=
  decodeCanon_encode c h

/-- Hence different canonical values have different bytes. -/
theorem encode_injective (c c' : JVal) (h : IsCanonical c) (h' : IsCanonical c')
    (he : encode c = encode c') : c = c' := by
  have h1 := decode_encode c h
  rw [he, decode_encode c' h'] at h1
  injection h1 with h1
  exact h1.symm

/-- Reading back what was produced from any accepted input gives the canonical value. -/
theorem decode_encode_normalize (v c : JVal) (h : normalize v = .ok c) : decodeCanon (encode c) = some c :=
  decode_encode c (normalize_sorted v c h)

example : IsCanonical (.obj [(bs "a", .arr [.int (-5), .str [34, 10, 240, 159, 152, 128]]), (bs "b", .obj [])]) := by
  refine ⟨by decide +kernel, ⟨⟨?_, trivial, trivial⟩, ⟨by decide +kernel, trivial⟩, trivial⟩⟩
  unfold IsCanonical IntInRange
  omega

#print axioms normalize_sorted
#print axioms normalizeMap_sorted
#print axioms normalize_keys_nodup
#print axioms normalize_perm
#print axioms normalize_perm_deep
#print axioms normalizeMap_perm'
#print axioms canonical_bytes_order_independent
#print axioms normalize_dup_last_wins
#print axioms normalize_shadowed_duplicate_irrelevant
#print axioms normalize_no_new_keys
#print axioms canonical_object_determined_by_lookups
#print axioms normalize_after_serde
#print axioms normalize_int_iff
#print axioms normalize_float_rejected
#print axioms normalize_ok_iff_representable
#print axioms normalize_idempotent
#print axioms normalize_twice
#print axioms escape_minimal
#print axioms escape_matches_grammar
#print axioms grammar_char_unique
#print axioms encode_no_whitespace
#print axioms encode_no_control_bytes
#print axioms utf8_lex_iff_codepoint_lex
#print axioms utf8_injective
#print axioms spec_value_is_canonical
#print axioms encode_eq_spec
#print axioms canonical_of_spec_value
#print axioms canonical_of_any_reordering
#print axioms canonical_of_normalize
#print axioms canonical_of_canonical_value
#print axioms decode_encode
#print axioms encode_injective
#print axioms decode_encode_normalize

end Ruma.Props.C01
