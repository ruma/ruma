/-
  C02 — JSON signing is interoperable Ed25519 and verification is sound.
  Property theorems only; helper lemmas live in `Lemmas/Sign.lean`, `Lemmas/SignObj.lean`,
  `Lemmas/SignB64.lean`.

  Reading guide. `signJson S entity kp obj` is the model of `sign_json` (returns the `Result` and
  the object after the call), `verifyJson S keys obj` of `verify_json`, `verifyCanonicalJsonBytes`
  of `verify_canonical_json_bytes` (`Model/Sign.lean`). `S : SigScheme` is Ed25519 as a parameter;
  `S.Lawful` is the assumption "a signature verifies under the matching public key; keys are 32 and
  signatures 64 bytes". The specification side (`Spec/Sign.lean`): `signedBytes obj` = canonical
  JSON of `obj` without `signatures`/`unsigned`; `signed S entity secret version obj` = `obj` with
  `signatures[entity]["ed25519:<version>"]` set to the unpadded base64 signature of those bytes;
  `Verifies S keys obj` = every entity named in `signatures` has a key set, at least one Ed25519
  signature, and every Ed25519 signature of it is valid for `signedBytes obj`.
  Unforgeability of Ed25519 is not used and not assumed in Lean: `verify_tamper*` reduce acceptance
  of a changed object to the scheme accepting the old signature on the new bytes.
-/
import RumaModel.Lemmas.Sign
namespace Ruma.Props.C02
open Ruma Ruma.Sign Ruma.Spec.Sign

/-- Decoding unpadded standard base64 inverts encoding, for every byte string. -/
theorem b64_roundtrip (x : List Nat) (h : ∀ b ∈ x, b < 256) : unb64 (b64 x) = some x :=
  unb64_b64 x h

/-- The bytes `canonical_json` produces (and `sign_json` signs, `verify_json` verifies) are the
canonical JSON of the object without `signatures` and `unsigned`. -/
theorem canonical_json_spec (obj : Obj) : canonicalJson obj = signedBytes obj :=
  canonicalJson_eq_signedBytes obj

/-- `sign_json` succeeds exactly when `signatures` is absent or an object in which the signer's
entry is absent or an object. -/
theorem sign_ok_iff (S : SigScheme) (entity : Str) (kp : KeyPair) (obj : Obj) :
    (signJson S entity kp obj).1 = .ok () ↔ Signable obj entity := by
  refine ⟨fun h => Classical.byContradiction fun hn => ?_, fun h => ?_⟩
  · obtain ⟨e, he⟩ := signJson_of_not_signable S entity kp obj hn
    rw [he] at h
    cases h
  · rw [signJson_of_signable S entity kp obj h]

/-- A signing call that reports an error leaves the object as it was (F11, repaired code). In the
model this holds by the shape of `signJson` (validation up front, `signCore` only afterwards); that
the Rust function has this shape is what the differential correspondence (T2) and the direct oracle
(T3: object after a failing `sign_json` equals the object before) check on every run. -/
theorem sign_error_atomic (S : SigScheme) (entity : Str) (kp : KeyPair) (obj : Obj) (e : Err)
    (h : (signJson S entity kp obj).1 = .error e) : (signJson S entity kp obj).2 = obj := by
  by_cases hs : Signable obj entity
  · rw [signJson_of_signable S entity kp obj hs] at h; cases h
  · obtain ⟨e', he⟩ := signJson_of_not_signable S entity kp obj hs
    rw [he]

/-- Exact shape of the result: for a `CanonicalJsonObject` (sorted keys) that can be signed, the
object after `sign_json` is the input with `signatures[entity]["ed25519:<version>"]` = unpadded
base64 of the scheme's signature over the canonical JSON without `signatures`/`unsigned`, and
nothing else differs. -/
theorem sign_stores_signature (S : SigScheme) (entity : Str) (kp : KeyPair) (obj : Obj)
    (hsorted : Obj.Sorted obj) (hs : Signable obj entity) :
    signJson S entity kp obj = (.ok (), signed S entity kp.secret kp.version obj) := by
  rw [signJson_of_signable S entity kp obj hs, signResult_eq_signed S entity kp obj hsorted]

/-- Signing leaves everything else intact, for every association list (sorted or not): every
field other than `signatures` (in particular `unsigned`) has its old value; in `signatures` every
other entity has its old value; in the signer's set every other key id has its old value; and the
signer's key id holds the new signature. -/
theorem sign_preserves_other (S : SigScheme) (entity : Str) (kp : KeyPair) (obj : Obj)
    (hs : Signable obj entity) :
    let obj' := (signJson S entity kp obj).2
    (∀ k, k ≠ bs "signatures" → Obj.get obj' k = Obj.get obj k) ∧
    ∃ sigs' set', Obj.get obj' (bs "signatures") = some (.obj sigs') ∧
      (∀ e, e ≠ entity → Obj.get sigs' e = Obj.get (signaturesOf obj) e) ∧
      Obj.get sigs' entity = some (.obj set') ∧
      (∀ kid, kid ≠ bs "ed25519:" ++ kp.version →
        Obj.get set' kid = Obj.get (signatureSetOf obj entity) kid) ∧
      Obj.get set' (bs "ed25519:" ++ kp.version)
        = some (.str (b64 (S.sign kp.secret (signedBytes obj)))) := by
  rw [signJson_of_signable S entity kp obj hs]
  intro obj'
  refine ⟨fun k hk => get_signResult_ne S entity kp obj k hk, newSignatures S entity kp obj,
    Obj.insert (signatureSetOf obj entity) (bs "ed25519:" ++ kp.version)
      (.str (b64 (S.sign kp.secret (signedBytes obj)))),
    get_signResult_sig S entity kp obj, ?_⟩
  rw [newSignatures_eq]
  exact ⟨fun e he => Obj.get_insert_ne _ _ _ _ he, Obj.get_insert_self _ _ _,
    fun kid hk => Obj.get_insert_ne _ _ _ _ hk, Obj.get_insert_self _ _ _⟩

/-- Sign then verify: if the object had no `signatures` (or verified already) and the key map holds
the signer's public key under `ed25519:<version>`, the signed object verifies. -/
theorem sign_then_verify (S : SigScheme) (hS : S.Lawful) (keys : KeyMap) (entity : Str) (kp : KeyPair)
    (obj : Obj) (h0 : Obj.get obj (bs "signatures") = none ∨ verifyJson S keys obj = .ok ())
    (hk : HasKey S keys entity kp) :
    (signJson S entity kp obj).1 = .ok () ∧ verifyJson S keys (signJson S entity kp obj).2 = .ok () := by
  rw [signJson_of_signable S entity kp obj (signable_of_inv S keys obj entity h0)]
  exact ⟨rfl, verify_signResult S hS keys entity kp obj h0 hk⟩

/-- Any non-empty list of signings, by any entities and keys in any order (repeats and
overwrites included), starting from an object without `signatures` (or one that verifies): every
call succeeds and the final object verifies against all the keys. The induction uses that the signed
bytes never include `signatures` (`canonicalJson_signResult`). -/
theorem sign_sequence_all_verify (S : SigScheme) (hS : S.Lawful) (keys : KeyMap)
    (steps : List (Str × KeyPair)) (obj : Obj) (hne : steps ≠ [])
    (h0 : Obj.get obj (bs "signatures") = none ∨ verifyJson S keys obj = .ok ())
    (hk : ∀ st ∈ steps, HasKey S keys st.1 st.2) :
    (signAll S steps obj).1 = .ok () ∧ verifyJson S keys (signAll S steps obj).2 = .ok () :=
  signAll_verified S hS keys steps obj
    (h0.elim (fun h => .inl ⟨h, hne⟩) .inr) hk

/-- Signing does not change the signed bytes (they never include `signatures` or `unsigned`). -/
theorem sign_keeps_signed_bytes (S : SigScheme) (entity : Str) (kp : KeyPair) (obj : Obj)
    (hs : Signable obj entity) :
    signedBytes (signJson S entity kp obj).2 = signedBytes obj := by
  rw [signJson_of_signable S entity kp obj hs, ← canonicalJson_eq_signedBytes,
    ← canonicalJson_eq_signedBytes, canonicalJson_signResult]

/-- Soundness and completeness of `verify_json`, exactly as the code behaves: it returns `Ok` iff
`signatures` is an object and every entity named in it has a signature set that is an object, a key
set in the key map, at least one `ed25519:` signature, and every `ed25519:` signature of it has a
key, is a base64 string of a 64-byte signature, and the scheme accepts it for the 32-byte key over
the canonical JSON of the object without `signatures`/`unsigned`. -/
theorem verify_sound (S : SigScheme) (keys : KeyMap) (obj : Obj) :
    verifyJson S keys obj = .ok () ↔ Verifies S keys obj := by
  rw [verifyJson_ok_iff]
  unfold Verifies
  simp only [entityOk_iff, canonicalJson_eq_signedBytes]
  rfl

/-- `verify_canonical_json_bytes` accepts iff the algorithm is `ed25519`, the key is 32 bytes, the
signature 64 bytes, and the scheme accepts. -/
theorem verify_bytes_spec (S : SigScheme) (alg : Str) (pk sig msg : List Nat) :
    verifyCanonicalJsonBytes S alg pk sig msg = .ok () ↔
      alg = bs "ed25519" ∧ pk.length = 32 ∧ sig.length = 64 ∧ S.verify pk msg sig = true := by
  unfold verifyCanonicalJsonBytes
  by_cases h : alg = bs "ed25519"
  · simp [h, verifyBytes_ok_iff]
  · simp [h]

/-- Changes confined to `unsigned` (setting it to anything, or removing it) do not change the
verdict. -/
theorem verify_ignores_unsigned (S : SigScheme) (keys : KeyMap) (obj : Obj) (u : JVal) :
    verifyJson S keys (Obj.insert obj (bs "unsigned") u) = verifyJson S keys obj ∧
    verifyJson S keys (Obj.erase obj (bs "unsigned")) = verifyJson S keys obj := by
  constructor
  · exact verifyJson_congr S keys _ _ (Obj.get_insert_ne _ _ _ _ sigKey_ne_unsKey)
      (canonicalJson_insert_unsigned obj u)
  · exact verifyJson_congr S keys _ _ (Obj.get_erase_ne _ _ _ sigKey_ne_unsKey)
      (canonicalJson_erase_unsigned obj)

/-- The verdict depends only on the `signatures` field and the signed bytes: two objects that agree
on both get the same verdict (so any difference confined to `unsigned`, or to how the same fields
are ordered before they become a `CanonicalJsonObject` — C01 `normalize_perm` — is invisible). -/
theorem verify_depends_only_on (S : SigScheme) (keys : KeyMap) (obj obj' : Obj)
    (h1 : Obj.get obj (bs "signatures") = Obj.get obj' (bs "signatures"))
    (h2 : signedBytes obj = signedBytes obj') :
    verifyJson S keys obj = verifyJson S keys obj' :=
  verifyJson_congr S keys obj obj' h1
    (by rw [canonicalJson_eq_signedBytes, canonicalJson_eq_signedBytes, h2])

/-- Soundness reduced exactly to the scheme: if `verify_json` accepts `obj'`, then for every
Ed25519 signature entry found in its `signatures`, the key map has a key for it and the scheme
accepts that signature *on the current signed bytes of `obj'`*. So an object whose signed content
was changed after signing is accepted only if the scheme accepts the old signature on the new bytes
(a forgery, excluded by the unforgeability assumption of the trusted base). -/
theorem verify_tamper (S : SigScheme) (keys : KeyMap) (obj' : Obj) (sigs set : Obj) (entity keyId : Str)
    (v : JVal) (h : verifyJson S keys obj' = .ok ())
    (hs : Obj.get obj' (bs "signatures") = some (.obj sigs))
    (he : Obj.get sigs entity = some (.obj set)) (hp : (keyId, v) ∈ set) (hk : IsEd25519KeyId keyId) :
    ∃ pks pk s raw, Obj.get keys entity = some pks ∧ Obj.get pks keyId = some pk ∧ v = .str s ∧
      unb64 s = some raw ∧ S.verify pk (signedBytes obj') raw = true := by
  obtain ⟨sigs', h1, h2⟩ := (verify_sound S keys obj').mp h
  rw [hs] at h1; cases h1
  obtain ⟨set', pks, h3, h4, _, h6⟩ := h2 entity (Obj.mem_keys_of_get _ _ _ he)
  rw [he] at h3; cases h3
  obtain ⟨pk, h7, s, raw, h8, h9, _, _, h12⟩ := h6 (keyId, v) hp hk
  exact ⟨pks, pk, s, raw, h4, h7, h8, h9, h12⟩

/-- The same, spelled out for a signed object: take any `obj'` that carries the `signatures` of
the object `entity` signed (content, `unsigned`, anything else arbitrary). If `verify_json` accepts
`obj'` under the signer's public key, then the scheme accepts the signature made over the ORIGINAL
signed bytes as a signature of the signed bytes of `obj'`. -/
theorem verify_tamper_signed (S : SigScheme) (hS : S.Lawful) (keys : KeyMap) (entity : Str)
    (kp : KeyPair) (obj obj' : Obj) (hsig : Signable obj entity) (hk : HasKey S keys entity kp)
    (hsame : Obj.get obj' (bs "signatures") = Obj.get (signJson S entity kp obj).2 (bs "signatures"))
    (h : verifyJson S keys obj' = .ok ()) :
    S.verify (S.pub kp.secret) (signedBytes obj') (S.sign kp.secret (signedBytes obj)) = true := by
  rw [signJson_of_signable S entity kp obj hsig] at hsame
  obtain ⟨sigs, h1, h2⟩ := (verify_sound S keys obj').mp h
  rw [hsame.trans (get_signResult_sig S entity kp obj)] at h1
  cases h1
  rw [← canonicalJson_eq_signedBytes obj]
  exact entityVerifies_newSignatures S hS keys entity kp obj _ hk
    (h2 entity (Obj.mem_keys_of_get _ _ _ (Obj.get_insert_self _ _ _)))

/-- Contrapositive form: if the scheme rejects the old signature on the new signed bytes, then
`verify_json` rejects the changed object. -/
theorem verify_tamper_rejects (S : SigScheme) (hS : S.Lawful) (keys : KeyMap) (entity : Str)
    (kp : KeyPair) (obj obj' : Obj) (hsig : Signable obj entity) (hk : HasKey S keys entity kp)
    (hsame : Obj.get obj' (bs "signatures") = Obj.get (signJson S entity kp obj).2 (bs "signatures"))
    (hrej : S.verify (S.pub kp.secret) (signedBytes obj') (S.sign kp.secret (signedBytes obj)) = false) :
    verifyJson S keys obj' ≠ .ok () := by
  intro h
  rw [verify_tamper_signed S hS keys entity kp obj obj' hsig hk hsame h] at hrej
  cases hrej

/-! ### Non-vacuity: the hypotheses are satisfiable on concrete inputs -/

/-- A toy scheme satisfying `Lawful` (not secure; it only shows the assumption is consistent). -/
def toy : SigScheme where
  sign k m := List.replicate 64 ((k.sum % 256 + m.sum) % 256)
  pub k := (k.sum % 256) :: List.replicate 31 0
  verify pk m s := s == List.replicate 64 ((pk.sum + m.sum) % 256)

/-- The toy scheme satisfies every law of `SigScheme.Lawful`. Not a property theorem of C02 but a
consistency witness; it is used by the refutations in `Props/C03.lean`, so its axioms are printed
below like those of the property theorems. -/
theorem toy_lawful : toy.Lawful where
  verify_sign k m := by simp [toy]
  pub_len k := by simp [toy]
  sig_len k m := by simp [toy]
  sig_bytes k m b hb := by
    simp only [toy, List.mem_replicate] at hb
    rw [hb.2]; exact Nat.mod_lt _ (by decide)

def exObj : Obj := [(bs "a", .int 1), (bs "unsigned", .obj [(bs "age_ts", .int 5)])]
def exKp : KeyPair := ⟨[1, 2, 3], bs "1"⟩
def exKeys : KeyMap := [(bs "domain", [(bs "ed25519:1", toy.pub [1, 2, 3])])]

/-- `sign_then_verify` / `sign_stores_signature` / `sign_sequence_all_verify`: the hypotheses hold
for this object, key and key map, and the conclusions compute. -/
example : Obj.get exObj (bs "signatures") = none ∧ HasKey toy exKeys (bs "domain") exKp ∧
    Obj.Sorted exObj ∧ Signable exObj (bs "domain") :=
  ⟨by decide +kernel, by decide +kernel, by decide +kernel, .inl (by decide +kernel)⟩

example : (signJson toy (bs "domain") exKp exObj).1 = .ok () ∧
    verifyJson toy exKeys (signJson toy (bs "domain") exKp exObj).2 = .ok () := by
  decide +kernel

/-- `sign_sequence_all_verify`: three signings by two entities (one of them twice, with two key
versions); the key map knows all three keys; every call succeeds and the result verifies. -/
example :
    let steps := [(bs "domain", exKp), (bs "b", ⟨[9], bs "v2"⟩), (bs "domain", ⟨[7, 7], bs "2"⟩)]
    let keys : KeyMap := [(bs "b", [(bs "ed25519:v2", toy.pub [9])]),
      (bs "domain", [(bs "ed25519:1", toy.pub [1, 2, 3]), (bs "ed25519:2", toy.pub [7, 7])])]
    (∀ st ∈ steps, HasKey toy keys st.1 st.2) ∧ (signAll toy steps exObj).1 = .ok () ∧
      verifyJson toy keys (signAll toy steps exObj).2 = .ok () := by
  decide +kernel

/-- `verify_tamper_rejects`: changing `a` from 1 to 2 after signing is rejected (the toy scheme
rejects the old signature on the new bytes). -/
example :
    verifyJson toy exKeys
      (Obj.insert (signJson toy (bs "domain") exKp exObj).2 (bs "a") (.int 2))
    = .error .signatureInvalid := by decide +kernel

/-- `sign_error_atomic` is about a reachable case: this call does fail. -/
example : (signJson toy (bs "domain") exKp [(bs "a", .int 1), (bs "signatures", .int 5)]).1
    = .error .signaturesNotObject := by decide +kernel

/-- F11, machine-checked on the model: without the up-front validation, the body of `sign_json`
(`signCore`, which is what the code before the fix ran) returns an error with `signatures` and
`unsigned` already removed. -/
example :
    signCore toy (bs "d") exKp
      [(bs "a", .int 1), (bs "signatures", .obj [(bs "d", .int 5)]), (bs "unsigned", .obj [])]
      [(bs "d", .int 5)]
    = (.error .signatureSetNotObject, [(bs "a", .int 1)]) := by decide +kernel

#print axioms b64_roundtrip
#print axioms canonical_json_spec
#print axioms sign_ok_iff
#print axioms sign_error_atomic
#print axioms sign_stores_signature
#print axioms sign_preserves_other
#print axioms sign_then_verify
#print axioms sign_sequence_all_verify
#print axioms sign_keeps_signed_bytes
#print axioms verify_sound
#print axioms verify_bytes_spec
#print axioms verify_ignores_unsigned
#print axioms verify_depends_only_on
#print axioms verify_tamper
#print axioms verify_tamper_signed
#print axioms verify_tamper_rejects
#print axioms toy_lawful
end Ruma.Props.C02
