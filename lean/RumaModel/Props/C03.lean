/-
  C03 — Event signatures survive redaction; required signers and hash status are enforced.
  Property theorems only; helper lemmas live in `Lemmas/EventSign.lean`.

  Reading guide. `hashAndSignEvent S sha256 entity kp e rr` and `verifyEvent S sha256 x keys e rr sr`
  are the models of `hash_and_sign_event` / `verify_event` (`Model/EventSign.lean`), built on C02
  (`signJson`, `verifyEntities`, `canonicalJson`), C04 (`redact`) and C05 (`contentHash`).
  Parameters of every theorem, never axioms: the signature scheme `S` (assumption `S.Lawful`:
  a signature verifies under the matching public key), `sha256` (assumption where needed: digests
  are byte strings; no collision on the two inputs at hand), `x : Ids.Ext` (`Ipv6Addr` parsing).
  `Valid S sha256 keys rr e` is the state signing establishes: `hashes.sha256` is the content hash
  and every entity in `signatures` passes the per-entity check over the redacted canonical JSON.
  `Required v e s` is the specification's three-clause "server `s` must have signed `e`"
  (`Spec/EventSign.lean`); `EntityVerifies` is C02's specification of the per-entity check.
-/
import RumaModel.Lemmas.EventSign
import RumaModel.Lemmas.EventSignSize
import RumaModel.Lemmas.EventSignCopy
import RumaModel.Lemmas.EventSignCopyTpi
import RumaModel.Lemmas.EventSignChain
import RumaModel.Lemmas.EventSignExamples
import RumaModel.Props.C02
import RumaModel.Generated.C03
namespace Ruma.Props.C03
open Ruma Ruma.Sign Ruma.Redact Ruma.EventSign Ruma.Spec.EventSign Ruma.Spec.Redaction
open Ruma.Spec.Sign (EntityVerifies Signable signaturesOf)

/-! ### T1: rules tables -/

/-- T1: `SignaturesRules` reached through `RoomVersionId::rules()` for versions 1–11 (extracted on
this run): the event-ID server is checked iff v ≤ 2, the authorising user's server iff v ≥ 8. -/
theorem signatures_table_eq_spec :
    Generated.C03.signaturesTable = versions.map (fun v => (v, sigRulesOf v)) := by decide

/-- T1: the redaction rules `verify_event` and callers of `hash_and_sign_event` obtain from the
same `RoomVersionRules` are the spec's, versions 1–11. -/
theorem redaction_table_eq_spec :
    Generated.C03.redactionTable = versions.map (fun v => (v, rulesOf v)) := by decide +kernel

/-! ### Which servers must have signed -/

/-- **`servers_spec`**: for every room version number, every event on which server selection
succeeds: the servers whose signatures `verify_event` demands are exactly those the specification
demands — the sender's server unless the event is an invite created from a third-party invite, the
event-ID's server iff v ≤ 2, the authorising user's server iff v ≥ 8 and the field is present — and
they form a set. -/
theorem servers_spec (x : Ids.Ext) (v : Nat) (e : Obj) (l : List Str)
    (h : serversToCheck x e (sigRulesOf v) = .ok l) :
    (∀ s, s ∈ l ↔ Required v e s) ∧ l.Pairwise (· < ·) := by
  unfold serversToCheck at h
  split at h
  · cases h
  rename_i s1 h1
  split at h
  · cases h
  rename_i s2 h2
  obtain ⟨m1, p1⟩ := senderStep_ok x e [] s1 h1
  obtain ⟨m2, p2⟩ := eventIdStep_ok x e _ s1 s2 h2
  obtain ⟨m3, p3⟩ := authorisedStep_ok x e _ s2 l h
  refine ⟨fun s => ?_, p3 (p2 (p1 .nil))⟩
  rw [m3, m2, m1, or_assoc, or_assoc]
  exact or_iff_right (List.not_mem_nil (a := s))

/-! ### Signing -/

/-- The `unwrap()` in `hash_and_sign_event` is unreachable. -/
theorem sign_no_panic (S : SigScheme) (sha256 : List Nat → List Nat) (entity : Str) (kp : KeyPair)
    (e : Obj) (rr : Rules) : (hashAndSignEvent S sha256 entity kp e rr).1 ≠ .error .panic :=
  hashAndSign_no_panic S sha256 entity kp e rr

/-- What a successful `hash_and_sign_event` leaves behind: `hashes.sha256` holds the unpadded
standard-base64 content hash of the event (the content hash is the same before and after, C05), and
`signatures` is the redacted event's signature object extended by the signer's signature over the
canonical JSON of the redacted, hashed event. -/
theorem sign_stores_hash_and_signature (S : SigScheme) (sha256 : List Nat → List Nat) (entity : Str)
    (kp : KeyPair) (e e' : Obj) (rr : Rules)
    (h : hashAndSignEvent S sha256 entity kp e rr = (.ok (), e')) :
    ∃ hash red, Hash.contentHash sha256 e = .ok hash ∧ Hash.contentHash sha256 e' = .ok hash ∧
      storedHash e' = .ok (b64 hash) ∧
      Obj.get e' sigKey = some (.obj (newSignatures S entity kp red)) ∧
      signedBytesOf rr e' = .ok (canonicalJson red) := by
  obtain ⟨hash, hashes, red, hch, _, hred, _, rfl⟩ := hashAndSign_ok S sha256 entity kp e e' rr h
  obtain ⟨red', hred', hcj⟩ := redact_insert_sig rr _ red (.obj (newSignatures S entity kp red)) hred
  refine ⟨hash, red, hch, ?_, ?_, Obj.get_insert_self _ _ _, ?_⟩
  · rw [withHash, contentHash_insert_hashes_sig, hch]
  · simp only [storedHash, Obj.get_insert_ne _ _ _ _ hashesKey_ne_sigKey, withHash,
      Obj.get_insert_self]
  · simp only [signedBytesOf, hred', Except.map, hcj]

/-! ### Sign, then verify -/

/-- **`verify_after_sign`**: take any event without `signatures`, hash and sign it (any entity, any
key, any redaction rules). If the key map holds the signer's public key and the signer is the only
server the version demands for the signed event, `verify_event` reports `All`: signatures and
content hash valid. (More signers: `verify_after_sign_valid` below.) -/
theorem verify_after_sign (S : SigScheme) (hS : S.Lawful) (sha256 : List Nat → List Nat)
    (hsha : ∀ m, ∀ b ∈ sha256 m, b < 256) (x : Ids.Ext) (keys : KeyMap) (entity : Str) (kp : KeyPair)
    (e e' : Obj) (rr : Rules) (sr : SigRules)
    (hfresh : Obj.get e sigKey = none)
    (hsign : hashAndSignEvent S sha256 entity kp e rr = (.ok (), e'))
    (hk : HasKey S keys entity kp)
    (servers : List Str) (hsrv : serversToCheck x e' sr = .ok servers)
    (honly : ∀ s ∈ servers, s = entity) :
    verifyEvent S sha256 x keys e' rr sr = .ok .all := by
  obtain ⟨hv, _⟩ := valid_after_sign S hS sha256 keys entity kp e e' rr hsign hk (Or.inl hfresh)
  exact valid_verifies S sha256 hsha x keys e' rr sr hv servers hsrv fun s hs =>
    honly s hs ▸ hashAndSign_signer S sha256 entity kp e e' rr hsign

/-- The general form, for any number of signers: signing keeps an event valid (all entities named
in `signatures` pass their check over the redacted bytes; stored hash = content hash) provided the
event was fresh or its redacted, hashed form verified before; and a valid event whose required
servers all appear in `signatures` verifies as `All`. -/
theorem verify_after_sign_valid (S : SigScheme) (hS : S.Lawful) (sha256 : List Nat → List Nat)
    (hsha : ∀ m, ∀ b ∈ sha256 m, b < 256) (x : Ids.Ext) (keys : KeyMap) (entity : Str) (kp : KeyPair)
    (e e' : Obj) (rr : Rules) (sr : SigRules)
    (hsign : hashAndSignEvent S sha256 entity kp e rr = (.ok (), e'))
    (hk : HasKey S keys entity kp)
    (h0 : Obj.get e sigKey = none ∨
      ∀ hashes hash red, redact rr (withHash e hashes hash) none = .ok red →
        Hash.contentHash sha256 e = .ok hash →
        ((Obj.get e hashesKey = none ∧ hashes = []) ∨ Obj.get e hashesKey = some (.obj hashes)) →
        verifyJson S keys red = .ok ()) :
    Valid S sha256 keys rr e' ∧
    ∀ servers, serversToCheck x e' sr = .ok servers →
      (∀ s ∈ servers, ∃ sigs, Obj.get e' sigKey = some (.obj sigs) ∧ s ∈ Obj.keys sigs) →
      verifyEvent S sha256 x keys e' rr sr = .ok .all := by
  obtain ⟨hv, _⟩ := valid_after_sign S hS sha256 keys entity kp e e' rr hsign hk h0
  exact ⟨hv, fun servers hsrv hcov => valid_verifies S sha256 hsha x keys e' rr sr hv servers hsrv hcov⟩

/-- **`verify_after_sign`, any signer set**: take a fresh event (a `BTreeMap` without `signatures`)
and let any non-empty list of servers hash and sign it one after the other (`signAllEvents`: each
step is `hash_and_sign_event` on the previous result). If all steps succeed, every signer's public key
is in the key map, and every server the version demands of the final event is one of the signers,
then `verify_event` reports `All`. Induction over the list; the content hash is the same at every
step (C05: it ignores `hashes` and `signatures`) and the redacted bytes never include `signatures`. -/
theorem verify_after_sign_chain (S : SigScheme) (hS : S.Lawful) (sha256 : List Nat → List Nat)
    (hsha : ∀ m, ∀ b ∈ sha256 m, b < 256) (x : Ids.Ext) (keys : KeyMap) (rr : Rules) (sr : SigRules)
    (steps : List (Str × KeyPair)) (e e' : Obj) (hne : steps ≠ [])
    (hfresh : FreshSorted e)
    (hk : ∀ st ∈ steps, HasKey S keys st.1 st.2)
    (hrun : signAllEvents S sha256 rr steps e = (.ok (), e'))
    (servers : List Str) (hsrv : serversToCheck x e' sr = .ok servers)
    (hcov : ∀ s ∈ servers, ∃ st ∈ steps, st.1 = s) :
    verifyEvent S sha256 x keys e' rr sr = .ok .all := by
  obtain ⟨⟨hv, _, _⟩, sigs, hs, hm, _⟩ :=
    signAll_validSorted S hS sha256 keys rr steps e e' hk (.inl ⟨hfresh, hne⟩) hrun
  refine valid_verifies S sha256 hsha x keys e' rr sr hv servers hsrv fun s hs' => ?_
  obtain ⟨st, hst, rfl⟩ := hcov s hs'
  exact ⟨sigs, hs, hm st hst⟩

/-! ### Redacted copies -/

/-- **`verify_redacted_copy`, general form**: the redacted copy (same rules) of a valid event — in particular of
any event just hashed and signed — verifies with valid signatures (`All` or `Signatures`, never an
error), whenever the servers the version demands *of the redacted copy* all appear in `signatures`.
Uses C04's `redact_idempotent`: the signed bytes of the copy are those of the original.
The side condition is discharged by `servers_of_redacted_copy_same_tpi` below except for invites
created from a third-party invite whose redacted copy no longer is one (finding recorded in
`findings/C03.json`). -/
theorem verify_redacted_copy_of_covered (S : SigScheme) (sha256 : List Nat → List Nat) (x : Ids.Ext)
    (keys : KeyMap) (e' red : Obj) (rr : Rules) (sr : SigRules)
    (hs : Obj.Sorted e') (hv : Valid S sha256 keys rr e') (hred : redact rr e' none = .ok red)
    (servers : List Str) (hsrv : serversToCheck x red sr = .ok servers)
    (hcov : ∀ s ∈ servers, ∃ sigs, Obj.get e' sigKey = some (.obj sigs) ∧ s ∈ Obj.keys sigs) :
    ∃ r, verifyEvent S sha256 x keys red rr sr = .ok r := by
  have ⟨hash, _, _, _, hch, _⟩ := hv
  obtain ⟨calcd, hcalc⟩ := contentHash_redacted_ok sha256 rr e' red hash hs hred hch
  exact ⟨_, verifyEvent_of_valid S sha256 x keys e' red rr sr hv hash hch
    ((Props.C04.redact_idempotent rr e' red hred).trans hred.symm) servers hsrv hcov calcd hcalc⟩

/-- If the redacted copy is an invite created from a third-party invite whenever the original is one
(`h3`; the copy can never *become* one), every server the version demands of the redacted copy is
demanded of the original as well (the copy keeps `sender` and `event_id`;
`content.join_authorised_via_users_server` can only disappear). -/
theorem servers_of_redacted_copy_same_tpi (x : Ids.Ext) (v : Nat) (e red : Obj) (l l' : List Str)
    (hred : redact (rulesOf v) e none = .ok red)
    (h3 : isThirdPartyInvite red = false → isThirdPartyInvite e = false)
    (hl : serversToCheck x e (sigRulesOf v) = .ok l)
    (hl' : serversToCheck x red (sigRulesOf v) = .ok l') :
    ∀ s ∈ l', s ∈ l := by
  intro s hs
  rw [(servers_spec x v e l hl).1]
  have hr := ((servers_spec x v red l' hl').1 s).mp hs
  obtain ⟨hty, hse, hei, _, _⟩ := serversToCheck_redact_fields (rulesOf v) e red hred
  rcases hr with ⟨h3r, u, hu, hsp⟩ | ⟨hc, i, hi, hsp⟩ | ⟨hc, c, a, hcc, ha, hsp⟩
  · exact Or.inl ⟨h3 h3r, u, by rw [← hse]; exact hu, hsp⟩
  · exact Or.inr (Or.inl ⟨hc, i, by rw [← hei]; exact hi, hsp⟩)
  · rcases authorisedField_redacted (rulesOf v) e red hred with hn | heq
    · rw [(authorisedField_some red _).mpr ⟨c, hcc, ha⟩] at hn; cases hn
    · obtain ⟨c0, hc0, ha0⟩ := (authorisedField_some e (.str a)).mp
        (heq ▸ (authorisedField_some red _).mpr ⟨c, hcc, ha⟩)
      exact Or.inr (Or.inr ⟨hc, c0, a, hc0, ha0, hsp⟩)

/-- In particular for an event that is *not* an invite created from a third-party invite. -/
theorem servers_of_redacted_copy (x : Ids.Ext) (v : Nat) (e red : Obj) (l l' : List Str)
    (hred : redact (rulesOf v) e none = .ok red)
    (h3 : isThirdPartyInvite e = false)
    (hl : serversToCheck x e (sigRulesOf v) = .ok l)
    (hl' : serversToCheck x red (sigRulesOf v) = .ok l') :
    ∀ s ∈ l', s ∈ l :=
  servers_of_redacted_copy_same_tpi x v e red l l' hred (fun _ => h3) hl hl'

/-! ### `unsigned` -/

/-- **`verify_ignores_unsigned`**: setting `unsigned` to anything, or removing it, changes nothing in
the outcome of `verify_event` (value or error). -/
theorem verify_ignores_unsigned (S : SigScheme) (sha256 : List Nat → List Nat) (x : Ids.Ext)
    (keys : KeyMap) (o : Obj) (rr : Rules) (sr : SigRules) (u : JVal) :
    verifyEvent S sha256 x keys (Obj.insert o unsKey u) rr sr = verifyEvent S sha256 x keys o rr sr ∧
    verifyEvent S sha256 x keys (Obj.erase o unsKey) rr sr = verifyEvent S sha256 x keys o rr sr := by
  have hne : ∀ k ∈ readFields, k ≠ unsKey := by decide +kernel
  have hch := (Props.C05.hash_ignores_set_or_delete sha256 rr .v1 o unsKey u).1 (.head _)
  exact ⟨verifyEvent_congr S sha256 x keys rr sr _ o (signedBytesOf_insert rr o unsKey u (.inr rfl))
      (fun k hk => Obj.get_insert_ne _ _ _ _ (hne k hk)) hch.1,
    verifyEvent_congr S sha256 x keys rr sr _ o (signedBytesOf_erase rr o unsKey (.inr rfl))
      (fun k hk => Obj.get_erase_ne _ _ _ (hne k hk)) hch.2⟩

/-! ### Every required server -/

/-- **`verify_needs_every_server`**: whenever `verify_event` returns `Ok` (either verdict), *every*
server the room version demands has, in the event's `signatures`, a signature set that passes C02's
per-entity check (key set known, at least one Ed25519 signature, every Ed25519 signature valid) over
the canonical JSON of the redacted event. -/
theorem verify_needs_every_server (S : SigScheme) (sha256 : List Nat → List Nat) (x : Ids.Ext)
    (keys : KeyMap) (o : Obj) (rr : Rules) (sr : SigRules) (r : Verified)
    (h : verifyEvent S sha256 x keys o rr sr = .ok r) :
    ∃ red sigs servers, redact rr o none = .ok red ∧ Obj.get o sigKey = some (.obj sigs) ∧
      serversToCheck x o sr = .ok servers ∧
      ∀ s ∈ servers, EntityVerifies S keys sigs (canonicalJson red) s := by
  obtain ⟨red, _, sigs, servers, _, h1, _, h3, h4, h5, _, _⟩ := (verifyEvent_ok_iff _ _ _ _ _ _ _ _).mp h
  exact ⟨red, sigs, servers, h1, h3, h4, fun s hs => (entityOk_iff S keys sigs _ s).mp (h5 s hs)⟩

/-- One missing or failing required server makes verification fail: if some demanded server has no
entry in `signatures`, or its entry does not pass the check, `verify_event` returns an error. -/
theorem verify_fails_without_server (S : SigScheme) (sha256 : List Nat → List Nat) (x : Ids.Ext)
    (keys : KeyMap) (o red sigs : Obj) (rr : Rules) (sr : SigRules) (servers : List Str) (s : Str)
    (hred : redact rr o none = .ok red) (hsig : Obj.get o sigKey = some (.obj sigs))
    (hsrv : serversToCheck x o sr = .ok servers) (hs : s ∈ servers)
    (hbad : Obj.get sigs s = none ∨ Obj.get keys s = none ∨
      ¬ EntityVerifies S keys sigs (canonicalJson red) s) :
    ∃ err, verifyEvent S sha256 x keys o rr sr = .error err := by
  cases hres : verifyEvent S sha256 x keys o rr sr with
  | error err => exact ⟨err, rfl⟩
  | ok r =>
    exfalso
    obtain ⟨red', sigs', servers', h1, h2, h3, h4⟩ :=
      verify_needs_every_server S sha256 x keys o rr sr r hres
    rw [hred] at h1; injection h1 with h1; subst h1
    rw [hsig] at h2; injection h2 with h2; injection h2 with h2; subst h2
    rw [hsrv] at h3; injection h3 with h3; subst h3
    have hv := h4 s hs
    rcases hbad with hb | hb | hb
    · obtain ⟨set, pks, h5, _⟩ := hv; rw [hb] at h5; cases h5
    · obtain ⟨set, pks, _, h6, _⟩ := hv; rw [hb] at h6; cases h6
    · exact hb hv

/-! ### Mutations after signing -/

/-- **`verify_strip_mutation`**: start from a valid event `e'` and change it into `e''` by touching
only what redaction strips (same redacted event) without changing which servers are demanded. If the
change is covered by the content hash (different hashed bytes, still within the size limit) then —
under the recorded assumption that SHA-256 does not collide on these two byte strings — the verdict
is downgraded to `Signatures`. -/
theorem verify_strip_mutation (S : SigScheme) (sha256 : List Nat → List Nat)
    (hsha : ∀ m, ∀ b ∈ sha256 m, b < 256) (x : Ids.Ext) (keys : KeyMap) (e' e'' : Obj) (rr : Rules)
    (sr : SigRules) (hv : Valid S sha256 keys rr e')
    (hsame : redact rr e'' none = redact rr e' none)
    (servers : List Str) (hsrv : serversToCheck x e'' sr = .ok servers)
    (hcov : ∀ s ∈ servers, ∃ sigs, Obj.get e' sigKey = some (.obj sigs) ∧ s ∈ Obj.keys sigs)
    (hpre : Spec.Hash.contentPreimage e'' ≠ Spec.Hash.contentPreimage e')
    (hsize : (Spec.Hash.contentPreimage e'').length ≤ 65535)
    (hnc : sha256 (Spec.Hash.contentPreimage e'') = sha256 (Spec.Hash.contentPreimage e') →
           Spec.Hash.contentPreimage e'' = Spec.Hash.contentPreimage e') :
    verifyEvent S sha256 x keys e'' rr sr = .ok .signatures := by
  have ⟨hash, _, _, _, hch, _⟩ := hv
  have hcalc : Hash.contentHash sha256 e'' = .ok (sha256 (Spec.Hash.contentPreimage e'')) := by
    rw [Props.C05.content_hash_def, if_neg (by simp only [Spec.Hash.maxPdu]; omega)]
  have hhash := contentHash_ok sha256 e' hash hch
  rw [verifyEvent_of_valid S sha256 x keys e' e'' rr sr hv hash hch hsame servers hsrv hcov _ hcalc,
    unb64_b64 hash (hhash ▸ hsha _), if_neg]
  intro heq
  rw [hhash] at heq
  exact hpre (hnc (Option.some.inj heq).symm)

/-- **`verify_kept_mutation`, proven part**, reduced to the scheme exactly as in C02. It is
`_partial` because of the hypothesis `hmem : entity ∈ servers`: it speaks only about a signer whose
signature `verify_event` demands of the *changed* event. The full sentence of the property
(`VerifyKeptMutationStatement` below) is false: `verify_kept_mutation_statement_false` (of an invite
created from a third-party invite no signature at all is demanded from room version 3 on; finding in
`findings/C03.json`). Let `e'` be an event
hashed and signed by `entity`, and let `e''` be *any* event that still carries `e'`'s `signatures`
and for which `entity` is among the demanded servers. If `verify_event` accepts `e''` (either
verdict), then the scheme accepts the signature made over the redacted bytes of `e'` as a signature
of the redacted bytes of `e''`. When a field that redaction keeps was changed these byte strings
differ, so acceptance would be a forgery — excluded by the unforgeability assumption of the trusted
base, which is not proven here. -/
theorem verify_kept_mutation_partial (S : SigScheme) (hS : S.Lawful) (sha256 : List Nat → List Nat)
    (x : Ids.Ext) (keys : KeyMap) (entity : Str) (kp : KeyPair) (e e' e'' red' red'' : Obj)
    (rr : Rules) (sr : SigRules) (r : Verified)
    (hsign : hashAndSignEvent S sha256 entity kp e rr = (.ok (), e'))
    (hk : HasKey S keys entity kp)
    (hsigs : Obj.get e'' sigKey = Obj.get e' sigKey)
    (hred' : redact rr e' none = .ok red') (hred'' : redact rr e'' none = .ok red'')
    (servers : List Str) (hsrv : serversToCheck x e'' sr = .ok servers) (hmem : entity ∈ servers)
    (hok : verifyEvent S sha256 x keys e'' rr sr = .ok r) :
    S.verify (S.pub kp.secret) (canonicalJson red'') (S.sign kp.secret (canonicalJson red')) = true := by
  obtain ⟨_, red0, _, _, _, hsig', hsb⟩ :=
    sign_stores_hash_and_signature S sha256 entity kp e e' rr hsign
  rw [signedBytesOf, hred'] at hsb
  injection hsb with hsb
  obtain ⟨red2, sigs, servers2, h1, h2, h3, h4⟩ :=
    verify_needs_every_server S sha256 x keys e'' rr sr r hok
  rw [hred''] at h1
  rw [hsigs, hsig'] at h2
  rw [hsrv] at h3
  cases h1
  cases h2
  cases h3
  rw [hsb]
  exact entityVerifies_newSignatures S hS keys entity kp red0 _ hk (h4 entity hmem)

/-- Contrapositive: if the scheme rejects the old signature on the new redacted bytes, the changed
event fails verification — again only when the signer is among the servers demanded of the changed
event (`hmem`), hence `_partial`. -/
theorem verify_kept_mutation_rejects_partial (S : SigScheme) (hS : S.Lawful) (sha256 : List Nat → List Nat)
    (x : Ids.Ext) (keys : KeyMap) (entity : Str) (kp : KeyPair) (e e' e'' red' red'' : Obj)
    (rr : Rules) (sr : SigRules)
    (hsign : hashAndSignEvent S sha256 entity kp e rr = (.ok (), e'))
    (hk : HasKey S keys entity kp)
    (hsigs : Obj.get e'' sigKey = Obj.get e' sigKey)
    (hred' : redact rr e' none = .ok red') (hred'' : redact rr e'' none = .ok red'')
    (servers : List Str) (hsrv : serversToCheck x e'' sr = .ok servers) (hmem : entity ∈ servers)
    (hrej : S.verify (S.pub kp.secret) (canonicalJson red'') (S.sign kp.secret (canonicalJson red')) = false) :
    ∃ err, verifyEvent S sha256 x keys e'' rr sr = .error err := by
  cases hres : verifyEvent S sha256 x keys e'' rr sr with
  | error err => exact ⟨err, rfl⟩
  | ok r =>
    have := verify_kept_mutation_partial S hS sha256 x keys entity kp e e' e'' red' red'' rr sr r hsign
      hk hsigs hred' hred'' servers hsrv hmem hres
    rw [this] at hrej; cases hrej

/-! ### The kept-field clause at full strength and its counterexample -/

/-- The property's sentence "changing a field that redaction keeps makes verification fail" at full
strength, with the scheme rejecting the old signature on the new bytes as a hypothesis (so that the
statement does not depend on unforgeability): for every event hashed and signed so that it verifies. -/
def VerifyKeptMutationStatement : Prop :=
  ∀ (S : SigScheme), S.Lawful → ∀ (sha256 : List Nat → List Nat) (x : Ids.Ext) (keys : KeyMap)
    (entity : Str) (kp : KeyPair) (e e' e'' red' red'' : Obj) (v : Nat),
    Obj.get e sigKey = none →
    hashAndSignEvent S sha256 entity kp e (rulesOf v) = (.ok (), e') →
    HasKey S keys entity kp →
    verifyEvent S sha256 x keys e' (rulesOf v) (sigRulesOf v) = .ok .all →
    Obj.get e'' sigKey = Obj.get e' sigKey →
    redact (rulesOf v) e' none = .ok red' → redact (rulesOf v) e'' none = .ok red'' →
    S.verify (S.pub kp.secret) (canonicalJson red'') (S.sign kp.secret (canonicalJson red')) = false →
    ∃ err, verifyEvent S sha256 x keys e'' (rulesOf v) (sigRulesOf v) = .error err

/-- **Negation witness** (second finding in `findings/C03.json`): of an invite created from a
third-party invite no server's signature is demanded from room version 3 on (the sender's server is
exempt and there is no event-ID server), so `verify_event` looks at no signature at all: changing
`state_key` — kept by redaction, covered by the signature — leaves the result `Ok(Signatures)`.
`verify_kept_mutation_partial` above is the proven part: it speaks about servers that *are* demanded
of the changed event. -/
theorem verify_kept_mutation_statement_false : ¬ VerifyKeptMutationStatement := by
  intro h
  obtain ⟨hfresh, hk, _, ⟨hsign, _, _, _, _, _, _, _, hall, hred, _⟩, hsigs, hred'', hrej, hok⟩ :=
    Ex.invite_computed
  obtain ⟨err, herr⟩ := h Props.C02.toy Props.C02.toy_lawful Ex.sha Ex.ext Ex.keysB (bs "b") Ex.kp
    Ex.thirdPartyInvite _ _ _ _ 11 hfresh hsign hk hall hsigs hred hred'' hrej
  rw [hok] at herr
  cases herr

/-! ### The redacted-copy clause at full strength, its counterexample, and the proven part -/

/-- The property's sentence "verifying any redacted copy (same room version) still reports valid
signatures" at full strength: for every event hashed and signed so that it verifies as `All`. -/
def VerifyRedactedCopyStatement : Prop :=
  ∀ (S : SigScheme), S.Lawful → ∀ (sha256 : List Nat → List Nat), (∀ m, ∀ b ∈ sha256 m, b < 256) →
  ∀ (x : Ids.Ext) (keys : KeyMap) (entity : Str) (kp : KeyPair) (e e' red : Obj) (v : Nat),
    Obj.get e sigKey = none →
    hashAndSignEvent S sha256 entity kp e (rulesOf v) = (.ok (), e') →
    HasKey S keys entity kp → Obj.Sorted e' →
    verifyEvent S sha256 x keys e' (rulesOf v) (sigRulesOf v) = .ok .all →
    redact (rulesOf v) e' none = .ok red →
    ∃ r, verifyEvent S sha256 x keys red (rulesOf v) (sigRulesOf v) = .ok r

/-- **Negation witness** (finding recorded in `findings/C03.json`): in room version 10 an invite
created from a third-party invite, signed by the invited user's server only — all the version
demands — verifies as `All`; its redacted copy has lost `content.third_party_invite` (versions 1–10
strip it), is no longer recognised as a third-party invite, and fails for want of a signature of the
sender's server. Room version 11 keeps `third_party_invite.signed` for exactly this reason. -/
theorem verify_redacted_copy_statement_false : ¬ VerifyRedactedCopyStatement := by
  intro h
  obtain ⟨hfresh, hk, ⟨hsign, hsorted, hall, hred, hfail⟩, _⟩ := Ex.invite_computed
  obtain ⟨r, hr⟩ := h Props.C02.toy Props.C02.toy_lawful Ex.sha Ex.sha_bytes Ex.ext Ex.keysB (bs "b")
    Ex.kp Ex.thirdPartyInvite _ _ 10 hfresh hsign hk hsorted hall hred
  rw [hfail] at hr
  cases hr

/-- **`verify_redacted_copy`, proven part.** The exclusion `h3` is the class the counterexample
lives in: invites created from a third-party invite whose redacted copy is no longer recognised as
one (the copy can never *become* one). That class is: every such invite in room versions 1–10
(redaction strips `content.third_party_invite`), and in version 11 those whose
`third_party_invite` has no `signed` member (`verify_redacted_copy_v11_tpi` below proves the
version 11 case with `signed`; `verify_redacted_copy_not_tpi` the case of all other events).
Take a fresh event, hash and sign it with the room version's redaction rules; if the signer is the
only server the version demands and the copy is a third-party invite iff the event is, then the
redacted copy verifies with valid signatures — `All` or `Signatures`, never an error. Every room
version number, every event, every key. -/
theorem verify_redacted_copy_partial (S : SigScheme) (hS : S.Lawful) (sha256 : List Nat → List Nat)
    (x : Ids.Ext) (keys : KeyMap) (entity : Str) (kp : KeyPair) (e e' red : Obj) (v : Nat)
    (hfresh : Obj.get e sigKey = none)
    (hsign : hashAndSignEvent S sha256 entity kp e (rulesOf v) = (.ok (), e'))
    (hk : HasKey S keys entity kp) (hs : Obj.Sorted e')
    (servers : List Str) (hsrv : serversToCheck x e' (sigRulesOf v) = .ok servers)
    (honly : ∀ s ∈ servers, s = entity)
    (hred : redact (rulesOf v) e' none = .ok red)
    (h3 : isThirdPartyInvite red = isThirdPartyInvite e') :
    ∃ r, verifyEvent S sha256 x keys red (rulesOf v) (sigRulesOf v) = .ok r := by
  obtain ⟨servers', hsrv'⟩ :=
    serversToCheck_redacted_ok_same x (rulesOf v) (sigRulesOf v) e' red servers hred h3 hsrv
  obtain ⟨hv, _⟩ :=
    valid_after_sign S hS sha256 keys entity kp e e' (rulesOf v) hsign hk (Or.inl hfresh)
  refine verify_redacted_copy_of_covered S sha256 x keys e' red (rulesOf v) (sigRulesOf v) hs hv hred
    servers' hsrv' fun s hs' => ?_
  -- a server demanded of the copy is demanded of the event, so it is the signer
  have hmem := servers_of_redacted_copy_same_tpi x v e' red servers servers' hred (fun h => h3 ▸ h)
    hsrv hsrv' s hs'
  rw [honly s hmem]
  exact hashAndSign_signer S sha256 entity kp e e' (rulesOf v) hsign

/-- The case of every event that is *not* an invite created from a third-party invite, in every
room version. -/
theorem verify_redacted_copy_not_tpi (S : SigScheme) (hS : S.Lawful) (sha256 : List Nat → List Nat)
    (x : Ids.Ext) (keys : KeyMap) (entity : Str) (kp : KeyPair) (e e' red : Obj) (v : Nat)
    (hfresh : Obj.get e sigKey = none)
    (hsign : hashAndSignEvent S sha256 entity kp e (rulesOf v) = (.ok (), e'))
    (hk : HasKey S keys entity kp) (hs : Obj.Sorted e')
    (h3 : isThirdPartyInvite e' = false)
    (servers : List Str) (hsrv : serversToCheck x e' (sigRulesOf v) = .ok servers)
    (honly : ∀ s ∈ servers, s = entity)
    (hred : redact (rulesOf v) e' none = .ok red) :
    ∃ r, verifyEvent S sha256 x keys red (rulesOf v) (sigRulesOf v) = .ok r :=
  verify_redacted_copy_partial S hS sha256 x keys entity kp e e' red v hfresh hsign hk hs servers hsrv
    honly hred
    (by rw [h3]; exact isThirdPartyInvite_redacted_false x (rulesOf v) (sigRulesOf v) e' red servers hred h3 hsrv)

/-- **Room version 11** (every version whose rules keep `third_party_invite.signed`): the redacted
copy of a hashed-and-signed invite created from a third-party invite *with* a `signed` member
verifies with valid signatures — the situation the version 11 change of the redaction algorithm was
made for, and the complement (within version 11) of the counterexample's class. -/
theorem verify_redacted_copy_v11_tpi (S : SigScheme) (hS : S.Lawful) (sha256 : List Nat → List Nat)
    (x : Ids.Ext) (keys : KeyMap) (entity : Str) (kp : KeyPair) (e e' red c tpi : Obj) (sg : JVal) (v : Nat)
    (hfresh : Obj.get e sigKey = none)
    (hsign : hashAndSignEvent S sha256 entity kp e (rulesOf v) = (.ok (), e'))
    (hk : HasKey S keys entity kp) (hs : Obj.Sorted e')
    (hkeep : (rulesOf v).keepMemberTpiSigned = true)
    (h3 : isThirdPartyInvite e' = true)
    (hc : Obj.get e' (bs "content") = some (.obj c))
    (ht : Obj.get c (bs "third_party_invite") = some (.obj tpi))
    (hsg : Obj.get tpi (bs "signed") = some sg)
    (servers : List Str) (hsrv : serversToCheck x e' (sigRulesOf v) = .ok servers)
    (honly : ∀ s ∈ servers, s = entity)
    (hred : redact (rulesOf v) e' none = .ok red) :
    ∃ r, verifyEvent S sha256 x keys red (rulesOf v) (sigRulesOf v) = .ok r :=
  verify_redacted_copy_partial S hS sha256 x keys entity kp e e' red v hfresh hsign hk hs servers hsrv
    honly hred
    (by rw [h3]; exact isThirdPartyInvite_redacted_keep (rulesOf v) e' red c tpi sg hred hkeep h3 hc ht hsg)

/-! ### Non-vacuity -/

set_option maxRecDepth 8192 in
/-- The hypotheses of `verify_after_sign`, `verify_redacted_copy_partial` (`_not_tpi`), `verify_ignores_unsigned`
hold on a concrete message event with a lawful (toy) scheme, and the conclusions compute: signing
succeeds, the only demanded server is the signer, the signed event verifies as `All`, its redacted
copy as `Signatures`. -/
example : ∃ e' red,
    hashAndSignEvent Props.C02.toy Ex.sha (bs "s") Ex.kp Ex.message (rulesOf 10) = (.ok (), e') ∧
    Obj.get Ex.message sigKey = none ∧ HasKey Props.C02.toy Ex.keysS (bs "s") Ex.kp ∧
    isThirdPartyInvite e' = false ∧
    serversToCheck Ex.ext e' (sigRulesOf 10) = .ok [bs "s"] ∧
    verifyEvent Props.C02.toy Ex.sha Ex.ext Ex.keysS e' (rulesOf 10) (sigRulesOf 10) = .ok .all ∧
    redact (rulesOf 10) e' none = .ok red ∧
    serversToCheck Ex.ext red (sigRulesOf 10) = .ok [bs "s"] ∧
    verifyEvent Props.C02.toy Ex.sha Ex.ext Ex.keysS red (rulesOf 10) (sigRulesOf 10) = .ok .signatures :=
  have ⟨hsign, hfresh, hk, htpi, hsrv, hall, hred, hsrv', hsig, _⟩ := Ex.message_computed.1
  ⟨_, _, hsign, hfresh, hk, htpi, hsrv, hall, hred, hsrv', hsig⟩

set_option maxRecDepth 8192 in
/-- `verify_after_sign_chain`: two signers on the message event — hypotheses hold, conclusion computes. -/
example : ∃ e',
    FreshSorted Ex.message ∧
    signAllEvents Props.C02.toy Ex.sha (rulesOf 10) [(bs "t", Ex.kp), (bs "s", Ex.kp)] Ex.message = (.ok (), e') ∧
    serversToCheck Ex.ext e' (sigRulesOf 10) = .ok [bs "s"] ∧
    verifyEvent Props.C02.toy Ex.sha Ex.ext (Ex.keysS ++ [(bs "t", [(bs "ed25519:1", Props.C02.toy.pub [1, 2, 3])])])
      e' (rulesOf 10) (sigRulesOf 10) = .ok .all :=
  have ⟨_, _, _, _, _, _, hrun, hsrv, hall⟩ := Ex.message_computed.2.2.2
  ⟨_, Ex.freshSorted_message, hrun, hsrv, hall⟩

set_option maxRecDepth 8192 in
/-- `verify_strip_mutation`: all its hypotheses hold together on a concrete input. The message event
signed by `s` (`Ex.signedByS`, valid by `verify_after_sign_valid`) gets another `content.body`:
redaction strips the content of an `m.room.message`, so the redacted event is the same (`hsame`);
the same single server is demanded and it has signed (`hcov`); the hashed bytes differ (`hpre`) and
are short; the toy digest differs on them (so `hnc` holds); and the verdict goes from `All` to
`Signatures`. -/
example : ∃ e'',
    Valid Props.C02.toy Ex.sha Ex.keysS (rulesOf 10) Ex.signedByS ∧
    e'' = setVal Ex.signedByS (bs "content") (.obj [(bs "body", .str (bs "ho"))]) ∧
    redact (rulesOf 10) e'' none = redact (rulesOf 10) Ex.signedByS none ∧
    serversToCheck Ex.ext e'' (sigRulesOf 10) = .ok [bs "s"] ∧
    (∀ s ∈ [bs "s"], ∃ sigs, Obj.get Ex.signedByS sigKey = some (.obj sigs) ∧ s ∈ Obj.keys sigs) ∧
    Spec.Hash.contentPreimage e'' ≠ Spec.Hash.contentPreimage Ex.signedByS ∧
    (Spec.Hash.contentPreimage e'').length ≤ 65535 ∧
    (Ex.sha (Spec.Hash.contentPreimage e'') = Ex.sha (Spec.Hash.contentPreimage Ex.signedByS) →
      Spec.Hash.contentPreimage e'' = Spec.Hash.contentPreimage Ex.signedByS) ∧
    verifyEvent Props.C02.toy Ex.sha Ex.ext Ex.keysS Ex.signedByS (rulesOf 10) (sigRulesOf 10) = .ok .all ∧
    verifyEvent Props.C02.toy Ex.sha Ex.ext Ex.keysS e'' (rulesOf 10) (sigRulesOf 10) = .ok .signatures := by
  obtain ⟨hsign, hfresh, hk, _, _, hall, _⟩ := Ex.message_computed.1
  obtain ⟨hsame, hsrv, hpre, hlen, hnc, hsig⟩ := Ex.message_computed.2.1
  refine ⟨_, ?_, rfl, hsame, hsrv, ?_, hpre, hlen, hnc, hall, hsig⟩
  · exact (verify_after_sign_valid Props.C02.toy Props.C02.toy_lawful Ex.sha Ex.sha_bytes Ex.ext Ex.keysS
      (bs "s") Ex.kp Ex.message Ex.signedByS (rulesOf 10) (sigRulesOf 10) hsign hk (Or.inl hfresh)).1
  · intro s hs
    rw [List.mem_singleton.mp hs]
    exact hashAndSign_signer _ _ _ _ _ _ _ hsign

set_option maxRecDepth 8192 in
/-- `verify_kept_mutation_rejects_partial` (and `verify_kept_mutation_partial`): the hypotheses hold
on a concrete input. In the signed message event the `sender` — kept by redaction — is changed from
`@a:s` to `@b:s`: the signatures are carried over, both events redact, the signer `s` is still the
demanded server, the toy scheme rejects the old signature on the new redacted bytes, and
`verify_event` fails. -/
example : ∃ e'' red' red'',
    hashAndSignEvent Props.C02.toy Ex.sha (bs "s") Ex.kp Ex.message (rulesOf 10) = (.ok (), Ex.signedByS) ∧
    HasKey Props.C02.toy Ex.keysS (bs "s") Ex.kp ∧
    e'' = setVal Ex.signedByS (bs "sender") (.str (bs "@b:s")) ∧
    Obj.get e'' sigKey = Obj.get Ex.signedByS sigKey ∧
    redact (rulesOf 10) Ex.signedByS none = .ok red' ∧ redact (rulesOf 10) e'' none = .ok red'' ∧
    serversToCheck Ex.ext e'' (sigRulesOf 10) = .ok [bs "s"] ∧ bs "s" ∈ [bs "s"] ∧
    Props.C02.toy.verify (Props.C02.toy.pub Ex.kp.secret) (canonicalJson red'')
      (Props.C02.toy.sign Ex.kp.secret (canonicalJson red')) = false ∧
    verifyEvent Props.C02.toy Ex.sha Ex.ext Ex.keysS e'' (rulesOf 10) (sigRulesOf 10)
      = .error (.sign .signatureInvalid) :=
  have ⟨hsign, _, hk, _, _, _, hred, _⟩ := Ex.message_computed.1
  have ⟨hsigs, hred'', hsrv, hrej, hfail⟩ := Ex.message_computed.2.2.1
  ⟨_, _, _, hsign, hk, rfl, hsigs, hred, hred'', hsrv, .head _, hrej, hfail⟩

set_option maxRecDepth 8192 in
/-- `verify_fails_without_server`: the hypotheses hold on a concrete input — the signed message
event checked against a key map that does not know the demanded server `s` (second disjunct of
`hbad`) — and `verify_event` fails. -/
example : ∃ red sigs,
    redact (rulesOf 10) Ex.signedByS none = .ok red ∧ Obj.get Ex.signedByS sigKey = some (.obj sigs) ∧
    serversToCheck Ex.ext Ex.signedByS (sigRulesOf 10) = .ok [bs "s"] ∧ bs "s" ∈ [bs "s"] ∧
    (Obj.get sigs (bs "s") = none ∨ Obj.get Ex.keysB (bs "s") = none ∨
      ¬ EntityVerifies Props.C02.toy Ex.keysB sigs (canonicalJson red) (bs "s")) ∧
    verifyEvent Props.C02.toy Ex.sha Ex.ext Ex.keysB Ex.signedByS (rulesOf 10) (sigRulesOf 10)
      = .error (.sign .noPublicKeysForEntity) :=
  have ⟨hsign, _, _, _, hsrv, _, hred, _, _, hnokey, hfail⟩ := Ex.message_computed.1
  have ⟨_, hsigs, _⟩ := hashAndSign_signer _ _ _ _ _ _ _ hsign
  ⟨_, _, hred, hsigs, hsrv, .head _, .inr (.inl hnokey), hfail⟩

set_option maxRecDepth 8192 in
/-- `servers_of_redacted_copy`: the hypotheses hold for the signed message event and its redacted
copy (both demand exactly server `s`). -/
example : ∃ red,
    redact (rulesOf 10) Ex.signedByS none = .ok red ∧ isThirdPartyInvite Ex.signedByS = false ∧
    serversToCheck Ex.ext Ex.signedByS (sigRulesOf 10) = .ok [bs "s"] ∧
    serversToCheck Ex.ext red (sigRulesOf 10) = .ok [bs "s"] :=
  have ⟨_, _, _, htpi, hsrv, _, hred, hsrv', _⟩ := Ex.message_computed.1
  ⟨_, hred, htpi, hsrv, hsrv'⟩

set_option maxRecDepth 8192 in
/-- `verify_after_sign_valid`, second disjunct of `h0`: the event to be signed already carries a
signature (of server `t`: `Ex.signedByT`), and its redacted, hashed form verifies against the key
map; signing by `s` then gives an event that verifies as `All`. -/
example : Obj.get Ex.signedByT sigKey ≠ none ∧
    (∀ hashes hash red, redact (rulesOf 10) (withHash Ex.signedByT hashes hash) none = .ok red →
      Hash.contentHash Ex.sha Ex.signedByT = .ok hash →
      ((Obj.get Ex.signedByT hashesKey = none ∧ hashes = []) ∨
        Obj.get Ex.signedByT hashesKey = some (.obj hashes)) →
      verifyJson Props.C02.toy Ex.keysST red = .ok ()) ∧
    ∃ e', hashAndSignEvent Props.C02.toy Ex.sha (bs "s") Ex.kp Ex.signedByT (rulesOf 10) = (.ok (), e') ∧
      verifyEvent Props.C02.toy Ex.sha Ex.ext Ex.keysST e' (rulesOf 10) (sigRulesOf 10) = .ok .all := by
  obtain ⟨_, _, ht, hne, hk, hs, _, _, hall⟩ := Ex.message_computed.2.2.2
  exact ⟨hne, (validSorted_step Props.C02.toy Props.C02.toy_lawful Ex.sha Ex.keysST (bs "t") Ex.kp
    Ex.message Ex.signedByT (rulesOf 10) ht hk (Or.inl Ex.freshSorted_message)).1.prior,
    _, hs, hall⟩

set_option maxRecDepth 8192 in
/-- `verify_redacted_copy_v11_tpi`: the hypotheses hold on the third-party invite of the refutations,
now under the version 11 rules: signed by `b` alone (all that is demanded), its redacted copy keeps
`third_party_invite.signed`, is still such an invite, demands no further server and verifies. The
same event under the version 10 rules is the counterexample `verify_redacted_copy_statement_false`. -/
example : ∃ e' red c tpi sg,
    hashAndSignEvent Props.C02.toy Ex.sha (bs "b") Ex.kp Ex.thirdPartyInvite (rulesOf 11) = (.ok (), e') ∧
    Obj.Sorted e' ∧ (rulesOf 11).keepMemberTpiSigned = true ∧ isThirdPartyInvite e' = true ∧
    Obj.get e' (bs "content") = some (.obj c) ∧ Obj.get c (bs "third_party_invite") = some (.obj tpi) ∧
    Obj.get tpi (bs "signed") = some sg ∧
    serversToCheck Ex.ext e' (sigRulesOf 11) = .ok [] ∧
    redact (rulesOf 11) e' none = .ok red ∧ isThirdPartyInvite red = true ∧
    verifyEvent Props.C02.toy Ex.sha Ex.ext Ex.keysB red (rulesOf 11) (sigRulesOf 11) = .ok .signatures :=
  have ⟨hsign, hsorted, hkeep, htpi, hc, ht, hsg, hsrv, _, hred, htpi', hsig⟩ :=
    Ex.invite_computed.2.2.2.1
  have ⟨_, hsg⟩ := Option.ne_none_iff_exists'.mp hsg
  ⟨_, _, _, _, _, hsign, hsorted, hkeep, htpi, hc, ht, hsg, hsrv, hred, htpi', hsig⟩

#print axioms signatures_table_eq_spec
#print axioms redaction_table_eq_spec
#print axioms servers_spec
#print axioms sign_no_panic
#print axioms sign_stores_hash_and_signature
#print axioms verify_after_sign
#print axioms verify_after_sign_valid
#print axioms verify_after_sign_chain
#print axioms verify_redacted_copy_of_covered
#print axioms verify_redacted_copy_partial
#print axioms verify_redacted_copy_not_tpi
#print axioms verify_redacted_copy_v11_tpi
#print axioms verify_redacted_copy_statement_false
#print axioms servers_of_redacted_copy_same_tpi
#print axioms servers_of_redacted_copy
#print axioms verify_ignores_unsigned
#print axioms verify_needs_every_server
#print axioms verify_fails_without_server
#print axioms verify_strip_mutation
#print axioms verify_kept_mutation_partial
#print axioms verify_kept_mutation_rejects_partial
#print axioms verify_kept_mutation_statement_false
end Ruma.Props.C03
