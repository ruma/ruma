/-
  C04 — Redaction keeps exactly the spec's keys per room version and is idempotent.
  Property theorems only; helper lemmas live in `Lemmas/Redact.lean`.

  Reading guide. `redact r o because` is the model of `redact`/`redact_in_place`
  (`Model/Redact.lean`), `rulesOf v` the rules the spec implies for room version `v`
  (`Spec/RedactionRules.lean`), `topKept`/`contentKept`/`contentEntry`/`redactedContent` the spec
  tables (`Spec/Redaction.lean`). `rules_table_eq_spec` ties the implementation's
  `RoomVersionId::rules()` table (regenerated on every run) to `rulesOf`.
-/
import RumaModel.Lemmas.Redact
import RumaModel.Generated.C04
namespace Ruma.Props.C04
open Ruma Ruma.Redact Ruma.Spec.Redaction

/-- T1: the rules the implementation reaches through `RoomVersionId::rules()` for versions 1–11
(extracted on this run) are the rules the spec table implies. -/
theorem rules_table_eq_spec :
    Generated.C04.rulesTable = versions.map (fun v => (v, rulesOf v)) := by
  simp only [rulesOf_eq]
  decide +kernel

/-- Top level: the model's key predicate under the spec rules is the spec's table, for every
version number and every key string. -/
theorem top_key_eq_spec (v : Nat) (k : Str) : isEventKeyRetained (rulesOf v) k = topKept v k := by
  have hA : topAlwaysKeys = topAlways := rfl
  have hL : topRuleKeys = topLegacy := rfl
  simp only [isEventKeyRetained, topKept, rulesOf_eq, hA, hL, ite_true_ite, Bool.decide_eq_true]

theorem redactContent_eq_spec (v : Nat) (ty : Str) (c c' : Obj)
    (h : redactContent (rulesOf v) ty c = .ok c') : c' = redactedContent v ty c := by
  unfold redactContent at h
  by_cases hm : ty = bs "m.room.member"
  · subst hm
    rw [retainedContentKeys_member] at h
    rw [applySome_ok _ _ _ h]
    exact congrArg (List.filterMap · c) (funext fun e => member_entry v e.1 e.2)
  · rw [retained_apply_spec v ty hm] at h
    cases h
    exact (redactedContent_filter v ty c hm).symm

/-- What a successful redaction (without `redacted_because`) returns: the event type is a string,
`content` (if present) is an object and was redacted by the content rules, and the top level is the
input filtered by the top-level key predicate. -/
theorem redact_ok_shape (r : Rules) (o res : Obj) (h : redact r o none = .ok res) :
    ∃ ty, Obj.get o (bs "type") = some (.str ty) ∧
      ((Obj.get o (bs "content") = none ∧ res = o.filter (fun e => isEventKeyRetained r e.1)) ∨
       (∃ c c', Obj.get o (bs "content") = some (.obj c) ∧ redactContent r ty c = .ok c' ∧
          res = (setVal o (bs "content") (.obj c')).filter (fun e => isEventKeyRetained r e.1))) := by
  unfold redact at h
  split at h
  · cases h
  · rename_i ty hty
    refine ⟨ty, hty, ?_⟩
    split at h
    · cases h
    · rename_i o1 hf
      cases h
      unfold redactContentField at hf
      split at hf
      · cases hf; exact Or.inl ⟨‹_›, rfl⟩
      · split at hf
        · cases hf
        · cases hf; exact Or.inr ⟨_, _, ‹_›, ‹_›, rfl⟩
      · cases hf
  · cases h

/-- **Top-level keys are exactly the spec's.** A key is in the redacted event iff it was in the
input and the spec keeps it in that room version. Nothing is added. -/
theorem redact_top_keys_exact (v : Nat) (o res : Obj) (h : redact (rulesOf v) o none = .ok res)
    (k : Str) : k ∈ Obj.keys res ↔ k ∈ Obj.keys o ∧ topKept v k = true := by
  obtain ⟨ty, _, hcase⟩ := redact_ok_shape _ _ _ h
  rcases hcase with ⟨_, rfl⟩ | ⟨c, c', _, _, rfl⟩
  · rw [keys_filter_mem, top_key_eq_spec]
  · rw [keys_filter_mem, keys_setVal, top_key_eq_spec]

/-- **Values are untouched.** Every kept top-level key other than `content` maps to the identical
value; dropped keys are absent. -/
theorem redact_values_untouched (v : Nat) (o res : Obj) (h : redact (rulesOf v) o none = .ok res)
    (k : Str) (hk : k ≠ bs "content") :
    Obj.get res k = if topKept v k then Obj.get o k else none := by
  obtain ⟨ty, _, hcase⟩ := redact_ok_shape _ _ _ h
  rcases hcase with ⟨_, rfl⟩ | ⟨c, c', _, _, rfl⟩
  · rw [get_filter, top_key_eq_spec]
  · rw [get_filter, top_key_eq_spec, get_setVal_ne _ _ _ _ hk]

/-- The content-only entry point agrees with what `redact` does to `content`
(`redact_content_in_place` vs `redact`). True by construction of the model (`redact` calls
`redactContent`; the copying `redact` and `redact_in_place` are one model function), stated for the
record: that the three Rust entry points agree is checked by the differential correspondence (T2:
every random event goes through all three) and not by this theorem. -/
theorem entry_points_agree (r : Rules) (o res : Obj) (ty : Str) (c : Obj)
    (h : redact r o none = .ok res)
    (hty : Obj.get o (bs "type") = some (.str ty)) (hc : Obj.get o (bs "content") = some (.obj c)) :
    ∃ c', redactContent r ty c = .ok c' ∧ Obj.get res (bs "content") = some (.obj c') := by
  obtain ⟨ty', hty', hcase⟩ := redact_ok_shape _ _ _ h
  cases hty.symm.trans hty'
  rcases hcase with ⟨hnone, _⟩ | ⟨c0, c', hc0, hred, rfl⟩
  · cases hc.symm.trans hnone
  · cases hc.symm.trans hc0
    refine ⟨c', hred, ?_⟩
    rw [get_filter_retained r _ type_content_always.2,
      get_setVal_eq _ _ _ hc]

/-- **Content keys are exactly the spec's**, with kept values untouched (the v11
`third_party_invite` narrowing included): the redacted `content` is the spec's `redactedContent`. -/
theorem redact_content_eq_spec (v : Nat) (o res : Obj) (ty : Str) (c : Obj)
    (h : redact (rulesOf v) o none = .ok res)
    (hty : Obj.get o (bs "type") = some (.str ty)) (hc : Obj.get o (bs "content") = some (.obj c)) :
    Obj.get res (bs "content") = some (.obj (redactedContent v ty c)) := by
  obtain ⟨c', hred, hget⟩ := entry_points_agree _ o res ty c h hty hc
  rw [hget, redactContent_eq_spec v ty c c' hred]

/-- **Idempotence**: redacting a redacted event changes nothing, for every rules value (hence every
room version), every event and every content. -/
theorem redact_idempotent (r : Rules) (o res : Obj) (h : redact r o none = .ok res) :
    redact r res none = .ok res := by
  obtain ⟨ty, hty, hcase⟩ := redact_ok_shape _ _ _ h
  have hne : bs "type" ≠ bs "content" := by decide +kernel
  rcases hcase with ⟨hnone, rfl⟩ | ⟨c, c', hc, hred, rfl⟩
  · simp only [redact, redactContentField, finish, get_filter_retained r _ type_content_always.1,
      get_filter_retained r _ type_content_always.2, hty, hnone, List.filter_filter, Bool.and_self]
  · have hidem : redactContent r ty c' = .ok c' := retained_idem ty r c c' hred
    simp only [redact, redactContentField, finish, get_filter_retained r _ type_content_always.1,
      get_filter_retained r _ type_content_always.2, get_setVal_ne _ _ _ _ hne,
      get_setVal_eq _ _ _ hc, hty, hidem, setVal_filter, setVal_setVal,
      List.filter_filter, Bool.and_self]

/-- `redacted_because` only adds `unsigned.redacted_because` on top of the plain redaction. -/
theorem redact_because (r : Rules) (o : Obj) (b : Obj) :
    redact r o (some b) = (redact r o none).map
      (fun res => Obj.insert res (bs "unsigned") (.obj [(bs "redacted_because", .obj b)])) := by
  unfold redact
  cases Obj.get o (bs "type") with
  | none => rfl
  | some x =>
    cases x with
    | str ty =>
      simp only
      cases redactContentField r ty o <;> rfl
    | _ => rfl

/-- **Errors are exactly the documented shape errors**: `type` missing or not a string, `content`
present but not an object, or the content function `redactContent` fails — which happens exactly
(`redactContent_error_iff`, both directions) where the rules keep `third_party_invite.signed`, i.e.
v11, on a non-object `third_party_invite` in an `m.room.member` content. `redact_error_iff_input`
below puts the two together into a condition on the input alone. -/
theorem redact_error_iff (r : Rules) (o : Obj) (because : Option Obj) :
    (∃ e, redact r o because = .error e) ↔
      (Obj.get o (bs "type") = none) ∨
      (∃ x, Obj.get o (bs "type") = some x ∧ ∀ s, x ≠ .str s) ∨
      (∃ ty x, Obj.get o (bs "type") = some (.str ty) ∧ Obj.get o (bs "content") = some x ∧
        ((∀ c, x ≠ .obj c) ∨ ∃ c e, x = .obj c ∧ redactContent r ty c = .error e)) := by
  unfold redact redactContentField
  cases Obj.get o (bs "type") with
  | none => exact ⟨fun _ => .inl rfl, fun _ => ⟨_, rfl⟩⟩
  | some x =>
    cases x
    case str ty =>
      cases Obj.get o (bs "content") with
      | none =>
        refine ⟨fun ⟨e, he⟩ => (nomatch he), ?_⟩
        rintro (h | ⟨x, h, hx⟩ | ⟨_, _, _, h, _⟩)
        · cases h
        · cases h; exact absurd rfl (hx ty)
        · cases h
      | some y =>
        cases y
        case obj c =>
          dsimp only
          cases hr : redactContent r ty c with
          | error e =>
            exact ⟨fun _ => .inr (.inr ⟨ty, _, rfl, rfl, .inr ⟨c, e, rfl, hr⟩⟩), fun _ => ⟨e, rfl⟩⟩
          | ok c' =>
            refine ⟨fun ⟨e, he⟩ => (nomatch he), ?_⟩
            rintro (h | ⟨x, h, hx⟩ | ⟨_, _, hty, hc, hx | ⟨c0, e, hx, he⟩⟩)
            · cases h
            · cases h; exact absurd rfl (hx ty)
            · cases hty; cases hc; exact absurd rfl (hx c)
            · cases hty; cases hc; cases hx; rw [hr] at he; cases he
        all_goals
          exact ⟨fun _ => .inr (.inr ⟨ty, _, rfl, rfl, .inl fun c h => (nomatch h)⟩), fun _ => ⟨_, rfl⟩⟩
    all_goals exact ⟨fun _ => .inr (.inl ⟨_, rfl, fun s h => (nomatch h)⟩), fun _ => ⟨_, rfl⟩⟩

/-- The only error the member-content retain function can return is `tpiNotObject`, and it returns
it exactly on a non-object `third_party_invite` under rules that keep `third_party_invite.signed`. -/
theorem memberKey_error_iff (r : Rules) (k : Str) (x : JVal) (e : Err) :
    memberKey r k x = .error e ↔
      e = .tpiNotObject ∧ k = bs "third_party_invite" ∧ r.keepMemberTpiSigned = true ∧ ∀ t, x ≠ .obj t := by
  unfold memberKey
  constructor
  · intro hf
    by_cases h1 : k = bs "membership"
    · rw [if_pos h1] at hf; cases hf
    rw [if_neg h1] at hf
    by_cases h2 : k = bs "join_authorised_via_users_server"
    · rw [if_pos h2] at hf; cases hf
    rw [if_neg h2] at hf
    by_cases h3 : k = bs "third_party_invite" ∧ r.keepMemberTpiSigned = true
    · rw [if_pos h3] at hf
      cases x
      case obj t => cases hf
      all_goals cases hf; exact ⟨rfl, h3.1, h3.2, nofun⟩
    · rw [if_neg h3] at hf; cases hf
  · rintro ⟨rfl, rfl, hr, hno⟩
    rw [if_neg tpi_ne.1, if_neg tpi_ne.2, if_pos ⟨rfl, hr⟩]
    cases x with
    | obj t => exact absurd rfl (hno t)
    | _ => rfl

/-- `redactContent` fails only on a non-object `third_party_invite` of an `m.room.member` content
under rules that keep `third_party_invite.signed` (one direction; `redactContent_error_iff` below has
both). -/
theorem redactContent_error_only (r : Rules) (ty : Str) (c : Obj) (e : Err)
    (h : redactContent r ty c = .error e) :
    e = .tpiNotObject ∧ ty = bs "m.room.member" ∧ r.keepMemberTpiSigned = true ∧
      ∃ x, (bs "third_party_invite", x) ∈ c ∧ ∀ t, x ≠ .obj t := by
  unfold redactContent at h
  by_cases hm : ty = bs "m.room.member"
  · rw [hm, retainedContentKeys_member] at h
    obtain ⟨⟨k, x⟩, hp, hf⟩ := applySome_error _ _ _ h
    obtain ⟨he, rfl, hr, hno⟩ := (memberKey_error_iff r k x e).mp hf
    exact ⟨he, hm, hr, x, hp, hno⟩
  · obtain ⟨p, hp⟩ := (retained_byKey ty r hm).apply_eq
    rw [hp] at h
    cases h

/-- **`redactContent` fails exactly** on an `m.room.member` content with a non-object
`third_party_invite` entry under rules that keep `third_party_invite.signed` (room version 11), and
the error is then `tpiNotObject`. Both directions. -/
theorem redactContent_error_iff (r : Rules) (ty : Str) (c : Obj) (e : Err) :
    redactContent r ty c = .error e ↔
      e = .tpiNotObject ∧ ty = bs "m.room.member" ∧ r.keepMemberTpiSigned = true ∧
        ∃ x, (bs "third_party_invite", x) ∈ c ∧ ∀ t, x ≠ .obj t := by
  refine ⟨redactContent_error_only r ty c e, ?_⟩
  rintro ⟨rfl, rfl, hr, x, hx, hno⟩
  -- the entry makes `memberKey` fail, so the whole fails, and every failure is `tpiNotObject`
  cases hR : redactContent r (bs "m.room.member") c with
  | error e' => rw [(redactContent_error_only r _ c e' hR).1]
  | ok c' =>
    rw [redactContent, retainedContentKeys_member] at hR
    obtain ⟨y, hy⟩ := applySome_ok_all _ _ _ hR _ hx
    rw [(memberKey_error_iff r _ x _).mpr ⟨rfl, rfl, hr, hno⟩] at hy
    cases hy

/-- **Errors, said on the input alone** (no reference to the content function): `redact` fails iff
`type` is missing or not a string, or `content` is present and not an object, or — only under rules
that keep `third_party_invite.signed` — the event is an `m.room.member` whose content has a
non-object `third_party_invite` entry. In every other case it succeeds. -/
theorem redact_error_iff_input (r : Rules) (o : Obj) (because : Option Obj) :
    (∃ e, redact r o because = .error e) ↔
      (Obj.get o (bs "type") = none) ∨
      (∃ x, Obj.get o (bs "type") = some x ∧ ∀ s, x ≠ .str s) ∨
      (∃ ty x, Obj.get o (bs "type") = some (.str ty) ∧ Obj.get o (bs "content") = some x ∧
        ((∀ c, x ≠ .obj c) ∨
         ∃ c, x = .obj c ∧ ty = bs "m.room.member" ∧ r.keepMemberTpiSigned = true ∧
           ∃ y, (bs "third_party_invite", y) ∈ c ∧ ∀ t, y ≠ .obj t)) := by
  rw [redact_error_iff]
  simp only [redactContent_error_iff, exists_and_left, exists_eq_left]

/-- The error case is reachable: a v11 member event whose `third_party_invite` is a string. -/
example :
    redact (rulesOf 11)
      [(bs "content", .obj [(bs "membership", .str (bs "invite")), (bs "third_party_invite", .str (bs "x"))]),
       (bs "type", .str (bs "m.room.member"))] none = .error .tpiNotObject ∧
    redact (rulesOf 10)
      [(bs "content", .obj [(bs "membership", .str (bs "invite")), (bs "third_party_invite", .str (bs "x"))]),
       (bs "type", .str (bs "m.room.member"))] none
      = .ok [(bs "content", .obj [(bs "membership", .str (bs "invite"))]), (bs "type", .str (bs "m.room.member"))] := by
  decide +kernel

/-- Redaction keeps the `BTreeMap` invariant (strictly ascending keys). -/
theorem redact_sorted (r : Rules) (o res : Obj) (hs : Obj.Sorted o) (h : redact r o none = .ok res) :
    Obj.Sorted res := by
  obtain ⟨ty, _, hcase⟩ := redact_ok_shape _ _ _ h
  have key : ∀ o' : Obj, Obj.keys o' = Obj.keys o →
      Obj.Sorted (o'.filter (fun e => isEventKeyRetained r e.1)) := by
    intro o' hk
    rw [Obj.Sorted, keys_filter, hk]
    exact List.Pairwise.filter _ hs
  rcases hcase with ⟨_, rfl⟩ | ⟨c, c', _, _, rfl⟩
  · exact key o rfl
  · exact key _ (keys_setVal _ _ _)

/-- Non-vacuity: a concrete v11 member event redacts successfully, so the hypotheses above are
satisfiable, and the result is the spec's. -/
example :
    redact (rulesOf 11)
      [(bs "content", .obj [(bs "displayname", .str (bs "x")), (bs "membership", .str (bs "join")),
          (bs "third_party_invite", .obj [(bs "display_name", .null), (bs "signed", .int 1)])]),
       (bs "origin", .int 1), (bs "sender", .str (bs "@a:b")), (bs "type", .str (bs "m.room.member"))]
      none
    = .ok [(bs "content", .obj [(bs "membership", .str (bs "join")),
          (bs "third_party_invite", .obj [(bs "signed", .int 1)])]),
       (bs "sender", .str (bs "@a:b")), (bs "type", .str (bs "m.room.member"))] := by
  decide +kernel

#print axioms rules_table_eq_spec
#print axioms top_key_eq_spec
#print axioms redactContent_eq_spec
#print axioms redact_ok_shape
#print axioms redact_top_keys_exact
#print axioms redact_values_untouched
#print axioms redact_content_eq_spec
#print axioms entry_points_agree
#print axioms redact_idempotent
#print axioms redact_because
#print axioms redact_error_iff
#print axioms redactContent_error_only
#print axioms memberKey_error_iff
#print axioms redactContent_error_iff
#print axioms redact_error_iff_input
#print axioms redact_sorted
end Ruma.Props.C04
