/-
  C05 — Content hash, reference hash and event IDs are the spec's functions of the event.
  Property theorems only; helper lemmas live in `Lemmas/Hash.lean`.

  Reading guide. `contentHash sha256 o` / `referenceHash sha256 r fmt o` are the models of
  `ruma_signatures::{content_hash, reference_hash}` (`Model/Hash.lean`); `sha256` is a PARAMETER of
  every theorem (the `sha2` crate is not ruma's code). `contentPreimage`, `referencePreimage`,
  `redacted`, `without`, `urlSafeFrom`, `eventIdFormat` are the spec side (`Spec/Hash.lean`),
  `rulesOf v` the redaction rules the spec implies for room version `v` (C04), `encodeObj`
  canonical JSON (C01). `specFormat` / `specAlphabet` turn the spec's per-version answers into the
  model's enums. Objects are association lists; `Obj.Sorted` is the `BTreeMap` invariant of
  `CanonicalJsonObject`.

  What is *not* proven (recorded assumptions, always explicit hypotheses, never axioms):
  * SHA-256 does not collide on the two inputs at hand (`covered_change_changes_*_hash`);
  * canonical-JSON encoding is injective on the two objects at hand (`EncInj`, hypothesis of the
    `covered_change_changes_*_preimage` theorems). For canonical events this is C01's
    `encode_injective`, and the `*_canonical` corollaries below have no such hypothesis left.
-/
import RumaModel.Lemmas.Hash
import RumaModel.Lemmas.HashCanonical
import RumaModel.Spec.EventSign
import RumaModel.Generated.C05
namespace Ruma.Props.C05
open Ruma Ruma.Hash Ruma.Redact Ruma.Canonical Ruma.Spec.Redaction
open Ruma.Spec.CanonicalJson (IsCanonical)
open Ruma.Spec.Hash (without contentPreimage referencePreimage redacted maxPdu)

/-! ### T1: the per-version tables reached through `RoomVersionId::rules()` -/

/-- T1: `event_id_format` and the two `signatures` flags extracted on this run for versions 1–11 are
the spec's: `$id:server` IDs and event-ID-server check in v1–2, standard-base64 hash IDs in v3,
URL-safe from v4, authorising-server check from v8. -/
theorem format_table_eq_spec :
    Generated.C05.formatTable = versions.map (fun v =>
      (v, specFormat v, Spec.EventSign.checkEventIdServer v, Spec.EventSign.checkJoinAuthorised v)) := by
  decide +kernel

/-- T1: the redaction rules `reference_hash` receives (`rules.redaction` of the same
`RoomVersionRules`) are the spec's for versions 1–11. -/
theorem redaction_table_eq_spec :
    Generated.C05.redactionTable = versions.map (fun v => (v, rulesOf v)) := by
  simp only [rulesOf_eq]
  decide +kernel

/-- **Alphabet by version**, on the extracted table: for every one of the eleven room versions the
alphabet `reference_hash` selects is the standard one up to version 3 and the URL-safe one from 4. -/
theorem alphabet_by_version :
    ∀ row ∈ Generated.C05.formatTable,
      alphabetOf row.2.1 = if row.1 ≤ 3 then Alphabet.standard else Alphabet.urlSafe := by decide +kernel

/-- The same for every version number, through the spec's format table: the code's `match` on the
event-ID format picks exactly the alphabet the spec names. -/
theorem alphabet_of_spec_format (v : Nat) : alphabetOf (specFormat v) = specAlphabet v := by
  unfold specFormat specAlphabet Spec.Hash.eventIdFormat Spec.Hash.urlSafeFrom
  by_cases h2 : v ≤ 2
  · have : ¬ 4 ≤ v := by omega
    simp [h2, this, alphabetOf]
  · by_cases h3 : v = 3
    · subst h3; simp [alphabetOf]
    · have : 4 ≤ v := by omega
      simp [h2, h3, this, alphabetOf]

/-! ### Definitional shape -/

/-- **Content hash**: for every object, the result is `PduSize` when the canonical JSON of the event
without `unsigned`, `signatures` and `hashes` is longer than 65 535 bytes, and the SHA-256 of exactly
those bytes otherwise. There is no other outcome. -/
theorem content_hash_def (sha256 : List Nat → List Nat) (o : Obj) :
    contentHash sha256 o =
      if (contentPreimage o).length > maxPdu then .error .pduSize
      else .ok (sha256 (contentPreimage o)) := by
  simp only [contentHash, canonicalWithout, removeFields_content, contentPreimage]
  rfl

/-- **Reference hash**: for every room version number `v`, every event (a `BTreeMap`, i.e. sorted)
that redacts successfully: the result is `PduSize` when the canonical JSON of the *spec's* redacted
event without `signatures` and `unsigned` is longer than 65 535 bytes, and otherwise the unpadded
base64 — standard alphabet up to v3, URL-safe from v4 — of the SHA-256 of exactly those bytes. -/
theorem reference_hash_def (sha256 : List Nat → List Nat) (v : Nat) (e res : Obj)
    (hs : Obj.Sorted e) (hred : redact (rulesOf v) e none = .ok res) :
    ∃ ty, Obj.get e (bs "type") = some (.str ty) ∧
      referenceHash sha256 (rulesOf v) (specFormat v) e =
        if (referencePreimage v ty e).length > maxPdu then .error .pduSize
        else .ok (b64 (specAlphabet v) (sha256 (referencePreimage v ty e))) := by
  obtain ⟨ty, hty, hres⟩ := redact_eq_spec v e res hs hred
  refine ⟨ty, hty, ?_⟩
  rw [referenceHash_eq_refTail, hred]
  subst hres
  simp only [Except.map, refTail, alphabet_of_spec_format]
  rfl

/-- When redaction fails (`type` missing or not a string, `content` not an object, malformed
`third_party_invite` under v11 rules — see C04 `redact_error_iff`) so does the reference hash, with
that error; it never fails in any other way except `PduSize`. -/
theorem reference_hash_error (sha256 : List Nat → List Nat) (r : Rules) (fmt : EventIdFormat)
    (e : Obj) (err : Redact.Err) (h : redact r e none = .error err) :
    referenceHash sha256 r fmt e = .error (.redact err) := by
  simp only [referenceHash, h]

/-! ### What the hashes ignore -/

/-- **Both hashes ignore `unsigned` and `signatures`**: two events that are equal once these two
keys are removed have the same content hash and, for every rules value and format, the same
reference hash (same value or same error). -/
theorem hash_ignores_unsigned_signatures (sha256 : List Nat → List Nat) (r : Rules)
    (fmt : EventIdFormat) (o o' : Obj)
    (h : without o [bs "signatures", bs "unsigned"] = without o' [bs "signatures", bs "unsigned"]) :
    contentHash sha256 o = contentHash sha256 o' ∧
      referenceHash sha256 r fmt o = referenceHash sha256 r fmt o' := by
  constructor
  · have key : ∀ x : Obj, contentPreimage x = encodeObj
        (without (without x [bs "signatures", bs "unsigned"]) [bs "unsigned", bs "signatures", bs "hashes"]) :=
      fun x => by rw [without_without x (by simp)]; rfl
    rw [content_hash_def, content_hash_def, key o, key o', h]
  · rw [referenceHash_strip, referenceHash_strip sha256 r fmt o', h]

/-- **The content hash also ignores `hashes`.** -/
theorem content_hash_ignores_hashes (sha256 : List Nat → List Nat) (o o' : Obj)
    (h : without o [bs "unsigned", bs "signatures", bs "hashes"]
        = without o' [bs "unsigned", bs "signatures", bs "hashes"]) :
    contentHash sha256 o = contentHash sha256 o' := by
  rw [content_hash_def, content_hash_def, contentPreimage, contentPreimage, h]

/-- Concrete form: setting (inserting or replacing) or deleting `unsigned`, `signatures` — and for
the content hash also `hashes` — to any value whatsoever leaves the hashes unchanged. -/
theorem hash_ignores_set_or_delete (sha256 : List Nat → List Nat) (r : Rules) (fmt : EventIdFormat)
    (o : Obj) (k : Str) (x : JVal) :
    (k ∈ [bs "unsigned", bs "signatures", bs "hashes"] →
        contentHash sha256 (Obj.insert o k x) = contentHash sha256 o ∧
        contentHash sha256 (Obj.erase o k) = contentHash sha256 o) ∧
    (k ∈ [bs "signatures", bs "unsigned"] →
        referenceHash sha256 r fmt (Obj.insert o k x) = referenceHash sha256 r fmt o ∧
        referenceHash sha256 r fmt (Obj.erase o k) = referenceHash sha256 r fmt o) := by
  have ins : ∀ ks : List Str, k ∈ ks → without (Obj.insert o k x) ks = without o ks :=
    fun ks hk => filter_insert_dropped o k x (fun k => !ks.contains k) (by simpa using hk)
  have del : ∀ ks : List Str, k ∈ ks → without (Obj.erase o k) ks = without o ks :=
    fun ks hk => filter_erase_dropped o k (fun k => !ks.contains k) (by simpa using hk)
  exact ⟨fun hk => ⟨content_hash_ignores_hashes sha256 _ _ (ins _ hk),
      content_hash_ignores_hashes sha256 _ _ (del _ hk)⟩,
    fun hk => ⟨(hash_ignores_unsigned_signatures sha256 r fmt _ _ (ins _ hk)).2,
      (hash_ignores_unsigned_signatures sha256 r fmt _ _ (del _ hk)).2⟩⟩

/-- **The reference hash is unchanged by redaction**: for every rules value (hence every room
version), every event and its redacted copy have the same reference hash (from C04's
`redact_idempotent`). -/
theorem reference_hash_redact_invariant (sha256 : List Nat → List Nat) (r : Rules)
    (fmt : EventIdFormat) (e e' : Obj) (h : redact r e none = .ok e') :
    referenceHash sha256 r fmt e' = referenceHash sha256 r fmt e := by
  simp only [referenceHash, Props.C04.redact_idempotent r e e' h, h]

/-- The same for the redacted copy that carries `unsigned.redacted_because`. -/
theorem reference_hash_redact_because_invariant (sha256 : List Nat → List Nat) (r : Rules)
    (fmt : EventIdFormat) (e e' because : Obj) (h : redact r e (some because) = .ok e') :
    referenceHash sha256 r fmt e' = referenceHash sha256 r fmt e := by
  rw [Props.C04.redact_because] at h
  cases h0 : redact r e none with
  | error err => rw [h0] at h; cases h
  | ok e0 =>
    rw [h0] at h
    simp only [Except.map] at h
    injection h with h
    subst h
    rw [((hash_ignores_set_or_delete sha256 r fmt e0 (bs "unsigned") _).2 (by simp)).1]
    exact reference_hash_redact_invariant sha256 r fmt e e0 h0

/-! ### The size limit -/

/-- **Content hash refuses exactly the oversize events**: `PduSize` iff the hashed canonical form is
longer than 65 535 bytes; at 65 535 bytes it still succeeds. -/
theorem pdu_size_iff (sha256 : List Nat → List Nat) (o : Obj) :
    (contentHash sha256 o = .error .pduSize ↔ (contentPreimage o).length > 65535) ∧
    ((∃ h, contentHash sha256 o = .ok h) ↔ (contentPreimage o).length ≤ 65535) := by
  rw [content_hash_def, show maxPdu = 65535 from rfl]
  by_cases hl : (contentPreimage o).length > 65535
  · simp [hl]
  · simp [hl, Nat.le_of_not_lt hl]

/-- **Reference hash refuses exactly the events whose redacted form is oversize**: `PduSize` iff
redaction succeeds and the canonical form of the redacted event without `signatures`/`unsigned` is
longer than 65 535 bytes. -/
theorem pdu_size_iff_reference (sha256 : List Nat → List Nat) (r : Rules) (fmt : EventIdFormat)
    (o : Obj) :
    referenceHash sha256 r fmt o = .error .pduSize ↔
      ∃ res, redact r o none = .ok res ∧
        (encodeObj (without res [bs "signatures", bs "unsigned"])).length > 65535 := by
  rw [referenceHash_eq_refTail]
  cases redact r o none with
  | error e => simp [Except.map, refTail]
  | ok res => simp [Except.map, refTail, maxPduBytes]

/-! ### Covered changes change the hashed bytes -/

/-- Canonical-JSON encoding does not identify these two objects. This is C01's injectivity of
`encode` on canonical values, taken here as a hypothesis about the two objects concerned. -/
def EncInj (a b : Obj) : Prop := encodeObj a = encodeObj b → a = b

/-- **Content hash, covered change**: if two events differ (value changed, key added or key removed)
at any top-level key other than `unsigned`, `signatures`, `hashes`, the bytes that are hashed differ. -/
theorem covered_change_changes_preimage (o o' : Obj) (k : Str)
    (hk : k ∉ [bs "unsigned", bs "signatures", bs "hashes"])
    (hne : Obj.get o k ≠ Obj.get o' k)
    (hinj : EncInj (without o [bs "unsigned", bs "signatures", bs "hashes"])
                   (without o' [bs "unsigned", bs "signatures", bs "hashes"])) :
    contentPreimage o ≠ contentPreimage o' :=
  encode_without_ne o o' _ k hk hne hinj

/-- **Reference hash, covered top-level change**: if two events (same room version, both redactable)
differ at a top-level key that the version's redaction keeps — other than `content` (next theorem)
and `signatures` — the bytes that are hashed differ. `hashes` is such a key. -/
theorem covered_change_changes_reference_preimage (v : Nat) (e e' res res' : Obj) (ty ty' : Str)
    (hs : Obj.Sorted e) (hs' : Obj.Sorted e')
    (hred : redact (rulesOf v) e none = .ok res) (hred' : redact (rulesOf v) e' none = .ok res')
    (hty : Obj.get e (bs "type") = some (.str ty)) (hty' : Obj.get e' (bs "type") = some (.str ty'))
    (k : Str) (hkept : topKept v k = true) (hk1 : k ≠ bs "content") (hk2 : k ≠ bs "signatures")
    (hk3 : k ≠ bs "unsigned")
    (hne : Obj.get e k ≠ Obj.get e' k)
    (hinj : EncInj (without res [bs "signatures", bs "unsigned"])
                   (without res' [bs "signatures", bs "unsigned"])) :
    referencePreimage v ty e ≠ referencePreimage v ty' e' := by
  rw [referencePreimage_eq v e res ty hs hred hty, referencePreimage_eq v e' res' ty' hs' hred' hty']
  refine encode_without_ne res res' _ k (by simp [hk2, hk3]) ?_ hinj
  rw [Props.C04.redact_values_untouched v e res hred k hk1,
    Props.C04.redact_values_untouched v e' res' hred' k hk1, hkept]
  exact hne

/-- **Reference hash, covered content change**: if two events of the same type differ at a content
key the version's redaction keeps unchanged, the bytes that are hashed differ. -/
theorem covered_content_change_changes_reference_preimage (v : Nat) (e e' res res' : Obj) (ty : Str)
    (c c' : Obj) (hs : Obj.Sorted e) (hs' : Obj.Sorted e')
    (hred : redact (rulesOf v) e none = .ok res) (hred' : redact (rulesOf v) e' none = .ok res')
    (hty : Obj.get e (bs "type") = some (.str ty)) (hty' : Obj.get e' (bs "type") = some (.str ty))
    (hc : Obj.get e (bs "content") = some (.obj c)) (hc' : Obj.get e' (bs "content") = some (.obj c'))
    (k : Str) (hkept : contentKept v ty k = true)
    (hn : ¬ (ty = bs "m.room.member" ∧ k = bs "third_party_invite"))
    (hne : Obj.get c k ≠ Obj.get c' k)
    (hinj : EncInj (without res [bs "signatures", bs "unsigned"])
                   (without res' [bs "signatures", bs "unsigned"])) :
    referencePreimage v ty e ≠ referencePreimage v ty e' := by
  rw [referencePreimage_eq v e res ty hs hred hty, referencePreimage_eq v e' res' ty hs' hred' hty']
  refine encode_without_ne res res' _ _ content_not_stripped ?_ hinj
  rw [Props.C04.redact_content_eq_spec v e res ty c hred hty hc,
    Props.C04.redact_content_eq_spec v e' res' ty c' hred' hty' hc']
  intro h
  have := congrArg (Obj.get · k) (JVal.obj.inj (Option.some.inj h))
  simp only [get_redactedContent v ty k _ hkept hn] at this
  exact hne this

/-- "Hence the hash" for the content hash: under the recorded assumption that SHA-256 does not
collide on these two byte strings, different hashed bytes give different content hashes. -/
theorem covered_change_changes_content_hash (sha256 : List Nat → List Nat) (o o' : Obj)
    (h h' : List Nat) (hpre : contentPreimage o ≠ contentPreimage o')
    (hnc : sha256 (contentPreimage o) = sha256 (contentPreimage o') →
           contentPreimage o = contentPreimage o')
    (ho : contentHash sha256 o = .ok h) (ho' : contentHash sha256 o' = .ok h') : h ≠ h' := by
  rw [content_hash_def] at ho ho'
  split at ho
  · cases ho
  · split at ho'
    · cases ho'
    · injection ho with ho; injection ho' with ho'
      subst ho; subst ho'
      exact fun heq => hpre (hnc heq)

/-- "Hence the hash" for the reference hash (and so for the event ID from room version 3): under
the no-collision assumption on the two byte strings, different hashed bytes give different base64
strings — base64 itself is injective (`b64_url_roundtrip`). Digests are byte strings. -/
theorem covered_change_changes_reference_hash (sha256 : List Nat → List Nat)
    (hbytes : ∀ m, ∀ b ∈ sha256 m, b < 256) (a : Alphabet) (p p' : List Nat) (hpre : p ≠ p')
    (hnc : sha256 p = sha256 p' → p = p') :
    b64 a (sha256 p) ≠ b64 a (sha256 p') :=
  fun heq => hpre (hnc (b64_injective a _ _ (hbytes p) (hbytes p') heq))

/-! ### The same without `EncInj`: canonical events (C01's injectivity of `encode`) -/

/-- `EncInj` holds for any two canonical objects: this is C01's `encode_injective`. -/
theorem encInj_of_canonical (a b : Obj) (ha : IsCanonical (.obj a)) (hb : IsCanonical (.obj b)) :
    EncInj a b :=
  fun h => JVal.obj.inj (Props.C01.encode_injective (.obj a) (.obj b) ha hb h)

/-- **Content hash, covered change, for canonical events** (a `CanonicalJsonObject` is one: keys
ascending at every depth, integers in range): if two events differ at any top-level key other than
`unsigned`, `signatures`, `hashes`, the bytes that are hashed differ. No hypothesis about the
encoding is left: injectivity is C01's theorem. -/
theorem covered_change_changes_preimage_canonical (o o' : Obj) (k : Str)
    (hc : IsCanonical (.obj o)) (hc' : IsCanonical (.obj o'))
    (hk : k ∉ [bs "unsigned", bs "signatures", bs "hashes"])
    (hne : Obj.get o k ≠ Obj.get o' k) :
    contentPreimage o ≠ contentPreimage o' :=
  covered_change_changes_preimage o o' k hk hne
    (encInj_of_canonical _ _ (isCanonical_without o _ hc) (isCanonical_without o' _ hc'))

/-- The redacted form of a canonical event is canonical (so `EncInj` holds for the objects the
reference hash encodes). -/
theorem encInj_of_redacted (v : Nat) (e e' res res' : Obj)
    (hc : IsCanonical (.obj e)) (hc' : IsCanonical (.obj e'))
    (hred : redact (rulesOf v) e none = .ok res) (hred' : redact (rulesOf v) e' none = .ok res') :
    EncInj (without res [bs "signatures", bs "unsigned"]) (without res' [bs "signatures", bs "unsigned"]) := by
  obtain ⟨t, _, hres⟩ := redact_eq_spec v e res hc.1 hred
  obtain ⟨t', _, hres'⟩ := redact_eq_spec v e' res' hc'.1 hred'
  subst hres; subst hres'
  exact encInj_of_canonical _ _ (isCanonical_without _ _ (redacted_isCanonical v t e hc))
    (isCanonical_without _ _ (redacted_isCanonical v t' e' hc'))

/-- **Reference hash, covered top-level change, for canonical events.** -/
theorem covered_change_changes_reference_preimage_canonical (v : Nat) (e e' res res' : Obj) (ty ty' : Str)
    (hc : IsCanonical (.obj e)) (hc' : IsCanonical (.obj e'))
    (hred : redact (rulesOf v) e none = .ok res) (hred' : redact (rulesOf v) e' none = .ok res')
    (hty : Obj.get e (bs "type") = some (.str ty)) (hty' : Obj.get e' (bs "type") = some (.str ty'))
    (k : Str) (hkept : topKept v k = true) (hk1 : k ≠ bs "content") (hk2 : k ≠ bs "signatures")
    (hk3 : k ≠ bs "unsigned")
    (hne : Obj.get e k ≠ Obj.get e' k) :
    referencePreimage v ty e ≠ referencePreimage v ty' e' :=
  covered_change_changes_reference_preimage v e e' res res' ty ty' hc.1 hc'.1 hred hred' hty hty' k
    hkept hk1 hk2 hk3 hne (encInj_of_redacted v e e' res res' hc hc' hred hred')

/-- **Reference hash, covered content change, for canonical events** (every kept content key except
the narrowed `third_party_invite` of a member event, which is the next theorem). -/
theorem covered_content_change_changes_reference_preimage_canonical (v : Nat) (e e' res res' : Obj)
    (ty : Str) (c c' : Obj) (hce : IsCanonical (.obj e)) (hce' : IsCanonical (.obj e'))
    (hred : redact (rulesOf v) e none = .ok res) (hred' : redact (rulesOf v) e' none = .ok res')
    (hty : Obj.get e (bs "type") = some (.str ty)) (hty' : Obj.get e' (bs "type") = some (.str ty))
    (hc : Obj.get e (bs "content") = some (.obj c)) (hc' : Obj.get e' (bs "content") = some (.obj c'))
    (k : Str) (hkept : contentKept v ty k = true)
    (hn : ¬ (ty = bs "m.room.member" ∧ k = bs "third_party_invite"))
    (hne : Obj.get c k ≠ Obj.get c' k) :
    referencePreimage v ty e ≠ referencePreimage v ty e' :=
  covered_content_change_changes_reference_preimage v e e' res res' ty c c' hce.1 hce'.1 hred hred'
    hty hty' hc hc' k hkept hn hne (encInj_of_redacted v e e' res res' hce hce' hred hred')

/-- **Reference hash, the excluded content key: `third_party_invite` of `m.room.member`.** Where the
version keeps it (room version 11 onwards) only its `signed` member is covered: if the two events'
`third_party_invite` objects differ in `signed` (changed, added or removed), the bytes that are hashed
differ. (A change to any *other* member of `third_party_invite` is not covered — redaction drops it —
which is why the previous theorem excludes this key.) -/
theorem covered_tpi_signed_change_changes_reference_preimage (v : Nat) (e e' res res' : Obj)
    (c c' t t' : Obj) (hce : IsCanonical (.obj e)) (hce' : IsCanonical (.obj e'))
    (hred : redact (rulesOf v) e none = .ok res) (hred' : redact (rulesOf v) e' none = .ok res')
    (hty : Obj.get e (bs "type") = some (.str (bs "m.room.member")))
    (hty' : Obj.get e' (bs "type") = some (.str (bs "m.room.member")))
    (hc : Obj.get e (bs "content") = some (.obj c)) (hc' : Obj.get e' (bs "content") = some (.obj c'))
    (hkept : contentKept v (bs "m.room.member") (bs "third_party_invite") = true)
    (ht : Obj.get c (bs "third_party_invite") = some (.obj t))
    (ht' : Obj.get c' (bs "third_party_invite") = some (.obj t'))
    (hne : Obj.get t (bs "signed") ≠ Obj.get t' (bs "signed")) :
    referencePreimage v (bs "m.room.member") e ≠ referencePreimage v (bs "m.room.member") e' := by
  rw [referencePreimage_eq v e res _ hce.1 hred hty, referencePreimage_eq v e' res' _ hce'.1 hred' hty']
  refine encode_without_ne res res' _ _ content_not_stripped ?_
    (encInj_of_redacted v e e' res res' hce hce' hred hred')
  rw [Props.C04.redact_content_eq_spec v e res _ c hred hty hc,
    Props.C04.redact_content_eq_spec v e' res' _ c' hred' hty' hc']
  intro h
  have h2 := congrArg (Obj.get · (bs "third_party_invite")) (JVal.obj.inj (Option.some.inj h))
  simp only [get_redactedContent_sorted _ _ _ _ (isCanonical_of_get e _ _ hce hc).1,
    get_redactedContent_sorted _ _ _ _ (isCanonical_of_get e' _ _ hce' hc').1, ht, ht',
    Option.bind_some, contentEntry, hkept, and_self, if_true] at h2
  -- both sides: `if (filter signed).isEmpty then none else some (obj (filter signed))`
  have hfe : t.filter (fun p => tpiKept p.1) = t'.filter (fun p => tpiKept p.1) := by
    revert h2
    generalize t.filter (fun p => tpiKept p.1) = A
    generalize t'.filter (fun p => tpiKept p.1) = B
    cases A <;> cases B <;> simp
  have hg := congrArg (Obj.get · (bs "signed")) hfe
  simp only [get_filter (p := tpiKept)] at hg
  have hk : tpiKept (bs "signed") = true := by decide +kernel
  rw [hk] at hg
  exact hne hg

/-! ### Base64 facts -/

/-- **Round trip, both alphabets**: decoding the unpadded encoding of any byte string gives the byte
string back; hence the encoding is injective and the event ID determines the digest. -/
theorem b64_url_roundtrip (a : Alphabet) (x : List Nat) (hx : ∀ b ∈ x, b < 256) :
    unb64 a (b64 a x) = some x := unb64_b64 a x hx

/-- The model's alphabets are RFC 4648's (§4 and §5), character for character. -/
theorem alphabet_tables :
    alphabetChars .standard = Spec.Hash.rfc4648Standard ∧
    alphabetChars .urlSafe = Spec.Hash.rfc4648UrlSafe := by
  unfold Spec.Hash.rfc4648Standard Spec.Hash.rfc4648UrlSafe
  rw [bs_ofList, bs_ofList]
  decide +kernel

/-- The two alphabets agree on sextets 0–61 and differ exactly in the last two characters:
`+ /` versus `- _`. -/
theorem alphabets_differ_only_in_62_63 :
    (∀ i, i < 62 → charOf .standard i = charOf .urlSafe i) ∧
    charOf .standard 62 = 43 ∧ charOf .standard 63 = 47 ∧
    charOf .urlSafe 62 = 45 ∧ charOf .urlSafe 63 = 95 := by decide +kernel

/-- A URL-safe reference hash contains neither `+` nor `/` (nor `=`: there is no padding), and a
32-byte digest always encodes to 43 characters. -/
theorem url_safe_output (x : List Nat) (hx : ∀ b ∈ x, b < 256) :
    (∀ c ∈ b64 .urlSafe x, c ≠ 43 ∧ c ≠ 47 ∧ c ≠ 61) ∧
    (x.length = 32 → ∀ a, (b64 a x).length = 43) := by
  constructor
  · intro c hc
    have hmem := b64_chars .urlSafe x hx c hc
    have : ∀ c ∈ alphabetChars .urlSafe, c ≠ 43 ∧ c ≠ 47 ∧ c ≠ 61 := by decide +kernel
    exact this c hmem
  · intro hl a
    rw [b64_length, hl]

/-! ### Event IDs (room version 3 onwards) -/

/-- **The event ID is `$` + the reference hash.** For every format other than `V1`, `eventId` is the
reference hash prefixed with `$` (byte 36), with the same errors. (This is how the model defines it —
ruma has no function for this step, callers write `format!("${}", reference_hash(..)?)`; the tie to
the code is the harness op `c05.eventid`, which does that with the real `reference_hash` and parses
the result with the real `EventId` parser.) -/
theorem event_id_of_reference_hash (sha256 : List Nat → List Nat) (r : Rules) (fmt : EventIdFormat)
    (o : Obj) (hf : fmt ≠ .v1) :
    eventId sha256 r fmt o = (referenceHash sha256 r fmt o).map (fun h => some (36 :: h)) := by
  cases fmt with
  | v1 => exact absurd rfl hf
  | v2 => simp only [eventId]; cases referenceHash sha256 r .v2 o <;> rfl
  | v3 => simp only [eventId]; cases referenceHash sha256 r .v3 o <;> rfl

/-- **Event ID, spec form**: for every room version number `v ≥ 3` and every redactable sorted
event, the event ID is `PduSize` when the canonical JSON of the spec's redacted event without
`signatures`/`unsigned` exceeds 65 535 bytes, and otherwise the specification's `eventIdOf`: `$`
followed by the unpadded base64 (standard alphabet in v3, URL-safe from v4) of the SHA-256 of exactly
those bytes. In room versions 1 and 2 there is no hash-derived event ID. -/
theorem event_id_def (sha256 : List Nat → List Nat) (v : Nat) (e res : Obj)
    (hs : Obj.Sorted e) (hred : redact (rulesOf v) e none = .ok res) :
    ∃ ty, Obj.get e (bs "type") = some (.str ty) ∧
      eventId sha256 (rulesOf v) (specFormat v) e =
        if v ≤ 2 then .ok none
        else if (referencePreimage v ty e).length > maxPdu then .error .pduSize
        else .ok (Spec.Hash.eventIdOf v (b64 (specAlphabet v) (sha256 (referencePreimage v ty e)))) := by
  obtain ⟨ty, hty, href⟩ := reference_hash_def sha256 v e res hs hred
  refine ⟨ty, hty, ?_⟩
  by_cases h2 : v ≤ 2
  · have hf : specFormat v = .v1 := by simp [specFormat, Spec.Hash.eventIdFormat, h2]
    rw [hf, if_pos h2]
    rfl
  · have h1 : Spec.Hash.eventIdFormat v ≠ 1 := by
      unfold Spec.Hash.eventIdFormat
      rw [if_neg h2]
      split <;> decide
    have hf : specFormat v ≠ .v1 := by
      unfold specFormat
      rw [if_neg h1]
      split <;> simp
    rw [event_id_of_reference_hash sha256 _ _ e hf, href, if_neg h2]
    split
    · rfl
    · simp only [Except.map, Spec.Hash.eventIdOf, if_neg h1]

/-- **The event ID determines the digest** (it is injective in the reference hash): two event IDs
formed with the same alphabet from byte strings are equal only if the digests are equal. -/
theorem event_id_injective (a : Alphabet) (h h' : List Nat) (hb : ∀ b ∈ h, b < 256)
    (hb' : ∀ b ∈ h', b < 256) (heq : 36 :: b64 a h = 36 :: b64 a h') : h = h' :=
  b64_injective a h h' hb hb' (List.cons.inj heq).2

/-- "Hence the event ID": under the no-collision assumption on the two hashed byte strings, different
hashed bytes give different event IDs. -/
theorem covered_change_changes_event_id (sha256 : List Nat → List Nat)
    (hbytes : ∀ m, ∀ b ∈ sha256 m, b < 256) (a : Alphabet) (p p' : List Nat) (hpre : p ≠ p')
    (hnc : sha256 p = sha256 p' → p = p') :
    (36 :: b64 a (sha256 p)) ≠ 36 :: b64 a (sha256 p') :=
  fun heq => hpre (hnc (event_id_injective a _ _ (hbytes p) (hbytes p') heq))

/-- **The event ID ignores `unsigned` and `signatures` and survives redaction**: the redacted copy of
an event has the event's ID, for every rules value and format. -/
theorem event_id_invariant (sha256 : List Nat → List Nat) (r : Rules) (fmt : EventIdFormat)
    (e e' o o' : Obj) (h : redact r e none = .ok e')
    (hw : without o [bs "signatures", bs "unsigned"] = without o' [bs "signatures", bs "unsigned"]) :
    eventId sha256 r fmt e' = eventId sha256 r fmt e ∧
    eventId sha256 r fmt o = eventId sha256 r fmt o' := by
  cases fmt <;>
    simp only [eventId, reference_hash_redact_invariant sha256 r _ e e' h,
      (hash_ignores_unsigned_signatures sha256 r _ o o' hw).2, and_self]

/-- **Shape of a hash event ID**: for a 32-byte digest it is `$` followed by 43 characters of the
alphabet; it contains no `:` (so it has no server part, unlike the IDs of room versions 1 and 2), and
with the URL-safe alphabet (room version 4 onwards) none of `+ / =`. -/
theorem event_id_shape (a : Alphabet) (x : List Nat) (hx : ∀ b ∈ x, b < 256) :
    (x.length = 32 → (36 :: b64 a x).length = 44) ∧ (∀ c ∈ b64 a x, c ≠ 58 ∧ c ≠ 36) ∧
    (a = .urlSafe → ∀ c ∈ b64 a x, c ≠ 43 ∧ c ≠ 47 ∧ c ≠ 61) := by
  refine ⟨fun hl => by rw [List.length_cons, b64_length, hl], ?_, ?_⟩
  · intro c hc
    have hmem := b64_chars a x hx c hc
    have : ∀ c ∈ alphabetChars a, c ≠ 58 ∧ c ≠ 36 := by cases a <;> decide +kernel
    exact this c hmem
  · rintro rfl
    exact (url_safe_output x hx).1

/-! ### Non-vacuity: the hypotheses above are satisfiable on a concrete event -/

/-- A v4 message event: sorted, redactable; its redacted form drops `origin`-less extras and the body. -/
example :
    let e : Obj := [(bs "content", .obj [(bs "body", .str (bs "hi"))]), (bs "depth", .int 3),
      (bs "hashes", .obj [(bs "sha256", .str (bs "x"))]), (bs "sender", .str (bs "@a:b")),
      (bs "signatures", .obj []), (bs "type", .str (bs "m.room.message")),
      (bs "unsigned", .obj [(bs "age", .int 1)])]
    Obj.Sorted e ∧
    redact (rulesOf 4) e none = .ok [(bs "content", .obj []), (bs "depth", .int 3),
      (bs "hashes", .obj [(bs "sha256", .str (bs "x"))]), (bs "sender", .str (bs "@a:b")),
      (bs "signatures", .obj []), (bs "type", .str (bs "m.room.message"))] ∧
    referencePreimage 4 (bs "m.room.message") e
      = bs "{\"content\":{},\"depth\":3,\"hashes\":{\"sha256\":\"x\"},\"sender\":\"@a:b\",\"type\":\"m.room.message\"}" ∧
    contentPreimage e
      = bs "{\"content\":{\"body\":\"hi\"},\"depth\":3,\"sender\":\"@a:b\",\"type\":\"m.room.message\"}" := by
  dsimp only
  repeat rw [bs_ofList]
  decide +kernel

/-- Two events differing in the covered key `depth` (hypotheses of
`covered_change_changes_preimage`, with the injectivity instance provable outright because the
encodings differ). -/
example :
    let o : Obj := [(bs "depth", .int 3), (bs "type", .str (bs "m"))]
    let o' : Obj := [(bs "depth", .int 4), (bs "type", .str (bs "m"))]
    bs "depth" ∉ [bs "unsigned", bs "signatures", bs "hashes"] ∧
    Obj.get o (bs "depth") ≠ Obj.get o' (bs "depth") ∧
    EncInj (without o [bs "unsigned", bs "signatures", bs "hashes"])
           (without o' [bs "unsigned", bs "signatures", bs "hashes"]) := by
  refine ⟨by decide +kernel, by decide +kernel, ?_⟩
  intro h
  exact absurd h (by decide +kernel)

/-- An invite created from a third-party invite whose `signed` member is the number `n` (example data). -/
def exInvite (n : Int) : Obj :=
  [(bs "content", .obj [(bs "membership", .str (bs "invite")),
      (bs "third_party_invite", .obj [(bs "display_name", .str (bs "n")), (bs "signed", .int n)])]),
   (bs "type", .str (bs "m.room.member"))]

/-- `covered_tpi_signed_change_changes_reference_preimage` (and the `*_canonical` corollaries): the
hypotheses hold on two canonical v11 invites that differ only in `third_party_invite.signed`; both
redact; the hashed bytes differ. Under the version 10 rules the same two events have the *same*
hashed bytes (`third_party_invite` is stripped), which is why the key is treated separately. -/
example :
    IsCanonical (.obj (exInvite 1)) ∧ IsCanonical (.obj (exInvite 2)) ∧
    (∃ res res', redact (rulesOf 11) (exInvite 1) none = .ok res ∧ redact (rulesOf 11) (exInvite 2) none = .ok res') ∧
    contentKept 11 (bs "m.room.member") (bs "third_party_invite") = true ∧
    referencePreimage 11 (bs "m.room.member") (exInvite 1) ≠ referencePreimage 11 (bs "m.room.member") (exInvite 2) ∧
    referencePreimage 10 (bs "m.room.member") (exInvite 1) = referencePreimage 10 (bs "m.room.member") (exInvite 2) :=
  by
  -- one evaluation of everything about the two events; `IsCanonical` through C01's `normalize`
  have h : (normalize (.obj (exInvite 1)) = .ok (.obj (exInvite 1)) ∧
      normalize (.obj (exInvite 2)) = .ok (.obj (exInvite 2))) ∧
      ((redact (rulesOf 11) (exInvite 1) none).isOk = true ∧
        (redact (rulesOf 11) (exInvite 2) none).isOk = true) ∧
      contentKept 11 (bs "m.room.member") (bs "third_party_invite") = true ∧
      referencePreimage 11 (bs "m.room.member") (exInvite 1) ≠ referencePreimage 11 (bs "m.room.member") (exInvite 2) ∧
      referencePreimage 10 (bs "m.room.member") (exInvite 1) = referencePreimage 10 (bs "m.room.member") (exInvite 2) := by
    decide +kernel
  obtain ⟨r, hr⟩ := exists_ok_of_isOk h.2.1.1
  obtain ⟨r', hr'⟩ := exists_ok_of_isOk h.2.1.2
  exact ⟨Props.C01.normalize_sorted _ _ h.1.1, Props.C01.normalize_sorted _ _ h.1.2, ⟨r, r', hr, hr'⟩, h.2.2⟩

/-- `event_id_def` on the v4 message event above with a toy digest: the ID is `$` + URL-safe base64. -/
example :
    let e : Obj := [(bs "content", .obj [(bs "body", .str (bs "hi"))]), (bs "depth", .int 3),
      (bs "sender", .str (bs "@a:b")), (bs "type", .str (bs "m.room.message"))]
    eventId (fun m => [251, 255, m.length % 256]) (rulesOf 4) (specFormat 4) e = .ok (some (bs "$-_9A")) ∧
    eventId (fun m => [251, 255, m.length % 256]) (rulesOf 3) (specFormat 3) e = .ok (some (bs "$+/9A")) ∧
    eventId (fun m => [251, 255, m.length % 256]) (rulesOf 2) (specFormat 2) e = .ok none := by
  dsimp only
  decide +kernel

#print axioms format_table_eq_spec
#print axioms redaction_table_eq_spec
#print axioms alphabet_by_version
#print axioms alphabet_of_spec_format
#print axioms content_hash_def
#print axioms reference_hash_def
#print axioms reference_hash_error
#print axioms hash_ignores_unsigned_signatures
#print axioms content_hash_ignores_hashes
#print axioms hash_ignores_set_or_delete
#print axioms reference_hash_redact_invariant
#print axioms reference_hash_redact_because_invariant
#print axioms pdu_size_iff
#print axioms pdu_size_iff_reference
#print axioms covered_change_changes_preimage
#print axioms covered_change_changes_reference_preimage
#print axioms covered_content_change_changes_reference_preimage
#print axioms covered_change_changes_content_hash
#print axioms covered_change_changes_reference_hash
#print axioms encInj_of_canonical
#print axioms covered_change_changes_preimage_canonical
#print axioms encInj_of_redacted
#print axioms covered_change_changes_reference_preimage_canonical
#print axioms covered_content_change_changes_reference_preimage_canonical
#print axioms covered_tpi_signed_change_changes_reference_preimage
#print axioms event_id_of_reference_hash
#print axioms event_id_def
#print axioms event_id_injective
#print axioms covered_change_changes_event_id
#print axioms event_id_invariant
#print axioms event_id_shape
#print axioms b64_url_roundtrip
#print axioms alphabet_tables
#print axioms alphabets_differ_only_in_62_63
#print axioms url_safe_output
end Ruma.Props.C05
