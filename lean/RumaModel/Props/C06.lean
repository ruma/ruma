/-
  C06 — State resolution is deterministic and independent of input and hash-map order.
  Property theorems only; helper lemmas live in `Lemmas/StateRes*.lean`.

  Reading guide. Every `HashMap`/`HashSet` of `lib.rs` is a list in the model; wherever the code
  iterates one, the model applies an arbitrary permuting function (`Orders`, `psh`, `GraphPerm`).
  "For all `Orders` that are `Valid`" therefore reads "for all hash-iteration orders".
-/
import RumaModel.Lemmas.StateResStages
import RumaModel.Lemmas.StateResWitness
namespace Ruma.Props.C06
open Ruma Ruma.StateRes Ruma.Spec.StateResV2

/-- **extractMin_perm.** Popping a binary heap whose order is a strict total order: the popped
element, and the remaining heap up to storage order, do not depend on the order in which the
elements are stored. -/
theorem extractMin_perm {lt : α → α → Bool} (h : StrictTotal lt) {l l' : List α}
    (hp : l.Perm l') {m : α} {rest : List α} (hpop : popMin lt l = some (m, rest)) :
    ∃ rest', popMin lt l' = some (m, rest') ∧ rest.Perm rest' :=
  popMin_perm_invariant h hp hpop

/-- The code's `TieBreaker` order (power desc, ts asc, id asc) is a strict total order, so the
hypothesis of `extractMin_perm` holds for the heap of the sort. -/
theorem tieBreaker_strictTotal : StrictTotal TB.lt := tbLt_strictTotal

/-- **lexTopoSort_perm.** Permuting the node list and every adjacency list of the graph (any other
iteration order of the same `HashMap<Id, HashSet<Id>>`), and iterating the internal
`reverse_graph` sets in any order, does not change the output of the sort — for every graph with
distinct node keys (cycles and dangling edges included) and every key function that is defined on
every node of the graph (hypothesis `hk`: `key n = some (kf n)` for each node, i.e. the
`(power level, origin_server_ts)` look-up succeeds for every node; where it fails the code returns
an error, which is not what this theorem is about). -/
theorem lexTopoSort_perm {g g' : Graph} (hg : g.nodes.Nodup) (hp : GraphPerm g g')
    {psh psh' : Id → List Id → List Id} (hpsh : ∀ n l, (psh n l).Perm l)
    (hpsh' : ∀ n l, (psh' n l).Perm l) {key : Id → Option (Int × Int)} {kf : Id → Int × Int}
    (hk : ∀ n ∈ g.nodes, key n = some (kf n)) :
    lexTopoSort psh' g' key = lexTopoSort psh g key := by
  rw [lexTopoSort_eq_lexTopo hg hpsh hk,
    lexTopoSort_eq_lexTopo (hp.nodes.symm.nodup hg) hpsh' (fun n hn => hk n (hp.nodes.mem_iff.mp hn)),
    lexTopo_sim hg (hp.sim hg)]

/-- **separate_perm.** Passing the state sets in another order, storing each of them in another
order and iterating `occurrences` in any order gives the same unconflicted map (same lookups) and
the same set of conflicted event ids. -/
theorem separate_perm {o o' : Orders} (ho : o.Valid) (ho' : o'.Valid) {sets sets' : List StateMap}
    (wf : SetsWF sets) (σ : StateMap → StateMap) (hσ : ∀ s, (σ s).Perm s)
    (hp : sets'.Perm (sets.map σ)) :
    StEq (separate o sets).1 (separate o' sets').1 ∧
    ∀ id, id ∈ confIds (separate o sets).2 ↔ id ∈ confIds (separate o' sets').2 := by
  have wf' := wf.of_perm σ hσ hp
  have hs := SetsEquiv.of_perm wf σ hσ hp
  constructor
  · exact fun k => Option.ext fun v => by
      rw [separate_clean ho wf, separate_clean ho' wf', hs.unconf]
  · intro id
    simp only [separate_conf ho wf, separate_conf ho' wf', hs.has, hs.unconf]

/-- **authChainDiff_perm.** The auth-chain difference is the same set (here: lists that are
permutations of each other) whatever the order of the chain arguments, of each chain's elements and
of `id_counts`. -/
theorem authChainDiff_perm {o o' : Orders} (ho : o.Valid) (ho' : o'.Valid) {chains chains' : List (List Id)}
    (hn : ∀ c ∈ chains, c.Nodup) (τ : List Id → List Id) (hτ : ∀ c, (τ c).Perm c)
    (hp : chains'.Perm (chains.map τ)) :
    (authChainDiff o chains).Perm (authChainDiff o' chains') := by
  rw [List.perm_ext_iff_of_nodup (nodup_authChainDiff ho _) (nodup_authChainDiff ho' _)]
  intro id
  rw [mem_authChainDiff ho hn, mem_authChainDiff ho' (chains_nodup_of_perm τ hτ hp hn),
    ChainsEquiv.of_perm τ hτ hp id]

/-- **mainlineSort_perm.** The mainline sort of a duplicate-free list of event ids does not depend on
the order of the list nor on the iteration order of `order_map`. -/
theorem mainlineSort_perm {o o' : Orders} (ho : o.Valid) (ho' : o'.Valid) (fetch : Id → Option Event)
    (fuel : Nat) {l l' : List Id} (hn : l.Nodup) (hp : l.Perm l') (pl : Option Id) :
    mainlineSort o fetch fuel l pl = mainlineSort o' fetch fuel l' pl :=
  StateRes.mainlineSort_perm ho ho' fetch fuel hn hp pl

/-- **powerSort_perm** (under `WF`: every event of the full conflicted set `A` is known, cites the
room's create event `c0` and at most one power-levels event — so the create event is not in `A`).
The reverse topological power sort gives the same list whatever the order of `A`, of the graph's
node and edge sets, of `reverse_graph`, and therefore whichever node fills the creator cache. -/
theorem powerSort_perm (p : Params) {o o' : Orders} (ho : o.Valid) (ho' : o'.Valid)
    {fetch : Id → Option Event} {A A' : List Id} (hA : A.Nodup) (hp : A.Perm A') {c0 : Event}
    (hwf : ∀ n ∈ A, ∃ e, fetch n = some e ∧ EventWF fetch c0 e) (q : Id → Bool) :
    powerSort p o fetch A (A.filter q) = powerSort p o' fetch A' (A'.filter q) :=
  powerSort_congr p ho ho' hA (hp.nodup hA) (fun _ => hp.mem_iff) hwf q

/-- The per-event hypothesis `EventWF` of `powerSort_perm` is satisfiable: a topic event citing the
create event, a membership and a power-levels event. (`RoomWF` of a whole room: next example.) -/
example :
    let c0 : Event := { eventId := bs "$c", roomId := bs "!r", sender := bs "@a", type := tCreate,
                        stateKey := some [], content := [] }
    let m : Event := { eventId := bs "$m", roomId := bs "!r", sender := bs "@a", type := tMember,
                       stateKey := some (bs "@a"), content := [], authEvents := [bs "$c"] }
    let pl : Event := { eventId := bs "$p", roomId := bs "!r", sender := bs "@a", type := tPowerLevels,
                        stateKey := some [], content := [], authEvents := [bs "$c", bs "$m"] }
    let t : Event := { eventId := bs "$t", roomId := bs "!r", sender := bs "@a", type := bs "m.room.topic",
                       stateKey := some [], content := [], authEvents := [bs "$p", bs "$c", bs "$m"] }
    EventWF (fetchOf [c0, m, pl, t]) c0 t := by
  intro c0 m pl t
  have h : UniquePlCreate (t.authEvents.filterMap (fetchOf [c0, m, pl, t])) ∧
      createAmong (fetchOf [c0, m, pl, t]) t = some c0 := by unfold UniquePlCreate; decide +kernel
  exact ⟨h.1, h.2⟩

/-- The room hypothesis `RoomWF` of `resolve_perm` (together with `SetsWF` and duplicate-free
chains) is satisfiable on a room in which there really is something to resolve: the F4 witness room
(`Lemmas/StateResWitness.lean`: two state sets that disagree on the topic, `$t1` against `$t2`) has
the non-empty full conflicted set `[$t1, $t2]` and satisfies all three hypotheses. -/
example :
    RoomWF F4Witness.store F4Witness.sets F4Witness.chains F4Witness.c ∧
    fullConflictedSet (fetchOf F4Witness.store) F4Witness.sets F4Witness.chains = [bs "$t1", bs "$t2"] ∧
    SetsWF F4Witness.sets ∧ (∀ c ∈ F4Witness.chains, c.Nodup) :=
  ⟨F4Witness.roomWF, F4Witness.fullConf_eq, F4Witness.setsWF, by decide +kernel⟩

/-- **resolve_perm.** For every room that satisfies `WF` (`RoomWF`), all iteration orders `o`, `o'`
of the hash containers, every permutation of the state-set argument and of each state map, and
every permutation of the auth-chain argument and of each chain: `resolve` fails in the same way or
returns state maps with the same lookups. -/
theorem resolve_perm (p : Params) {o o' : Orders} (ho : o.Valid) (ho' : o'.Valid) (store : List Event)
    {sets sets' : List StateMap} (wf : SetsWF sets)
    (σ : StateMap → StateMap) (hσ : ∀ s, (σ s).Perm s) (hps : sets'.Perm (sets.map σ))
    {chains chains' : List (List Id)} (hcn : ∀ c ∈ chains, c.Nodup)
    (τ : List Id → List Id) (hτ : ∀ c, (τ c).Perm c) (hpc : chains'.Perm (chains.map τ))
    {c0 : Event} (hwf : RoomWF store sets chains c0) :
    ResEq (resolve p o store sets chains) (resolve p o' store sets' chains') :=
  resolve_congr p ho ho' store wf (wf.of_perm σ hσ hps) (SetsEquiv.of_perm wf σ hσ hps) hcn
    (chains_nodup_of_perm τ hτ hpc hcn) (ChainsEquiv.of_perm τ hτ hpc) hwf

/-- **resolve_identical.** Resolving n ≥ 1 copies of one state set (each possibly stored in a
different order) returns that set. -/
theorem resolve_identical (p : Params) {o : Orders} (ho : o.Valid) (store : List Event) {s : StateMap}
    (hs : (AL.keys s).Nodup) {sets : List StateMap} (hne : sets ≠ []) (hall : ∀ s' ∈ sets, s'.Perm s)
    (chains : List (List Id)) :
    ∃ m, resolve p o store sets chains = .ok m ∧ StEq m s := by
  have wf : SetsWF sets := fun s' h => ((hall s' h).map _).symm.nodup hs
  have hu := unconf_of_identical hs hne hall
  obtain ⟨m, h1, h2⟩ := resolve_noconflict p ho store wf chains (by
    rintro k id ⟨s', hs', hg⟩
    rw [hu, AL.get_perm hs (hall s' hs').symm]; exact hg)
  exact ⟨m, h1, fun k => Option.ext fun v => by rw [h2, hu]⟩

/-- **resolve_single.** Resolving one state set returns it: the result has exactly its lookups
(whatever the auth chains, the store and the iteration orders; no conflict branch is entered). -/
theorem resolve_single (p : Params) {o : Orders} (ho : o.Valid) (store : List Event) {s : StateMap}
    (hs : (AL.keys s).Nodup) (chains : List (List Id)) :
    ∃ m, resolve p o store [s] chains = .ok m ∧ StEq m s :=
  resolve_identical p ho store hs (List.cons_ne_nil _ _)
    (fun _ h => List.mem_singleton.mp h ▸ .refl _) chains

end Ruma.Props.C06
#print axioms Ruma.Props.C06.extractMin_perm
#print axioms Ruma.Props.C06.tieBreaker_strictTotal
#print axioms Ruma.Props.C06.lexTopoSort_perm
#print axioms Ruma.Props.C06.separate_perm
#print axioms Ruma.Props.C06.authChainDiff_perm
#print axioms Ruma.Props.C06.mainlineSort_perm
#print axioms Ruma.Props.C06.powerSort_perm
#print axioms Ruma.Props.C06.resolve_perm
#print axioms Ruma.Props.C06.resolve_single
#print axioms Ruma.Props.C06.resolve_identical
