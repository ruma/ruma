/-
  C08 — event authorization decides exactly as the spec's rules in every room version.

  Part 1: T1 (the rule flags per room version are those the spec implies).
  Part 2: security corollaries, stated outright on the model of `auth_check`, for ALL rule sets
          (all nine flags arbitrary — in particular every room version), all states and all
          power-level contents.
  Part 3: the model decides exactly as `Spec.Auth.authorize` (see `Lemmas/AuthSpec*.lean`).
-/
import RumaModel.Lemmas.Auth
import RumaModel.Lemmas.Json
import RumaModel.Lemmas.AuthSpecRules
import RumaModel.Spec.AuthRules
import RumaModel.Generated.C08
namespace Ruma.Props.C08
open Ruma Ruma.Auth Ruma.Ident

/-! ## Part 1 — T1 -/

/-- T1. The nine `AuthorizationRules` flags the implementation uses for each room version
(`RoomVersionId::V<n>.rules().authorization`, extracted from the running code on every run) are the
ones the specification's per-version rule variants imply. -/
theorem rules_table_eq_spec :
    Generated.C08.rulesTable = Spec.Auth.versions.map (fun v => (v, Spec.Auth.rulesOf v)) := by
  decide

/-- The model's version table (`AuthorizationRules::V1 … V11` by room version) is that table too. -/
theorem ofVersion_eq_spec :
    ∀ v ∈ Spec.Auth.versions, AuthRules.ofVersion? v = some (Spec.Auth.rulesOf v) := by
  decide

/-! ## Part 2 — security corollaries -/

/-- **A join respects the join rule.** An accepted `join` (other than the room's first) is sent by
the joining user, who is not banned, and the room's join rule lets them in: `public`; or
`invite` (where knocking exists: or `knock`) and they are invited or joined already; or `restricted`
(`knock_restricted`) in a rule set that has it and they are joined/invited already or name, in
`join_authorised_via_users_server`, a joined user whose power level is at least the invite level.
No other way in exists, whatever the power levels say. -/
theorem join_respects_join_rule (rules : AuthRules) (ev : Event) (f : Fetch) (target : Str)
    (hty : ev.type = tMember) (hsk : ev.stateKey = some target)
    (hm : contentMembership ev.content = .ok mJoin)
    (hprev : ∀ create, f tCreate [] = some create → ev.prevEvents ≠ [create.eventId])
    (h : authCheck rules ev f = true) :
    ev.sender = target ∧
    ∃ cur jr, userMembership f target = .ok cur ∧ cur ≠ mBan ∧ joinRule f = .ok jr ∧
      (jr = jrPublic
       ∨ ((jr = jrInvite ∨ (rules.knocking = true ∧ jr = jrKnock)) ∧ (cur = mInvite ∨ cur = mJoin))
       ∨ (((rules.restrictedJoinRule = true ∧ jr = jrRestricted)
            ∨ (rules.knockRestrictedJoinRule = true ∧ jr = jrKnockRestricted))
          ∧ ((cur = mJoin ∨ cur = mInvite)
             ∨ ∃ create creator u ul il, f tCreate [] = some create ∧
                 createCreator rules create = .ok creator ∧
                 contentJoinAuthorised ev.content = .ok (some u) ∧
                 userMembership f u = .ok mJoin ∧
                 plUserLevel rules (fetchPowerLevels f) u creator = .ok ul ∧
                 plIntOrDefault rules (fetchPowerLevels f) .invite = .ok il ∧ ul ≥ il))) := by
  obtain ⟨create, hc, -, h⟩ := member_inv hty hsk hm (authCheck_true.mp h)
  simp only [beq_self_eq_true, if_true, checkMemberJoin, beq_false_of_ne (hprev create hc), Bool.false_and,
    Bool.false_eq_true, if_false, bind_eq_ok, require_eq_ok, Bool.and_eq_true, Bool.or_eq_true, beq_iff_eq,
    bne_iff_ne] at h
  obtain ⟨creator, hcr, -, hst, cur, hcur, -, hnb, jr, hjr, h⟩ := h
  refine ⟨hst, cur, jr, hcur, hnb, hjr, ?_⟩
  split at h
  · exact Or.inr (Or.inl ‹_›)
  split at h
  · refine Or.inr (Or.inr ⟨‹_›, ?_⟩)
    split at h
    · exact Or.inl ‹_›
    · obtain ⟨_ | u, hvia, h⟩ := bind_eq_ok.mp h
      · cases h
      · simp only [bind_eq_ok, require_eq_ok, beq_iff_eq, decide_eq_true_eq] at h
        obtain ⟨um, hum, -, rfl, ul, hul, il, hil, hge⟩ := h
        exact Or.inr ⟨create, creator, u, ul, il, hc, hcr, hvia, hum, hul, hil, hge⟩
  · exact Or.inl (eq_of_beq (require_eq_ok.mp h))

/-- **A banned user cannot join.** In every rule set (all nine flags arbitrary), for every state and
every power-level content: a `join` event whose target is currently banned is rejected — unless it
is the room's very first join (its only previous event is the create event), the one case the rules
allow without looking at the membership. -/
theorem banned_cannot_join (rules : AuthRules) (ev : Event) (f : Fetch) (target : Str)
    (hty : ev.type = tMember) (hsk : ev.stateKey = some target)
    (hm : contentMembership ev.content = .ok mJoin)
    (hprev : ∀ create, f tCreate [] = some create → ev.prevEvents ≠ [create.eventId])
    (hban : userMembership f target = .ok mBan) :
    authCheck rules ev f = false := by
  refine Bool.eq_false_iff.mpr fun h => ?_
  obtain ⟨-, cur, _, hcur, hnb, -⟩ := join_respects_join_rule rules ev f target hty hsk hm hprev h
  exact hnb (Except.ok.inj (hcur.symm.trans hban))

/-- **Banning needs strictly greater power.** An accepted `ban` comes from a joined sender whose
power level is at least the ban level and strictly greater than the target's. -/
theorem ban_needs_strictly_greater_power (rules : AuthRules) (ev : Event) (f : Fetch) (target : Str)
    (hty : ev.type = tMember) (hsk : ev.stateKey = some target)
    (hm : contentMembership ev.content = .ok mBan)
    (h : authCheck rules ev f = true) :
    userMembership f ev.sender = .ok mJoin ∧
    ∃ create creator sl tl bl, f tCreate [] = some create ∧ createCreator rules create = .ok creator ∧
      plUserLevel rules (fetchPowerLevels f) ev.sender creator = .ok sl ∧
      plUserLevel rules (fetchPowerLevels f) target creator = .ok tl ∧
      plIntOrDefault rules (fetchPowerLevels f) .ban = .ok bl ∧
      tl < sl ∧ bl ≤ sl := by
  obtain ⟨create, hc, -, h⟩ := member_inv hty hsk hm (authCheck_true.mp h)
  simp only [mBan_ne_mJoin, mBan_ne_mInvite, mBan_ne_mLeave, if_false, if_true, checkMemberBan, bind_eq_ok,
    require_eq_ok, beq_iff_eq, Bool.and_eq_true, decide_eq_true_eq] at h
  obtain ⟨_, hsm, -, rfl, creator, hcr, sl, hsl, bl, hbl, tl, htl, hge, hlt⟩ := h
  exact ⟨hsm, create, creator, sl, tl, bl, hc, hcr, hsl, htl, hbl, hlt, hge⟩

/-- **Kicking (and unbanning) needs strictly greater power.** An accepted `leave` aimed at another
user comes from a joined sender whose power level is at least the kick level and strictly greater
than the target's — and at least the ban level when the target is banned. -/
theorem kick_needs_strictly_greater_power (rules : AuthRules) (ev : Event) (f : Fetch) (target : Str)
    (hty : ev.type = tMember) (hsk : ev.stateKey = some target)
    (hm : contentMembership ev.content = .ok mLeave) (hother : ev.sender ≠ target)
    (h : authCheck rules ev f = true) :
    userMembership f ev.sender = .ok mJoin ∧
    ∃ create creator sl tl kl bl tm, f tCreate [] = some create ∧ createCreator rules create = .ok creator ∧
      plUserLevel rules (fetchPowerLevels f) ev.sender creator = .ok sl ∧
      plUserLevel rules (fetchPowerLevels f) target creator = .ok tl ∧
      plIntOrDefault rules (fetchPowerLevels f) .kick = .ok kl ∧
      plIntOrDefault rules (fetchPowerLevels f) .ban = .ok bl ∧
      userMembership f target = .ok tm ∧
      tl < sl ∧ kl ≤ sl ∧ (tm = mBan → bl ≤ sl) := by
  obtain ⟨create, hc, -, h⟩ := member_inv hty hsk hm (authCheck_true.mp h)
  simp only [mLeave_ne_mJoin, mLeave_ne_mInvite, if_true, checkMemberLeave, beq_false_of_ne hother,
    Bool.false_eq_true, if_false, bind_eq_ok, require_eq_ok, beq_iff_eq, Bool.and_eq_true, decide_eq_true_eq,
    Bool.not_eq_true', Bool.and_eq_false_imp, decide_eq_false_iff_not, Int.not_lt] at h
  obtain ⟨_, hsm, -, rfl, creator, hcr, tm, htm, sl, hsl, bl, hbl, -, hunban, kl, hkl, tl, htl, hge, hlt⟩ := h
  exact ⟨hsm, create, creator, sl, tl, kl, bl, tm, hc, hcr, hsl, htl, hkl, hbl, htm, hlt, hge, hunban⟩

/-- **The required power level is enforced.** Any accepted event other than `m.room.create`,
`m.room.member` and (where that special case exists) `m.room.aliases` comes from a joined sender
whose power level is at least the invite level (`m.room.third_party_invite`) or at least the level
required for the event's type (all other types), and does not carry another user's id as state key. -/
theorem required_power_enforced (rules : AuthRules) (ev : Event) (f : Fetch)
    (h1 : ev.type ≠ tCreate) (h2 : ev.type ≠ tMember)
    (h3 : ¬ (rules.specialCaseRoomAliases = true ∧ ev.type = tAliases))
    (h : authCheck rules ev f = true) :
    userMembership f ev.sender = .ok mJoin ∧
    ∃ create creator sl, f tCreate [] = some create ∧ createCreator rules create = .ok creator ∧
      plUserLevel rules (fetchPowerLevels f) ev.sender creator = .ok sl ∧
      (ev.type = tThirdPartyInvite →
        ∃ il, plIntOrDefault rules (fetchPowerLevels f) .invite = .ok il ∧ il ≤ sl) ∧
      (ev.type ≠ tThirdPartyInvite →
        ∃ req, plEventLevel rules (fetchPowerLevels f) ev.type ev.stateKey.isSome = .ok req ∧ req ≤ sl ∧
          foreignUserStateKey ev = false) := by
  obtain ⟨create, creator, sl, hc, hsm, hcr, hsl, h⟩ := authCheckR_general h1 h2 h3 (authCheck_true.mp h)
  refine ⟨hsm, create, creator, sl, hc, hcr, hsl, fun ht => ?_, fun ht => ?_⟩
  · simp only [ht, beq_self_eq_true, if_true, bind_eq_ok, require_eq_ok, decide_eq_true_eq] at h
    exact h
  · simp only [beq_false_of_ne ht, Bool.false_eq_true, if_false, bind_eq_ok, require_eq_ok, decide_eq_true_eq,
      Bool.not_eq_true'] at h
    obtain ⟨req, hreq, -, hge, -, hfk, -⟩ := h
    exact ⟨req, hreq, hge, hfk⟩

/-- **No self-promotion.** When a power-levels event is accepted over an existing one, every entry
of its `users` map — the sender's own included — and of `events` (and of `notifications` where that
is checked) either is unchanged or is at most the sender's current level; and every one of the
seven integer properties is unchanged or, read through its default, at most the sender's level.
Holds for all contents and all rule sets. -/
theorem no_self_promotion (rules : AuthRules) (ev : Event) (f : Fetch) (cur : Event)
    (hty : ev.type = tPowerLevels) (hcur : fetchPowerLevels f = some cur)
    (h : authCheck rules ev f = true) :
    ∃ sl, (∀ creator, plUserLevel rules (some cur) ev.sender creator = .ok sl) ∧
      (∃ newUsers curUsers, plUsers rules ev.content = .ok newUsers ∧ plUsers rules cur.content = .ok curUsers ∧
        ∀ u n, newUsers.bind (lastGet · u) = some n → curUsers.bind (lastGet · u) = some n ∨ n ≤ sl) ∧
      (∃ newEvents curEvents, plEvents rules ev.content = .ok newEvents ∧ plEvents rules cur.content = .ok curEvents ∧
        ∀ t n, newEvents.bind (lastGet · t) = some n → curEvents.bind (lastGet · t) = some n ∨ n ≤ sl) ∧
      (rules.limitNotificationsPowerLevels = true →
        ∃ newN curN, plNotifications rules ev.content = .ok newN ∧ plNotifications rules cur.content = .ok curN ∧
          ∀ k n, newN.bind (lastGet · k) = some n → curN.bind (lastGet · k) = some n ∨ n ≤ sl) ∧
      (∀ fld, ∃ c n, getAsInt rules cur.content fld = .ok c ∧ getAsInt rules ev.content fld = .ok n ∧
        (c = n ∨ n.getD fld.default ≤ sl)) := by
  obtain ⟨sl, hsl, h⟩ := authCheckR_powerLevels hty hcur (authCheck_true.mp h)
  obtain ⟨newInts, newEvents, newN, newUsers, curEvents, curUsers, i1, i2, i3, i4, i5, i6, i7, i8, i9, i10⟩ :=
    checkRoomPowerLevels_inv h
  refine ⟨sl, hsl, ⟨newUsers, curUsers, i4, i9, (checkPowerLevelMaps_inv i10).1⟩,
    ⟨newEvents, curEvents, i2, i6, (checkPowerLevelMaps_inv i7).1⟩, fun hl => ?_, fun fld => ?_⟩
  · obtain ⟨curN, j1, j2⟩ := i8 hl
    exact ⟨newN, curN, i3, j1, (checkPowerLevelMaps_inv j2).1⟩
  · obtain ⟨c, hcg, hor⟩ := checkIntFields_inv i5 fld (PLField.mem_all fld)
    obtain ⟨n, hng, hget⟩ := intFieldsMap_get i1 PLField.all_nodup fld (PLField.mem_all fld)
    exact ⟨c, n, hcg, hng, (hget ▸ hor).imp id And.right⟩

/-- **Knocking requires a knock rule.** An accepted `knock` needs a rule set with knocking and a join
rule that is `knock`, or `knock_restricted` in a rule set that has it. (This is the statement the
code violated before the F2 repair: in v7–v9 any join rule was accepted.) -/
theorem knock_requires_knock_rule (rules : AuthRules) (ev : Event) (f : Fetch) (target : Str)
    (hty : ev.type = tMember) (hsk : ev.stateKey = some target)
    (hm : contentMembership ev.content = .ok mKnock)
    (h : authCheck rules ev f = true) :
    rules.knocking = true ∧ ev.sender = target ∧
    ∃ jr, joinRule f = .ok jr ∧
      (jr = jrKnock ∨ (rules.knockRestrictedJoinRule = true ∧ jr = jrKnockRestricted)) := by
  obtain ⟨_, -, -, h⟩ := member_inv hty hsk hm (authCheck_true.mp h)
  simp only [beq_iff_eq, mKnock_ne_mJoin, mKnock_ne_mInvite, mKnock_ne_mLeave, mKnock_ne_mBan, if_false,
    Bool.and_eq_true, true_and] at h
  split at h
  · simp only [checkMemberKnock, bind_eq_ok, require_eq_ok, beq_iff_eq, Bool.or_eq_true, Bool.and_eq_true] at h
    obtain ⟨jr, hjr, -, hcond, -, hst, -⟩ := h
    exact ⟨‹_›, hst, jr, hjr, hcond⟩
  · cases h

/-- The same per room version number (every `v : Nat`, not only 1–11: the specification's rule
variants are functions of the number): in v7–v9 the join rule must be `knock`; from v10 `knock` or
`knock_restricted`; before v7 no knock is ever accepted. -/
theorem knock_requires_knock_rule_by_version (v : Nat) (ev : Event) (f : Fetch)
    (target : Str) (hty : ev.type = tMember) (hsk : ev.stateKey = some target)
    (hm : contentMembership ev.content = .ok mKnock)
    (h : authCheck (Spec.Auth.rulesOf v) ev f = true) :
    7 ≤ v ∧ ∃ jr, joinRule f = .ok jr ∧ (jr = jrKnock ∨ (10 ≤ v ∧ jr = jrKnockRestricted)) := by
  obtain ⟨hk, -, jr, hjr, hor⟩ := knock_requires_knock_rule _ ev f target hty hsk hm h
  have h7 : 7 ≤ v := by simpa [Spec.Auth.rulesOf, Spec.Auth.hasKnock] using hk
  refine ⟨h7, jr, hjr, ?_⟩
  rcases hor with h | ⟨hkr, h⟩
  · exact Or.inl h
  · exact Or.inr ⟨by simpa [Spec.Auth.rulesOf, Spec.Auth.hasKnockRestricted] using hkr, h⟩

/-- **Kick / ban need strictly greater power** (both statements together). -/
theorem kick_ban_need_strictly_greater_power (rules : AuthRules) (ev : Event) (f : Fetch) (target : Str)
    (hty : ev.type = tMember) (hsk : ev.stateKey = some target)
    (hm : contentMembership ev.content = .ok mBan ∨
          (contentMembership ev.content = .ok mLeave ∧ ev.sender ≠ target))
    (h : authCheck rules ev f = true) :
    userMembership f ev.sender = .ok mJoin ∧
    ∃ create creator sl tl, f tCreate [] = some create ∧ createCreator rules create = .ok creator ∧
      plUserLevel rules (fetchPowerLevels f) ev.sender creator = .ok sl ∧
      plUserLevel rules (fetchPowerLevels f) target creator = .ok tl ∧ tl < sl := by
  rcases hm with hm | ⟨hm, hne⟩
  · obtain ⟨h1, create, creator, sl, tl, bl, hc, hcr, hsl, htl, -, hlt, -⟩ :=
      ban_needs_strictly_greater_power rules ev f target hty hsk hm h
    exact ⟨h1, create, creator, sl, tl, hc, hcr, hsl, htl, hlt⟩
  · obtain ⟨h1, create, creator, sl, tl, kl, bl, tm, hc, hcr, hsl, htl, -, -, -, hlt, -⟩ :=
      kick_needs_strictly_greater_power rules ev f target hty hsk hm hne h
    exact ⟨h1, create, creator, sl, tl, hc, hcr, hsl, htl, hlt⟩

/-- **Nobody lowers an equal or higher user.** When a power-levels event is accepted over an existing
one, every entry of the current `users` map is kept, or belongs to the sender, or is strictly below
the sender's level. -/
theorem cannot_lower_equal_or_higher_user (rules : AuthRules) (ev : Event) (f : Fetch) (cur : Event)
    (hty : ev.type = tPowerLevels) (hcur : fetchPowerLevels f = some cur)
    (h : authCheck rules ev f = true) :
    ∃ sl newUsers curUsers, (∀ creator, plUserLevel rules (some cur) ev.sender creator = .ok sl) ∧
      plUsers rules ev.content = .ok newUsers ∧ plUsers rules cur.content = .ok curUsers ∧
      ∀ u c, curUsers.bind (lastGet · u) = some c →
        newUsers.bind (lastGet · u) = some c ∨ u = ev.sender ∨ c < sl := by
  obtain ⟨sl, hsl, h⟩ := authCheckR_powerLevels hty hcur (authCheck_true.mp h)
  obtain ⟨-, -, -, newUsers, -, curUsers, -, -, -, i4, -, -, -, -, i9, i10⟩ := checkRoomPowerLevels_inv h
  refine ⟨sl, newUsers, curUsers, hsl, i4, i9, fun u c hu => ?_⟩
  refine ((checkPowerLevelMaps_inv i10).2 u c hu).imp id fun h => ?_
  by_cases hus : u = ev.sender
  · exact Or.inl hus
  · exact Or.inr (by simpa [hus] using h)

/-! ## Part 3 — the model decides exactly as the specification -/

open Ruma.AuthSpec (InSpecDomain PLOk PLContentOk TpiSigsOk SigsOk Allows)
open Ruma.Spec.Auth (rulesOf orReject)

/-- The full-strength statement: for every room version, event and state, model = spec. -/
def authCheck_eq_specStatement : Prop :=
  ∀ v ∈ Spec.Auth.versions, ∀ (ev : Event) (f : Fetch),
    authCheck (rulesOf v) ev f = Spec.Auth.authorize v ev f

/-- **Model = spec** for every room version 1–11, every event and every state of the comparison
domain `InSpecDomain`: the model of `auth_check`, run with the rule flags the implementation uses for
that version, accepts exactly when the specification's authorization rules accept.
What `_partial` leaves out, against `authCheck_eq_specStatement` (both refuted below as stated):
(1) power-levels contents whose `events` map uses the spelling
`org.matrix.call.sdp_stream_metadata_changed` (ruma's `TimelineEventType` identifies it with
`m.call.sdp_stream_metadata_changed`; the spec compares type strings);
(2) third-party invites whose `signed.signatures` has an entity that is not an object (the
implementation's answer then depends on the order of the entities).
The remaining condition of `InSpecDomain` — the level maps have pairwise different keys — holds
for every JSON object. -/
theorem authCheck_eq_spec_partial (v : Nat) (hv : v ∈ Spec.Auth.versions) (rules : AuthRules)
    (hr : AuthRules.ofVersion? v = some rules) (ev : Event) (f : Fetch) (h : InSpecDomain ev f) :
    authCheck rules ev f = Spec.Auth.authorize v ev f := by
  have : rules = rulesOf v := by
    have := ofVersion_eq_spec v hv
    rw [hr] at this
    exact Option.some.inj this
  subst this
  exact (AuthSpec.authCheck_eq_authorize v ev f h).symm

/-- Rule 1 (`m.room.create`). -/
theorem create_eq_spec (v : Nat) (ev : Event) :
    Spec.Auth.rule1 v ev = .allow ↔ checkRoomCreate (rulesOf v) ev = .ok () :=
  AuthSpec.create_eq_spec v ev

/-- Rule 4.3 (join, including restricted joins). -/
theorem member_join_eq_spec (v : Nat) (ev : Event) (target : Str) (create : Event) (f : Fetch)
    (hpl : PLOk (fetchPowerLevels f)) :
    orReject (Spec.Auth.rule4_3 v ev target create f) = .allow ↔
      checkMemberJoin (rulesOf v) ev target create f = .ok () :=
  AuthSpec.member_join_eq_spec v ev target create f hpl

/-- Rule 4.4 (invite, including third-party invites). -/
theorem member_invite_eq_spec (v : Nat) (ev : Event) (target : Str) (create : Event) (f : Fetch)
    (hpl : PLOk (fetchPowerLevels f)) (hs : TpiSigsOk ev) :
    orReject (Spec.Auth.rule4_4 v ev target create f) = .allow ↔
      checkMemberInvite (rulesOf v) ev target create f = .ok () :=
  AuthSpec.member_invite_eq_spec v ev target create f hpl hs

/-- Rule 4.5 (leave, kick, unban). -/
theorem member_leave_eq_spec (v : Nat) (ev : Event) (target : Str) (create : Event) (f : Fetch)
    (hpl : PLOk (fetchPowerLevels f)) :
    orReject (Spec.Auth.rule4_5 v ev target create f) = .allow ↔
      checkMemberLeave (rulesOf v) ev target create f = .ok () :=
  AuthSpec.member_leave_eq_spec v ev target create f hpl

/-- Rule 4.6 (ban). -/
theorem member_ban_eq_spec (v : Nat) (ev : Event) (target : Str) (create : Event) (f : Fetch)
    (hpl : PLOk (fetchPowerLevels f)) :
    orReject (Spec.Auth.rule4_6 v ev target create f) = .allow ↔
      checkMemberBan (rulesOf v) ev target create f = .ok () :=
  AuthSpec.member_ban_eq_spec v ev target create f hpl

/-- Rule 4.7 (knock). -/
theorem member_knock_eq_spec (v : Nat) (ev : Event) (target : Str) (f : Fetch) :
    orReject (Spec.Auth.rule4_7 v ev target f) = .allow ↔
      checkMemberKnock (rulesOf v) ev target f = .ok () :=
  AuthSpec.member_knock_eq_spec v ev target f

/-- Rule 9 (power-level changes). -/
theorem power_levels_eq_spec (v : Nat) (ev : Event) (pl : Option Event) (sl : Int)
    (hpl : PLOk pl) (hev : PLContentOk ev.content) :
    orReject (Spec.Auth.rule9 v ev pl sl) = .allow ↔ checkRoomPowerLevels (rulesOf v) ev pl sl = .ok () :=
  AuthSpec.power_levels_eq_spec v ev pl sl hpl hev

/-- Rule 10a (redaction, v1–v2). -/
theorem redaction_eq_spec (v : Nat) (ev : Event) (pl : Option Event) (sl : Int) :
    orReject (Spec.Auth.rule10a v ev pl sl) = .allow ↔ checkRoomRedaction (rulesOf v) ev pl sl = .ok () :=
  AuthSpec.redaction_eq_spec v ev pl sl

/-! ### Concrete rooms: the hypotheses above are satisfiable, and the two exclusions are necessary -/

section Examples

def exCreator : Str := bs "@creator:s1"
def exAlice : Str := bs "@alice:s1"
def exBob : Str := bs "@bob:s1"

def exCreate : Event :=
  { eventId := bs "$create", roomId := bs "!room:s1", sender := exCreator, type := tCreate,
    stateKey := some [], content := [(bs "creator", .str exCreator)] }

def exMember (user membership : Str) : Event :=
  { eventId := bs "$m", roomId := bs "!room:s1", sender := user, type := tMember, stateKey := some user,
    content := [(bs "membership", .str membership)], authEvents := [bs "$create"] }

def exJoinRules (rule : Str) : Event :=
  { eventId := bs "$jr", roomId := bs "!room:s1", sender := exCreator, type := tJoinRules, stateKey := some [],
    content := [(bs "join_rule", .str rule)], authEvents := [bs "$create"] }

def exPowerLevels (content : Obj) : Event :=
  { eventId := bs "$pl", roomId := bs "!room:s1", sender := exCreator, type := tPowerLevels, stateKey := some [],
    content := content, authEvents := [bs "$create"] }

/-- A state as a list of state events. -/
def exState (l : List Event) : Fetch :=
  fun t k => l.find? (fun e => e.type == t && e.stateKey == some k)

/-- Alice, banned, tries to join a public room. -/
def exBannedJoin : Event := { exMember exAlice mJoin with eventId := bs "$ev", prevEvents := [bs "$x"] }
def exBannedState : Fetch := exState [exCreate, exJoinRules jrPublic, exMember exAlice mBan]

/-- Each scenario's facts are evaluated together, so that the kernel reads the room once. -/
theorem exBanned_eval :
    authCheck AuthRules.v7 exBannedJoin exBannedState = false ∧
    userMembership exBannedState exAlice = .ok mBan := by decide +kernel

example : authCheck AuthRules.v7 exBannedJoin exBannedState = false := exBanned_eval.1
example : userMembership exBannedState exAlice = .ok mBan := exBanned_eval.2

/-- Alice knocks on a public room: rejected in every version (accepted in v7–v9 before the F2 repair). -/
def exKnock : Event := { exMember exAlice mKnock with eventId := bs "$ev", prevEvents := [bs "$x"] }
def exPublicState : Fetch := exState [exCreate, exJoinRules jrPublic, exMember exCreator mJoin]
def exKnockState : Fetch := exState [exCreate, exJoinRules jrKnock, exMember exCreator mJoin]

theorem exKnock_eval :
    (∀ v ∈ Spec.Auth.versions, authCheck (rulesOf v) exKnock exPublicState = false) ∧
    authCheck AuthRules.v7 exKnock exKnockState = true ∧
    Spec.Auth.authorize 7 exKnock exPublicState = false := by decide +kernel

example : ∀ v ∈ Spec.Auth.versions, authCheck (rulesOf v) exKnock exPublicState = false := exKnock_eval.1
example : authCheck AuthRules.v7 exKnock exKnockState = true := exKnock_eval.2.1
example : Spec.Auth.authorize 7 exKnock exPublicState = false := exKnock_eval.2.2

/-- Alice (level 50) raises Bob to 50: allowed; to 51: rejected. -/
def exPl (bob : Int) : Obj :=
  [(bs "users", .obj [(exAlice, .int 50), (exBob, .int bob)])]
def exPlState : Fetch :=
  exState [exCreate, exMember exAlice mJoin, exPowerLevels [(bs "users", .obj [(exAlice, .int 50)])]]
def exPlChange (bob : Int) : Event :=
  { exPowerLevels (exPl bob) with eventId := bs "$ev", sender := exAlice, prevEvents := [bs "$x"] }

theorem exPl_eval :
    authCheck AuthRules.v11 (exPlChange 50) exPlState = true ∧
    authCheck AuthRules.v11 (exPlChange 51) exPlState = false ∧
    Spec.Auth.authorize 11 (exPlChange 51) exPlState = false := by decide +kernel

example : authCheck AuthRules.v11 (exPlChange 50) exPlState = true := exPl_eval.1
example : authCheck AuthRules.v11 (exPlChange 51) exPlState = false := exPl_eval.2.1
example : Spec.Auth.authorize 11 (exPlChange 51) exPlState = false := exPl_eval.2.2

/-- Allowed events that satisfy the hypotheses of the corollaries: a join into a public room, a kick
and a ban by the creator (level 100 without a power-levels event), an ordinary message. -/
def exJoin : Event := { exMember exAlice mJoin with eventId := bs "$ev", prevEvents := [bs "$x"] }
def exJoinedState : Fetch :=
  exState [exCreate, exJoinRules jrPublic, exMember exCreator mJoin, exMember exAlice mJoin]
def exKick : Event :=
  { exMember exAlice mLeave with eventId := bs "$ev", sender := exCreator, prevEvents := [bs "$x"] }
def exBan : Event :=
  { exMember exAlice mBan with eventId := bs "$ev", sender := exCreator, prevEvents := [bs "$x"] }
def exMessage : Event :=
  { eventId := bs "$ev", roomId := bs "!room:s1", sender := exAlice, type := bs "m.room.message",
    stateKey := none, content := [], authEvents := [bs "$create"], prevEvents := [bs "$x"] }

theorem exAllowed_eval :
    authCheck AuthRules.v1 exJoin exPublicState = true ∧
    authCheck AuthRules.v6 exKick exJoinedState = true ∧
    authCheck AuthRules.v6 exBan exJoinedState = true ∧
    authCheck AuthRules.v11 exMessage exJoinedState = true ∧
    authCheck AuthRules.v6
      { exMember exCreator mLeave with eventId := bs "$ev", sender := exAlice, prevEvents := [bs "$x"] }
      exJoinedState = false := by decide +kernel

example : authCheck AuthRules.v1 exJoin exPublicState = true := exAllowed_eval.1
example : authCheck AuthRules.v6 exKick exJoinedState = true := exAllowed_eval.2.1
example : authCheck AuthRules.v6 exBan exJoinedState = true := exAllowed_eval.2.2.1
example : authCheck AuthRules.v11 exMessage exJoinedState = true := exAllowed_eval.2.2.2.1
/-- Alice (level 0) cannot kick the creator. -/
example : authCheck AuthRules.v6
    { exMember exCreator mLeave with eventId := bs "$ev", sender := exAlice, prevEvents := [bs "$x"] }
    exJoinedState = false := exAllowed_eval.2.2.2.2

/-- Exclusion (1) is necessary: with the alias spelling as a key of `events`, model and spec differ. -/
def exAliasType : Str := bs "org.matrix.call.sdp_stream_metadata_changed"
def exAliasState : Fetch :=
  exState [exCreate, exMember exAlice mJoin, exPowerLevels [(bs "events", .obj [(exAliasType, .int 100)])]]
def exAliasEvent : Event :=
  { eventId := bs "$ev", roomId := bs "!room:s1", sender := exAlice,
    type := bs "m.call.sdp_stream_metadata_changed", stateKey := none, content := [],
    authEvents := [bs "$create"], prevEvents := [bs "$x"] }

theorem alias_witness :
    authCheck (rulesOf 11) exAliasEvent exAliasState = false ∧
    Spec.Auth.authorize 11 exAliasEvent exAliasState = true := by decide +kernel

/-- Exclusion (2) is necessary: an entity of `signatures` that is not an object, sorted before the
entity with the verifying signature, makes the implementation reject what the rule allows. -/
def exTpiSigned : JVal :=
  .obj [(bs "mxid", .str exBob),
        (bs "signatures", .obj [(bs "a", .int 5), (bs "id.s1", .obj [(bs "ed25519:1", .str (bs "SIG"))])]),
        (bs "token", .str (bs "tok"))]
def exTpiInvite : Event :=
  { eventId := bs "$ev", roomId := bs "!room:s1", sender := exAlice, type := tMember, stateKey := some exBob,
    content := [(bs "membership", .str mInvite), (bs "third_party_invite", .obj [(bs "signed", exTpiSigned)])],
    authEvents := [bs "$create"], prevEvents := [bs "$x"],
    tpiVerified := [(bs "ed25519:1", bs "SIG", bs "KEY")] }
def exTpiState : Fetch :=
  exState [exCreate, exMember exAlice mJoin,
    { eventId := bs "$tpi", roomId := bs "!room:s1", sender := exAlice, type := tThirdPartyInvite,
      stateKey := some (bs "tok"), content := [(bs "public_key", .str (bs "KEY"))] }]

theorem signature_entity_witness :
    authCheck (rulesOf 11) exTpiInvite exTpiState = false ∧
    Spec.Auth.authorize 11 exTpiInvite exTpiState = true := by decide +kernel

/-- Hence the unrestricted statement does not hold of the code as it is. -/
theorem authCheck_eq_specStatement_refuted : ¬ authCheck_eq_specStatement := by
  intro h
  have := h 11 (by decide) exAliasEvent exAliasState
  rw [alias_witness.1, alias_witness.2] at this
  exact absurd this (by decide)

/-- A content whose only property is a `users` object with distinct keys is well formed. -/
theorem plContentOk_users {kvs : List (Str × JVal)} (h : (kvs.map (·.1)).Nodup) :
    PLContentOk [(bs "users", .obj kvs)] := by
  refine ⟨fun name kvs' hk => ?_, fun kvs' hk => ?_⟩
  · simp only [Obj.get] at hk
    split at hk <;> cases hk
    exact h
  · rw [Obj.get, if_neg (mt bs_inj.mp (by simp))] at hk
    cases hk

/-- The power-levels event of a listed state is well formed when every listed one is. -/
theorem plOk_exState {l : List Event} (h : ∀ e ∈ l, e.type = tPowerLevels → PLContentOk e.content) :
    PLOk (fetchPowerLevels (exState l)) := fun e he =>
  h e (List.mem_of_find?_eq_some he) (by have := List.find?_some he; simp at this; exact this.1)

/-- The comparison domain is inhabited by the rooms above. -/
example : InSpecDomain (exPlChange 50) exPlState := by
  have hno : contentThirdPartyInvite (exPlChange 50).content = .ok none :=
    AuthSpec.contentThirdPartyInvite_absent _ (Or.inl (if_neg (mt bs_inj.mp (by simp))))
  refine ⟨plOk_exState ?_, fun _ => plContentOk_users (by decide +kernel),
    fun _ _ hc => nomatch hno.symm.trans hc⟩
  simp only [List.forall_mem_cons]
  exact ⟨fun h => absurd h tPowerLevels_ne_tCreate.symm, fun h => absurd h tPowerLevels_ne_tMember.symm,
    fun _ => plContentOk_users (by decide +kernel), nofun⟩

end Examples

end Ruma.Props.C08

#print axioms Ruma.Props.C08.rules_table_eq_spec
#print axioms Ruma.Props.C08.ofVersion_eq_spec
#print axioms Ruma.Props.C08.banned_cannot_join
#print axioms Ruma.Props.C08.join_respects_join_rule
#print axioms Ruma.Props.C08.ban_needs_strictly_greater_power
#print axioms Ruma.Props.C08.kick_needs_strictly_greater_power
#print axioms Ruma.Props.C08.kick_ban_need_strictly_greater_power
#print axioms Ruma.Props.C08.required_power_enforced
#print axioms Ruma.Props.C08.no_self_promotion
#print axioms Ruma.Props.C08.cannot_lower_equal_or_higher_user
#print axioms Ruma.Props.C08.knock_requires_knock_rule
#print axioms Ruma.Props.C08.knock_requires_knock_rule_by_version
#print axioms Ruma.Props.C08.authCheck_eq_spec_partial
#print axioms Ruma.Props.C08.create_eq_spec
#print axioms Ruma.Props.C08.member_join_eq_spec
#print axioms Ruma.Props.C08.member_invite_eq_spec
#print axioms Ruma.Props.C08.member_leave_eq_spec
#print axioms Ruma.Props.C08.member_ban_eq_spec
#print axioms Ruma.Props.C08.member_knock_eq_spec
#print axioms Ruma.Props.C08.power_levels_eq_spec
#print axioms Ruma.Props.C08.redaction_eq_spec
#print axioms Ruma.Props.C08.alias_witness
#print axioms Ruma.Props.C08.signature_entity_witness
#print axioms Ruma.Props.C08.authCheck_eq_specStatement_refuted
