/-
  C09 — auth-event selection matches the spec; authorization reads nothing else.
-/
import RumaModel.Lemmas.AuthRestrict
import RumaModel.Lemmas.AuthTypesSpec
import RumaModel.Props.C08
namespace Ruma.Props.C09
open Ruma Ruma.Auth Ruma.Ident
open Ruma.Spec.Auth (rulesOf)

/-- Every real room version has consistent flags (`knock_restricted` support implies `restricted`
support) — the fact `auth_types_for_event` relies on when it selects the authorising user's
membership only under `restricted_join_rule`. -/
theorem versions_consistent : ∀ v ∈ Spec.Auth.versions, (rulesOf v).Consistent := by decide

/-- **The selection is the specification's.** For every room version 1–11 and every event (all
types, memberships, third-party-invite and restricted-join contents, malformed contents):
`auth_types_for_event` fails exactly when the spec's selection meets an unreadable property, and
otherwise returns exactly the spec's set of `(type, state_key)` pairs. -/
theorem authTypes_eq_spec (v : Nat) (hv : v ∈ Spec.Auth.versions) (rules : AuthRules)
    (hr : AuthRules.ofVersion? v = some rules) (ev : Event) :
    AuthSpec.SameSelection (authTypesForEvent rules ev) (Spec.AuthTypes.selection v ev) := by
  have : rules = rulesOf v := by
    have := C08.ofVersion_eq_spec v hv
    rw [hr] at this
    exact Option.some.inj this
  subst this
  exact AuthSpec.authTypes_eq_spec v ev

/-- **Authorization reads nothing but the selected auth events.** If the selection for `ev` is `S`,
the decision against any state equals the decision against that state with every entry outside `S`
removed. (`rules.Consistent` holds for every room version, `versions_consistent`.) -/
theorem authCheck_reads_subset (rules : AuthRules) (hc : rules.Consistent) (ev : Event) (f : Fetch)
    (S : List (Str × Str)) (hS : authTypesForEvent rules ev = .ok S) :
    authCheck rules ev f = authCheck rules ev (restrict f S) :=
  authCheck_restrict rules hc ev f S hS

/-- **Non-interference.** Two states that agree on the selected pairs give the same decision:
adding, removing or replacing any other state entry never changes it. -/
theorem authCheck_agree_on_selection (rules : AuthRules) (hc : rules.Consistent) (ev : Event) (f g : Fetch)
    (S : List (Str × Str)) (hS : authTypesForEvent rules ev = .ok S)
    (hfg : ∀ k ∈ S, f k.1 k.2 = g k.1 k.2) :
    authCheck rules ev f = authCheck rules ev g := by
  rw [authCheck_reads_subset rules hc ev f S hS, authCheck_reads_subset rules hc ev g S hS,
    restrict_congr hfg]

/-- The state reads of the model (the read set compared with the recorded reads of the real
`auth_check` on every run) lie inside the selection. -/
theorem model_reads_within_selection (rules : AuthRules) (hc : rules.Consistent) (ev : Event) (f : Fetch)
    (S : List (Str × Str)) (hS : authTypesForEvent rules ev = .ok S) :
    ∀ k ∈ authReads rules ev f, k ∈ S :=
  fun _ hk => authReads_subset rules hc ev f S hS hk

/-- The full-strength statement planned in DESIGN.md: when the selection itself fails, the event is
rejected whatever the state. -/
def authCheck_types_errorStatement : Prop :=
  ∀ (rules : AuthRules) (ev : Event) (f : Fetch),
    authTypesForEvent rules ev = .error () → authCheck rules ev f = false

/-- The class the statement fails on: a `join` whose `join_authorised_via_users_server` is unreadable,
under rules with restricted joins (the selection needs the property, `auth_check` reads it only
when the join rule is `restricted` / `knock_restricted`). -/
def UnreadAuthorisingUser (rules : AuthRules) (ev : Event) : Prop :=
  contentMembership ev.content = .ok mJoin ∧ rules.restrictedJoinRule = true ∧
    contentJoinAuthorised ev.content = .error ()

/-- When the selection fails the event is rejected whatever the state — except in the class
`UnreadAuthorisingUser` (see `types_error_but_allowed`, findings/C09.json). -/
theorem authCheck_types_error_partial (rules : AuthRules) (ev : Event) (f : Fetch)
    (hS : authTypesForEvent rules ev = .error ()) (hx : ¬ UnreadAuthorisingUser rules ev) :
    authCheck rules ev f = false := by
  refine Bool.eq_false_iff.mpr fun h => ?_
  replace h := authCheck_true.mp h
  -- only an `m.room.member` event can be without a selection
  have hm : ev.type = tMember := by
    unfold authTypesForEvent at hS
    split at hS
    · cases hS
    · split at hS
      · exact eq_of_beq ‹_›
      · cases hS
  obtain ⟨create, -, h⟩ := authCheckR_member hm h
  -- an accepted one has a state key and a membership, and passed the check the membership selects
  unfold checkRoomMember at h
  split at h
  · cases h
  rename_i sk hsk
  simp only [bind_eq_ok] at h
  obtain ⟨-, -, m, hmem, h⟩ := h
  simp only [authTypesForEvent, hm, beq_false_of_ne tMember_ne_tCreate, Bool.false_eq_true, if_false,
    beq_self_eq_true, if_true, hsk, hmem, bind, Except.bind] at hS
  by_cases hi : m = mInvite
  · -- the invite check read `third_party_invite` and, if there is one, its token: so does the selection
    subst hi
    simp only [beq_false_of_ne mInvite_ne_mJoin, beq_self_eq_true, Bool.false_eq_true, if_false, if_true,
      checkMemberInvite, bind_eq_ok, tpiAuthType, Bool.false_and] at h hS
    obtain ⟨tpi, htpi, h⟩ := h
    cases tpi with
    | none => simp [htpi, bind, Except.bind] at hS
    | some signed =>
      simp only [checkThirdPartyInvite, bind_eq_ok] at h
      obtain ⟨-, -, -, -, tok, htok, -⟩ := h
      simp [htpi, htok, bind, Except.bind] at hS
  · -- otherwise only the authorising user of a restricted join is read
    simp only [beq_false_of_ne hi, Bool.false_eq_true, if_false] at hS
    split at hS
    · rename_i hj
      simp only [Bool.and_eq_true, beq_iff_eq] at hj
      refine hx ⟨hj.1 ▸ hmem, hj.2, ?_⟩
      unfold authorisedAuthType at hS
      cases hv : contentJoinAuthorised ev.content with
      | error e => rfl
      | ok via => cases via <;> simp [hv, bind, Except.bind] at hS
    · cases hS

/-! ### Concrete rooms -/

section Examples
open Ruma.Props.C08

/-- A `join` into a public v8 room whose `join_authorised_via_users_server` is the number 1. -/
def exOddJoin : Event :=
  { eventId := bs "$ev", roomId := bs "!room:s1", sender := exAlice, type := tMember, stateKey := some exAlice,
    content := [(bs "join_authorised_via_users_server", .int 1), (bs "membership", .str mJoin)],
    authEvents := [bs "$create"], prevEvents := [bs "$x"] }

/-- The negation witness: the selection fails, yet the event is allowed. -/
theorem types_error_but_allowed :
    authTypesForEvent AuthRules.v8 exOddJoin = .error () ∧
    authCheck AuthRules.v8 exOddJoin exPublicState = true := by decide +kernel

theorem authCheck_types_errorStatement_refuted : ¬ authCheck_types_errorStatement := by
  intro h
  have := h AuthRules.v8 exOddJoin exPublicState types_error_but_allowed.1
  rw [types_error_but_allowed.2] at this
  exact absurd this (by decide)

/-- The knock's selection and the two decisions below, evaluated together. -/
theorem exKnock_selection_eval :
    authTypesForEvent AuthRules.v7 exKnock =
      .ok [(tPowerLevels, []), (tMember, exAlice), (tCreate, []), (tJoinRules, [])] ∧
    authCheck AuthRules.v7 exKnock (exState [exCreate, exJoinRules jrKnock, exMember exBob mBan]) =
      authCheck AuthRules.v7 exKnock (exState [exCreate, exJoinRules jrKnock]) := by decide +kernel

/-- The hypotheses of `authCheck_reads_subset` are satisfiable: the selection of a knock. -/
example : authTypesForEvent AuthRules.v7 exKnock =
    .ok [(tPowerLevels, []), (tMember, exAlice), (tCreate, []), (tJoinRules, [])] := exKnock_selection_eval.1

/-- … and removing an unselected entry (Bob's membership) does not change the decision, as the theorem says. -/
example :
    authCheck AuthRules.v7 exKnock (exState [exCreate, exJoinRules jrKnock, exMember exBob mBan]) =
    authCheck AuthRules.v7 exKnock (exState [exCreate, exJoinRules jrKnock]) := exKnock_selection_eval.2

/-- A selection failure outside the excluded class: a member event without `membership`. -/
def exNoMembership : Event := { exOddJoin with content := [] }

example : authTypesForEvent AuthRules.v8 exNoMembership = .error () ∧
    ¬ UnreadAuthorisingUser AuthRules.v8 exNoMembership :=
  ⟨by decide +kernel, fun h => nomatch h.1⟩

end Examples

end Ruma.Props.C09

#print axioms Ruma.Props.C09.versions_consistent
#print axioms Ruma.Props.C09.authTypes_eq_spec
#print axioms Ruma.Props.C09.authCheck_reads_subset
#print axioms Ruma.Props.C09.authCheck_agree_on_selection
#print axioms Ruma.Props.C09.model_reads_within_selection
#print axioms Ruma.Props.C09.authCheck_types_error_partial
#print axioms Ruma.Props.C09.types_error_but_allowed
#print axioms Ruma.Props.C09.authCheck_types_errorStatement_refuted
