/-
  C10 — Identifier parsing is total, lossless and accepts only the spec's grammar.
  Property theorems only; helper lemmas live in `Lemmas/Ids*.lean`.

  Reading guide. `validate x k s` (`Model/Ids.lean`) is the validation function identifier type
  `k` is parsed with, on the bytes `s` of a Rust `&str`; its result is `ok`, `err` or `panic`.
  `x : Ext` holds the external code (`Ipv6Addr`/`Ipv4Addr` parsers, `char::is_alphanumeric`); all
  theorems hold for every `x`, except the converse direction ("required structure ⇒ accepted",
  `structure_implies_accept`, `accept_iff_structure`, `server_accept_iff_grammar`,
  `accepted_server_has_no_nul`), which assumes that `x.isIpv6` accepts no more than `ipv6Ref`, the
  transcription of `core::net::parser` in `Model/IdsIp.lean` that is compared with the real
  `Ipv6Addr::from_str` on every run. Rust strings are well-formed UTF-8: `utf8Valid s`. Totality is
  by construction (every model function is a total Lean function). `struct` / `gram`
  (`Spec/IdGrammar.lean`) are the required structure and the recommended grammar.

  Known findings (full statement as `…Statement`, proved part as `…_partial`, machine-checked
  counterexample): ports 65536..99999 (`grammar_not_always_accepted`; the exclusion is exact:
  `big_port_rejected`, `grammar_accept_iff`), over-long results of `UserId/RoomId/EventId::new`
  (`constructor_new_not_always_accepted`), `with_bytes(b"")` (`with_bytes_empty_panics`).
-/
import RumaModel.Lemmas.IdsIff
namespace Ruma.Props.C10
open Ruma Ruma.Ids Ruma.Spec.IdGrammar

/-! ## No panics -/

/-- Parsing any string as any identifier type never panics: every slice, index and `unwrap` in the
validators is in range and on a char boundary. -/
theorem validate_never_panics (x : Ext) (k : Kind) (s : Str) (h : utf8Valid s = true) :
    validate x k s ≠ .panic := by
  have hs := sep_of_utf8Valid s h
  cases k with
  | user | alias => exact delimitedValidate_ne_panic hs (by decide) (by decide)
  | room => exact roomIdValidate_ne_panic
  | roomOrAlias => exact roomOrAliasIdValidate_ne_panic hs
  | event => exact eventIdValidate_ne_panic hs
  | server => exact serverNameValidate_ne_panic hs
  | keyAny | keyVersion | keyBase64 => exact void_ne_panic (keyIdValidate_ne_panic hs)
  | mxc => exact void_ne_panic (mxcValidate_ne_panic hs)
  | roomVersion => exact roomVersionIdValidate_ne_panic
  | signingKeyVersion => exact serverSigningKeyVersionValidate_ne_panic
  | base64PublicKey => exact base64PublicKeyValidate_ne_panic
  | clientSecret => exact clientSecretValidate_ne_panic
  | sessionId => exact sessionIdValidate_ne_panic

/-- `user_id::validate_strict` never panics either. -/
theorem validate_strict_never_panics (x : Ext) (s : Str) (h : utf8Valid s = true) :
    userIdValidateStrict x s ≠ .panic := by
  have hs := sep_of_utf8Valid s h
  unfold userIdValidateStrict
  split
  · nofun
  · rcases parseId_cases (x := x) (sigil := 64) hs (by decide) with e | ⟨lp, srv, ⟨rfl, _⟩, e⟩ <;>
      rw [e]
    · nofun
    · simp only [slice_one_at hs (by decide : 64 < 128) (by decide : 58 < 128)]
      cases hc : localpartFullyConforming lp with
      | ok b => cases b <;> nofun
      | err => nofun
      | panic => exact absurd hc (localpartFullyConforming_ne_panic lp)

/-! ## Accessors: never panic, recompose to the original -/

/-- User IDs and room aliases: `localpart()`/`alias()` and `server_name()` return the two parts,
`sigil ++ localpart ++ ":" ++ server_name` is the original string, and the server name is itself an
accepted server name. -/
theorem accessors_recompose_delimited (x : Ext) (k : Kind) (s : Str) (h : utf8Valid s = true)
    (hk : k = .user ∨ k = .alias) (hv : validate x k s = .ok ()) :
    ∃ lp srv, localpart s = .ok lp ∧ serverNameOf s = .ok srv
      ∧ s = (if k = .user then 64 else 35) :: (lp ++ 58 :: srv)
      ∧ validate x .server srv = .ok () := by
  have hs := sep_of_utf8Valid s h
  have key : ∀ sigil, sigil ≠ 58 → sigil < 128 → delimitedValidate x sigil s = .ok () →
      ∃ lp srv, localpart s = .ok lp ∧ serverNameOf s = .ok srv ∧ s = sigil :: (lp ++ 58 :: srv)
        ∧ validate x .server srv = .ok () := by
    intro sigil h1 h2 hv
    obtain ⟨lp, srv, ⟨rfl, _, hlp, hsrv⟩, _⟩ := (delimitedValidate_ok_iff hs h1 h2).1 hv
    obtain ⟨a1, a2⟩ := accessors_delim hs h1 h2 hlp
    exact ⟨lp, srv, a1, a2, rfl,
      serverNameValidate_of_serverOk hs.tail.of_append_right.tail hsrv⟩
  rcases hk with rfl | rfl
  · exact key 64 (by decide) (by decide) hv
  · exact key 35 (by decide) (by decide) hv

/-- Event IDs: `localpart()` and `server_name()` recompose to the original, with or without a
server name. -/
theorem accessors_recompose_event (x : Ext) (s : Str) (h : utf8Valid s = true)
    (hv : validate x .event s = .ok ()) :
    ∃ lp, eventLocalpart s = .ok lp ∧
      ((eventServerName s = .ok none ∧ s = 36 :: lp) ∨
        ∃ srv, eventServerName s = .ok (some srv) ∧ s = 36 :: (lp ++ 58 :: srv)
          ∧ validate x .server srv = .ok ()) := by
  have hs := sep_of_utf8Valid s h
  rcases (eventIdValidate_ok_iff hs).1 hv with ⟨lp, srv, rfl, _, hlp, hsrv⟩ | ⟨hc, _, hhead⟩
  · obtain ⟨h1, h2⟩ := event_accessors_delim hs hlp
    exact ⟨lp, h1, .inr ⟨srv, h2, rfl,
      serverNameValidate_of_serverOk hs.tail.of_append_right.tail hsrv⟩⟩
  · cases s with
    | nil => cases hhead
    | cons c t =>
      cases hhead
      obtain ⟨h1, h2⟩ := event_accessors_plain hs (fun hm => hc (List.mem_cons_of_mem _ hm))
      exact ⟨t, h1, .inl ⟨h2, rfl⟩⟩

/-- Room IDs and room-or-alias IDs: `server_name()` never panics and, when it returns a server
name, that is an accepted server name following the first colon; `is_room_id()` is decided by the
sigil and never reaches `unreachable_unchecked`. -/
theorem accessors_room (x : Ext) (k : Kind) (s : Str) (h : utf8Valid s = true)
    (hk : k = .room ∨ k = .roomOrAlias) (hv : validate x k s = .ok ()) :
    roomServerName x s ≠ .panic
      ∧ (∀ srv, roomServerName x s = .ok (some srv) →
          (∃ pre, s = pre ++ 58 :: srv ∧ 58 ∉ pre) ∧ validate x .server srv = .ok ())
      ∧ (isRoomId s = .ok true ∨ isRoomId s = .ok false) := by
  have hs := sep_of_utf8Valid s h
  refine ⟨?_, fun srv hsrv => ?_, ?_⟩
  · rcases roomServerName_cases (x := x) hs with h | ⟨_, _, _, _, _, h⟩ <;> rw [h] <;> nofun
  · rcases roomServerName_cases (x := x) hs with h | ⟨pre, srv', rfl, hn, hok, h⟩ <;>
      rw [h] at hsrv <;> cases hsrv
    exact ⟨⟨pre, rfl, hn⟩, serverNameValidate_of_serverOk hs.of_append_right.tail hok⟩
  · have room : roomIdValidate s = .ok () → isRoomId s = .ok true := fun hv => by
      simp only [isRoomId, (roomIdValidate_ok_iff.1 hv).2.1]
    rcases hk with rfl | rfl
    · exact .inl (room hv)
    · rcases roomOrAliasIdValidate_ok_iff.1 hv with ⟨_, hv⟩ | ⟨hh, _⟩
      · exact .inl (room hv)
      · exact .inr (by simp only [isRoomId, hh])

/-- Server names: `host()` and `port()` never panic and `host ++ (":" ++ port)?` is the original
string (the port digits parse to the returned number); `is_ip_literal()` never panics. -/
theorem accessors_recompose_server (x : Ext) (s : Str) (h : utf8Valid s = true)
    (hv : validate x .server s = .ok ()) :
    ∃ hst, host s = .ok hst ∧ isIpLiteral x s ≠ .panic ∧
      ((port s = .ok none ∧ s = hst) ∨
        ∃ p v, port s = .ok (some v) ∧ s = hst ++ 58 :: p ∧ parseU16 p = some v) := by
  have hs := sep_of_utf8Valid s h
  obtain ⟨hst, hh, hrest⟩ := host_port_of_serverOk hs ((serverNameValidate_ok_iff hs).1 hv)
  exact ⟨hst, hh, by simp [isIpLiteral, hh], hrest⟩

/-- Key IDs: `algorithm()` and `key_name()` never panic (the `unreachable!()` in `key_name` is
unreachable) and `algorithm ++ ":" ++ key_name` is the original string. -/
theorem accessors_recompose_key (x : Ext) (k : Kind) (s : Str) (h : utf8Valid s = true)
    (hk : k = .keyAny ∨ k = .keyVersion ∨ k = .keyBase64) (hv : validate x k s = .ok ()) :
    ∃ alg name, keyAlgorithm s = .ok alg ∧ keyName x (keyKind k) s = .ok name
      ∧ s = alg ++ 58 :: name := by
  have hs := sep_of_utf8Valid s h
  have hv' : (keyIdValidate x (keyKind k) s).void = .ok () := by
    rcases hk with rfl | rfl | rfl <;> exact hv
  obtain ⟨alg, name, rfl, hn, _, hkn⟩ := (keyIdValidate_void_ok_iff hs).1 hv'
  obtain ⟨h1, h2⟩ := key_accessors hs hn hkn
  exact ⟨alg, name, h1, h2, rfl⟩

/-- MXC URIs: `parts()` (hence `server_name()`, `media_id()`, `validate()`, `is_valid()`) never
panics on any string, and on a valid URI `"mxc://" ++ server_name ++ "/" ++ media_id` is the
original string with an accepted server name. -/
theorem accessors_recompose_mxc (x : Ext) (s : Str) (h : utf8Valid s = true) :
    mxcParts x s ≠ .panic ∧
      (validate x .mxc s = .ok () →
        ∃ srv media, mxcParts x s = .ok (srv, media) ∧ s = bs "mxc://" ++ (srv ++ 47 :: media)
          ∧ validate x .server srv = .ok ()) := by
  have hs := sep_of_utf8Valid s h
  refine ⟨mxcParts_ne_panic hs, fun hv => ?_⟩
  obtain ⟨srv, media, hok⟩ := (mxcValidate_void_ok_iff hs).1 hv
  obtain ⟨rfl, _, _, hsrv⟩ := id hok
  exact ⟨srv, media, mxcParts_of_mxcOk hs hok, by rw [bs_mxc],
    serverNameValidate_of_serverOk hs.of_append_right.of_append_left hsrv⟩

/-! ## `RoomOrAliasId` from / to `RoomId` and `RoomAliasId` -/

/-- An accepted room alias starts with `#`. -/
theorem alias_accepted_head (x : Ext) (s : Str) (h : validate x .alias s = .ok ()) : s.head? = some 35 := by
  simp only [validate, roomAliasIdValidate, delimitedValidate, parseId] at h
  cases hv : validateId s 35 with
  | ok u => exact (validateId_ok_iff.mp hv).2
  | err => simp [hv] at h
  | panic => simp [hv] at h

/-- An accepted room ID starts with `!`. -/
theorem room_accepted_head (x : Ext) (s : Str) (h : validate x .room s = .ok ()) : s.head? = some 33 :=
  (roomIdValidate_ok_iff.1 h).2.1

/-- **`From<&RoomId>` / `From<OwnedRoomId> for RoomOrAliasId`** (`from_borrowed(room_id.as_str())`,
unchecked): every string the room ID parser accepts is accepted by the room-or-alias parser, so the
conversion cannot produce a `RoomOrAliasId` that `parse` would refuse. -/
theorem constructor_accepted_room_or_alias_from_room (x : Ext) (s : Str)
    (h : validate x .room s = .ok ()) : validate x .roomOrAlias s = .ok () :=
  roomOrAliasIdValidate_ok_iff.2 (.inl ⟨room_accepted_head x s h, h⟩)

/-- **`From<&RoomAliasId>` / `From<OwnedRoomAliasId> for RoomOrAliasId`**: every string the room
alias parser accepts is accepted by the room-or-alias parser. -/
theorem constructor_accepted_room_or_alias_from_alias (x : Ext) (s : Str)
    (h : validate x .alias s = .ok ()) : validate x .roomOrAlias s = .ok () :=
  roomOrAliasIdValidate_ok_iff.2 (.inr ⟨alias_accepted_head x s h, h⟩)

/-- **`TryFrom<&RoomOrAliasId> for &RoomId` / `&RoomAliasId`** (`variant()` looks at the first
byte and the string is reinterpreted unchecked): an accepted room-or-alias ID is an accepted room ID
when it starts with `!` and an accepted room alias when it starts with `#`, and it starts with one
of the two. -/
theorem room_or_alias_accepted_split (x : Ext) (s : Str) (h : validate x .roomOrAlias s = .ok ()) :
    (s.head? = some 33 ∧ validate x .room s = .ok ()) ∨
    (s.head? = some 35 ∧ validate x .alias s = .ok ()) :=
  roomOrAliasIdValidate_ok_iff.1 h

/-- The hypothesis is satisfiable: `!r:a` is an accepted room ID (hence a room-or-alias ID). -/
example (x : Ext) :
    validate x .room (bs "!r:a") = .ok () ∧ validate x .roomOrAlias (bs "!r:a") = .ok () := by
  have h : validate x .room (bs "!r:a") = .ok () := by
    show roomIdValidate (bs "!r:a") = .ok ()
    decide +kernel
  exact ⟨h, constructor_accepted_room_or_alias_from_room x _ h⟩

/-! ## Accepted ⇒ required structure -/

/-- Every accepted identifier has the structure the specification requires of its type: sigil, at
most 255 bytes; user IDs and room aliases: no NUL or colon in the localpart; room IDs: no NUL
anywhere; event IDs with a server part: no colon in the localpart (NUL is *not* excluded there,
see the example after `length_limit`); a server name that is a non-empty hostname / IPv4
literal or a bracketed IPv6 literal with an optional port of 1–5 digits; key IDs: a non-empty
colon-free algorithm and a key name valid for its type; MXC URIs: `mxc://`, such a server name, `/`, a
media ID of letters, digits, `-`, `_`; room versions: 1–32 code points of `[a-zA-Z0-9.-]`; session
IDs: 1–255 bytes of `[0-9a-zA-Z.=_-]`; client secrets, signing key versions, base64 public keys:
non-empty (client secrets at most 255 bytes) with every ASCII character in the specified set
(`Spec.IdGrammar.struct`). -/
theorem accept_implies_structure (x : Ext) (k : Kind) (s : Str) (h : utf8Valid s = true)
    (hv : validate x k s = .ok ()) : struct x.isIpv6 k s = true := by
  have hs := sep_of_utf8Valid s h
  have delim : ∀ sigil, sigil ≠ 58 → sigil < 128 → delimitedValidate x sigil s = .ok () →
      (max255 s && delimited sigil localpartOk (structServerName x.isIpv6) s) = true :=
    fun sigil h1 h2 hv => by
      obtain ⟨lp, srv, hd, h0⟩ := (delimitedValidate_ok_iff hs h1 h2).1 hv
      exact delimited_of_delimOk hd (localpartOk_iff.2 ⟨hd.2.2.1, h0⟩)
  have room : roomIdValidate s = .ok () → structRoom s = true := fun hv => by
    obtain ⟨h1, h2, h3⟩ := roomIdValidate_ok_iff.1 hv
    simp [structRoom, max255, h1, h2, all_ne_iff.2 h3]
  cases k with
  | user => exact delim 64 (by decide) (by decide) hv
  | alias => exact delim 35 (by decide) (by decide) hv
  | room => exact room hv
  | roomOrAlias =>
    refine Bool.or_eq_true_iff.2 ((roomOrAliasIdValidate_ok_iff.1 hv).imp (room ·.2) ?_)
    exact fun h => delim 35 (by decide) (by decide) h.2
  | event =>
    simp only [struct, Bool.and_eq_true, Bool.or_eq_true, max255, decide_eq_true_eq]
    rcases (eventIdValidate_ok_iff hs).1 hv with ⟨lp, srv, hd⟩ | ⟨hc, hlen, hh⟩
    · exact ⟨⟨hd.2.1, by rw [hd.1]; rfl⟩, .inr (delimited_iff.2
        ⟨lp, srv, hd.1, all_ne_iff.2 hd.2.2.1, structServerName_of_serverOk hd.2.2.2⟩)⟩
    · exact ⟨⟨hlen, hh⟩, .inl (all_ne_iff.2 hc)⟩
  | server => exact structServerName_of_serverOk ((serverNameValidate_ok_iff hs).1 hv)
  | keyAny => exact cutAt_of_keyIdValidate hs hv (fun _ _ => rfl)
  | keyVersion =>
    exact cutAt_of_keyIdValidate hs hv fun _ hn => (serverSigningKeyVersionValidate_ok_iff.1 hn).1
  | keyBase64 =>
    exact cutAt_of_keyIdValidate hs hv fun _ hn => (base64PublicKeyValidate_ok_iff.1 hn).1
  | mxc =>
    obtain ⟨srv, media, rfl, _, hmed, hsrv⟩ := (mxcValidate_void_ok_iff hs).1 hv
    exact mxc_iff.2 ⟨srv, media, rfl, structServerName_of_serverOk hsrv,
      List.all_congr (l₁ := media) rfl mediaChar_eq ▸ hmed⟩
  | roomVersion => exact roomVersionIdValidate_ok_iff.1 hv
  | signingKeyVersion => exact (serverSigningKeyVersionValidate_ok_iff.1 hv).1
  | base64PublicKey => exact (base64PublicKeyValidate_ok_iff.1 hv).1
  | clientSecret => exact (clientSecretValidate_ok_iff.1 hv).1
  | sessionId => exact sessionIdValidate_ok_iff.1 hv

/-- Where the code enforces a length limit, an accepted identifier is within it: 255 bytes for
user, room, alias, room-or-alias and event IDs, client secrets and session IDs; 32 code points for
room versions. (Server names, key IDs and MXC URIs have no limit in the code.) -/
theorem length_limit (x : Ext) (k : Kind) (s : Str) (h : utf8Valid s = true)
    (hv : validate x k s = .ok ()) :
    (k ∈ [Kind.user, .room, .alias, .roomOrAlias, .event, .clientSecret, .sessionId] →
        s.length ≤ 255)
      ∧ (k = .roomVersion → codePoints s ≤ 32) := by
  have hst := accept_implies_structure x k s h hv
  constructor
  · intro hk
    simp only [List.mem_cons, List.not_mem_nil, or_false] at hk
    rcases hk with rfl | rfl | rfl | rfl | rfl | rfl | rfl <;>
      simp only [struct, structRoom, structAlias, max255, Bool.and_eq_true, Bool.or_eq_true,
        decide_eq_true_eq] at hst
    · exact hst.1
    · exact hst.1.1
    · exact hst.1
    · rcases hst with hst | hst
      · exact hst.1.1
      · exact hst.1
    · exact hst.1.1
    · exact hst.1.2
    · exact hst.2
  · rintro rfl
    simp only [struct, Bool.and_eq_true, decide_eq_true_eq] at hst
    exact hst.2

/-- What the structure of an event ID does **not** include: NUL-freeness. `"$\0:a"` is an accepted
event ID of the model (and of the real `event_id::validate`, which like the model only looks for
the sigil, the length, and — when a colon is present — a valid server name after the first colon).
The specification gives no character set for the opaque part of a v1/v2 event ID, so this is
recorded as an observation, not as a finding. -/
example : validate ⟨fun _ => false, fun _ => false, fun _ => false⟩ .event [36, 0, 58, 97] = .ok () ∧
    struct (fun _ => false) .event [36, 0, 58, 97] = true := by decide

/-! ## Recommended grammar ⇒ accepted -/

/-- Full-strength statement: every identifier in the specification's recommended grammar is
accepted. It is FALSE for the code as it is (see `grammar_not_always_accepted`). -/
def grammar_implies_acceptStatement : Prop :=
  ∀ (x : Ext) (k : Kind) (s : Str), utf8Valid s = true → gram x.isIpv6 k s = true →
    validate x k s = .ok ()

/-- Proved part: every identifier in the recommended grammar is accepted, EXCEPT when its server
name carries a port whose value exceeds 65535 (`hasBigPort`). Missing relative to the full
statement: exactly those identifiers (known finding F10, fourth item). -/
theorem grammar_implies_accept_partial (x : Ext) (k : Kind) (s : Str) (h : utf8Valid s = true)
    (hg : gram x.isIpv6 k s = true) (hp : hasBigPort x.isIpv6 k s = false) :
    validate x k s = .ok () := by
  have hs := sep_of_utf8Valid s h
  rw [hasBigPort_eq] at hp
  have hh : ∀ h, gramHost x.isIpv6 h = true → HostOk x h := fun _ => hostOk_of_gramHost
  have alias : gramAlias x.isIpv6 s = true →
      delimited 35 (fun _ => true) (portTooBig (gramHost x.isIpv6)) s = false →
      roomAliasIdValidate x s = .ok () :=
    delimitedValidate_of_delimited hs (by decide) (by decide) hh (fun _ => nonEmptyLocalpart_facts)
  cases k with
  | user =>
    exact delimitedValidate_of_delimited hs (by decide) (by decide) hh (fun _ => userIdChar_facts)
      hg hp
  | room => exact roomIdValidate_of_gramRoom hg
  | alias => exact alias hg hp
  | roomOrAlias =>
    rcases Bool.or_eq_true_iff.1 hg with hg | hg
    · exact constructor_accepted_room_or_alias_from_room x s (roomIdValidate_of_gramRoom hg)
    · exact constructor_accepted_room_or_alias_from_alias x s (alias hg hp)
  | event => exact eventIdValidate_of_gram hs hg hp
  | server => exact serverNameValidate_of_serverOk hs (serverOk_of_withPort hh hg hp)
  | keyAny => exact keyIdValidate_of_cutAt hs (fun _ => gramAlg_facts) (fun _ _ _ _ => rfl) hg
  | keyVersion =>
    exact keyIdValidate_of_cutAt hs (fun _ => gramAlg_facts)
      (fun _ _ _ => serverSigningKeyVersionValidate_of_gram) hg
  | keyBase64 =>
    exact keyIdValidate_of_cutAt hs (fun _ => gramAlg_facts)
      (fun _ _ _ => base64PublicKeyValidate_of_gram) hg
  | mxc =>
    exact mxcValidate_of_mxc hs hh (fun _ => gramHost_not_mem (.inr rfl))
      (fun _ hm => List.all_eq_true.2 (nonEmptyAll_iff.1 hm).2) hg hp
  | roomVersion => exact roomVersionIdValidate_of_gram hg
  | signingKeyVersion => exact serverSigningKeyVersionValidate_of_gram hg
  | base64PublicKey => exact base64PublicKeyValidate_of_gram hg
  | clientSecret => exact clientSecretValidate_of_gram hg
  | sessionId => exact sessionIdValidate_ok_iff.2 hg

/-- Negation witness (machine-checked finding): `a:99999` is a server name of the recommended
grammar (`1*5DIGIT` port) and is rejected, so the full-strength statement is false. -/
theorem grammar_not_always_accepted : ¬ grammar_implies_acceptStatement := fun h => by
  have := h ⟨fun _ => false, fun _ => false, fun _ => false⟩ .server (bs "a:99999")
  -- as a character list: the kernel decodes a string literal in quadratic time
  rw [bs, String.toList_ofList] at this
  exact absurd (this (by decide +kernel) (by decide +kernel)) (by decide +kernel)

/-- The witness is exactly the excluded case, and the hypotheses of the partial theorem are
satisfiable on non-trivial inputs (a user ID with an IPv6 literal and a port; the largest port). -/
example : hasBigPort (fun _ => false) .server [97, 58, 57, 57, 57, 57, 57] = true := by
  decide +kernel
-- "@alice:[::1]:8448"
example :
    gram (fun c => c == [58, 58, 49]) .user
        [64, 97, 108, 105, 99, 101, 58, 91, 58, 58, 49, 93, 58, 56, 52, 52, 56] = true
    ∧ hasBigPort (fun c => c == [58, 58, 49]) .user
        [64, 97, 108, 105, 99, 101, 58, 91, 58, 58, 49, 93, 58, 56, 52, 52, 56] = false := by
  decide +kernel
-- "a:65535"
example : gram (fun _ => false) .server [97, 58, 54, 53, 53, 51, 53] = true
    ∧ hasBigPort (fun _ => false) .server [97, 58, 54, 53, 53, 51, 53] = false := by
  decide +kernel

/-- The exclusion of `grammar_implies_accept_partial` is exact: an identifier whose server name
carries a port above 65535 is rejected (for every behaviour of the external code). Together: an
identifier of the recommended grammar is accepted if and only if it has no such port. -/
theorem big_port_rejected (x : Ext) (k : Kind) (s : Str) (h : utf8Valid s = true)
    (hb : hasBigPort x.isIpv6 k s = true) : validate x k s ≠ .ok () := by
  intro hv
  rw [hasBigPort_eq, accepted_not_bigPort (fun _ => gramHost_not_mem (.inr rfl))
    (sep_of_utf8Valid s h) hv] at hb
  cases hb

/-- For identifiers of the recommended grammar: accepted ⇔ no port above 65535. -/
theorem grammar_accept_iff (x : Ext) (k : Kind) (s : Str) (h : utf8Valid s = true)
    (hg : gram x.isIpv6 k s = true) :
    validate x k s = .ok () ↔ hasBigPort x.isIpv6 k s = false :=
  ⟨fun hv => Bool.eq_false_iff.2 fun hb => big_port_rejected x k s h hb hv,
    grammar_implies_accept_partial x k s h hg⟩

/-- An identifier in the recommended user ID grammar also passes `validate_strict`. -/
theorem grammar_implies_strict (x : Ext) (s : Str) (h : utf8Valid s = true)
    (hg : gram x.isIpv6 .user s = true) (hp : hasBigPort x.isIpv6 .user s = false) :
    userIdValidateStrict x s = .ok () := by
  have hs := sep_of_utf8Valid s h
  rw [hasBigPort_eq] at hp
  rw [show gram x.isIpv6 .user s = (max255 s && delimited 64 (nonEmptyAll userIdChar)
    (gramServerName x.isIpv6) s) from rfl, Bool.and_eq_true] at hg
  -- the cut that makes `s` a user ID of the grammar is the one `parse_id` finds
  obtain ⟨lp, srv, hd, hl⟩ := delimOk_of_delimited (fun _ => hostOk_of_gramHost)
    (fun l hl => (userIdChar_facts hl).1) hg.1 hg.2 hp
  rw [userIdValidateStrict, if_neg (Nat.not_lt.2 hd.2.1), parseId_of_delimOk hs (by decide) hd]
  obtain ⟨rfl, _⟩ := hd
  simp only [slice_one_at hs (by decide : 64 < 128) (by decide : 58 < 128),
    localpartFullyConforming_ok_true_iff.2 hl]

/-! ## Constructors -/

/-- Whatever `UserId::parse_with_server_name` returns is accepted by the user ID parser; and when
the argument is a bare localpart the result is `"@" ++ id ++ ":" ++ server`. -/
theorem constructor_accepted_parse_with_server_name (x : Ext) (id server r : Str)
    (hr : parseWithServerName x id server = .ok r) :
    validate x .user r = .ok () ∧ (id.head? ≠ some 64 → r = 64 :: (id ++ 58 :: server)) := by
  simp only [parseWithServerName] at hr
  split at hr
  · next h1 =>
    split at hr
    · next hu => cases hr; exact ⟨hu, fun h => absurd h1 h⟩
    · cases hr
    · cases hr
  · split at hr
    · cases hr
    · split at hr
      · next hu => cases hr; exact ⟨hu, fun _ => rfl⟩
      · cases hr
      · cases hr

/-- `parse_with_server_name` never panics, and completes a bare localpart (no `:`/NUL) with an
accepted server name whenever the result fits in 255 bytes. -/
theorem parse_with_server_name_total (x : Ext) (id server : Str) (h : utf8Valid id = true)
    (hsrv : utf8Valid server = true) :
    parseWithServerName x id server ≠ .panic
      ∧ (id.head? ≠ some 64 → localpartCompat id = true → validate x .server server = .ok () →
          id.length + server.length + 2 ≤ 255 →
          parseWithServerName x id server = .ok (64 :: (id ++ 58 :: server))) := by
  have hs1 := sep_of_utf8Valid id h
  have hs2 := sep_of_utf8Valid server hsrv
  -- the completed string is `Sep` too: its pieces are, and the joints are ASCII
  have hfull : Sep (64 :: (id ++ 58 :: server)) := by
    refine (hs1.append (hs2.cons fun _ c hc => ?_) (fun c hc => by cases hc; rfl)).cons
      fun _ c hc => ?_
    · cases server with
      | nil => cases hc
      | cons a t => cases hc; exact not_isCont_head_of_utf8Valid hsrv
    · cases id with
      | nil => cases hc; rfl
      | cons a t => cases hc; exact not_isCont_head_of_utf8Valid h
  have np : ∀ s, Sep s → userIdValidate x s ≠ .panic := fun s hs =>
    delimitedValidate_ne_panic hs (by decide) (by decide)
  constructor
  · simp only [parseWithServerName]
    split
    · split
      · nofun
      · nofun
      · next hu => exact absurd hu (np id hs1)
    · split
      · nofun
      · split
        · nofun
        · nofun
        · next hu => exact absurd hu (np _ hfull)
  · intro h1 h2 h3 h4
    obtain ⟨hc, h0⟩ := localpartCompat_iff.1 h2
    have hok : userIdValidate x (64 :: (id ++ 58 :: server)) = .ok () :=
      delimitedValidate_of_delimOk hfull (by decide) (by decide)
        ⟨rfl, by simp; omega, hc, (serverNameValidate_ok_iff hs2).1 h3⟩ h0
    simp only [parseWithServerName, h1, if_false, h2, Bool.not_true, Bool.false_eq_true, hok]

/-- `KeyId::from_parts(algorithm, key_name)` with a non-empty colon-free algorithm name and a valid
key name is accepted by the key ID parser, and its accessors return the two parts. -/
theorem constructor_accepted_key_from_parts (x : Ext) (k : Kind) (alg name : Str)
    (h : utf8Valid (keyFromParts alg name) = true)
    (hk : k = .keyAny ∨ k = .keyVersion ∨ k = .keyBase64)
    (halg : alg ≠ []) (hcol : 58 ∉ alg) (hname : keyNameValidate x (keyKind k) name = .ok ()) :
    validate x k (keyFromParts alg name) = .ok ()
      ∧ keyAlgorithm (keyFromParts alg name) = .ok alg
      ∧ keyName x (keyKind k) (keyFromParts alg name) = .ok name := by
  have hs := sep_of_utf8Valid _ h
  obtain ⟨h1, h2⟩ := key_accessors hs hcol hname
  have hv := (keyIdValidate_void_ok_iff hs).2 ⟨alg, name, rfl, hcol, halg, hname⟩
  refine ⟨?_, h1, h2⟩
  rcases hk with rfl | rfl | rfl <;> exact hv

/-- Full-strength statement: `UserId::new`, `RoomId::new`, `EventId::new` (sigil, a random
alphanumeric localpart, `:`, the given accepted server name) build identifiers the parser of the same
type accepts. It is FALSE for the code as it is (see `constructor_new_not_always_accepted`): server
names have no length limit and the constructors do not check the 255-byte limit of the result.
(`0 ∉ server` for room IDs only restricts the external parameter `x.isIpv6`: a host of an accepted
server name consists of letters, digits, `-`, `.` or is a bracketed literal `x.isIpv6` accepted, and
`Ipv6Addr::from_str` accepts no NUL — see `ipv6Ref_chars`.) -/
def constructor_accepted_newStatement : Prop :=
  ∀ (x : Ext) (k : Kind) (lp server : Str),
    utf8Valid (newId (newSigil k) lp server) = true → (k = .user ∨ k = .room ∨ k = .event) →
    (∀ b ∈ lp, isAlnum b = true) → validate x .server server = .ok () → utf8Valid server = true →
    (k = .room → 0 ∉ server) →
    validate x k (newId (newSigil k) lp server) = .ok ()

/-- Proved part: the identifiers built by `UserId::new`, `RoomId::new`, `EventId::new` are accepted
PROVIDED the result fits in 255 bytes (`hlen`). Missing relative to the full statement: server names
of 242 bytes or more (user IDs, 12-character localpart) / 236 bytes or more (room and event IDs,
18-character localpart) — recorded as a known finding. -/
theorem constructor_accepted_new_partial (x : Ext) (k : Kind) (lp server : Str)
    (h : utf8Valid (newId (newSigil k) lp server) = true)
    (hk : k = .user ∨ k = .room ∨ k = .event)
    (hlp : ∀ b ∈ lp, isAlnum b = true) (hsrv : validate x .server server = .ok ())
    (hsu : utf8Valid server = true) (h0 : k = .room → 0 ∉ server)
    (hlen : lp.length + server.length + 2 ≤ 255) :
    validate x k (newId (newSigil k) lp server) = .ok () := by
  have hs := sep_of_utf8Valid _ h
  have hok := (serverNameValidate_ok_iff (sep_of_utf8Valid _ hsu)).1 hsrv
  have hc : 58 ∉ lp := fun hm => absurd (hlp 58 hm) (by decide)
  have hn : 0 ∉ lp := fun hm => absurd (hlp 0 hm) (by decide)
  have hd : ∀ sigil, DelimOk x sigil (newId sigil lp server) lp server := fun sigil =>
    ⟨rfl, by simp [newId]; omega, hc, hok⟩
  rcases hk with rfl | rfl | rfl
  · exact delimitedValidate_of_delimOk hs (by decide) (by decide) (hd 64) hn
  · exact roomIdValidate_ok_iff.2 ⟨(hd 33).2.1, rfl, by simp [newId, newSigil, hn, h0 rfl]⟩
  · exact (eventIdValidate_ok_iff hs).2 (.inl ⟨lp, server, hd 36⟩)

/-- Negation witness (machine-checked finding): `UserId::new` with the 242-byte server name
`aaa…a` builds `@` + 12 alphanumerics + `:` + server = 256 bytes, which `UserId::parse` rejects. -/
theorem constructor_new_not_always_accepted : ¬ constructor_accepted_newStatement := fun h =>
  absurd (h ⟨fun _ => false, fun _ => false, fun _ => false⟩ .user
    (List.replicate 12 97) (List.replicate 242 97)
    (by decide +kernel) (.inl rfl) (by decide +kernel) (by decide +kernel) (by decide +kernel)
    nofun) (by decide +kernel)

/-- The hypotheses of the partial theorem are satisfiable at the boundary: a 241-byte server name
gives a 255-byte user ID. -/
example : validate ⟨fun _ => false, fun _ => false, fun _ => false⟩ .user
    (newId (newSigil .user) (List.replicate 12 97) (List.replicate 241 97)) = .ok () := by
  decide +kernel

/-- Full-strength statement: `OwnedBase64PublicKey::with_bytes` never panics and its result is
accepted by the `Base64PublicKey` parser. FALSE for the code as it is (`with_bytes_empty_panics`). -/
def constructor_with_bytesStatement : Prop :=
  ∀ (x : Ext) (bytes : List Nat),
    ∃ t, withBytes x bytes = .ok t ∧ validate x .base64PublicKey t = .ok ()

/-- Proved part: for every NON-EMPTY byte string `with_bytes` returns its unpadded base64 text, and
that text is accepted by the parser. Missing relative to the full statement: the empty byte string. -/
theorem constructor_with_bytes_partial (x : Ext) (bytes : List Nat) (hne : bytes ≠ []) :
    withBytes x bytes = .ok (b64 bytes) ∧ validate x .base64PublicKey (b64 bytes) = .ok () := by
  have hv : base64PublicKeyValidate x (b64 bytes) = .ok () := by
    apply base64PublicKeyValidate_of_gram
    rw [nonEmptyAll_iff]
    exact ⟨b64_ne_nil hne, b64_all bytes⟩
  exact ⟨by simp [withBytes, hv], hv⟩

/-- Negation witness (machine-checked finding): `with_bytes(b"")` encodes to the empty text, which
`base64_public_key::validate` rejects (`Error::Empty`), and the constructor reaches
`unreachable!()`: a panic. -/
theorem with_bytes_empty_panics : ¬ constructor_with_bytesStatement := by
  intro h
  obtain ⟨t, ht, _⟩ := h ⟨fun _ => false, fun _ => false, fun _ => false⟩ []
  revert ht
  simp [withBytes, b64, base64PublicKeyValidate]

example (x : Ext) : withBytes x [] = .panic := by simp [withBytes, b64, base64PublicKeyValidate]

/-- `ClientSecret::new()` builds the "simple" form of a UUID: 32 lower-case hexadecimal digits. Every
such string is accepted by the client secret parser. -/
theorem constructor_accepted_client_secret (x : Ext) (s : Str) (hlen : s.length = 32)
    (hhex : ∀ b ∈ s, isDigit b = true ∨ (97 ≤ b ∧ b ≤ 102)) :
    validate x .clientSecret s = .ok () := by
  apply clientSecretValidate_of_gram
  rw [Bool.and_eq_true, nonEmptyAll_iff]
  refine ⟨⟨by intro h; simp [h] at hlen, ?_⟩, by simp [max255]; omega⟩
  intro b hb
  rcases hhex b hb with h | h
  · simp [alnum_eq, isAlnum, h]
  · have : isLower b = true := by simp [isLower]; omega
    simp [alnum_eq, isAlnum, this]

/-! ## `UserId` conformance accessors -/

/-- On an accepted user ID the conformance accessors never panic; `validate_strict()` (the method)
agrees with the free function `user_id::validate_strict`; it succeeds exactly when the localpart is in
the specification's current user ID grammar (`1*user_id_char`); and `is_historical()` is true exactly
when `validate_historical()` succeeds and `validate_strict()` does not. -/
theorem accessors_user_conformance (x : Ext) (s : Str) (h : utf8Valid s = true)
    (hv : validate x .user s = .ok ()) :
    ∃ lp srv, s = 64 :: (lp ++ 58 :: srv)
      ∧ userFullyConforming s = localpartFullyConforming lp
      ∧ userFullyConforming s ≠ .panic
      ∧ userStrict s = userIdValidateStrict x s
      ∧ (userStrict s = .ok () ↔ nonEmptyAll userIdChar lp = true)
      ∧ (userIsHistorical s = .ok true ↔ (userHistoricalOk s = .ok () ∧ userStrict s ≠ .ok ())) := by
  have hs := sep_of_utf8Valid s h
  obtain ⟨lp, srv, hd, _⟩ := (delimitedValidate_ok_iff hs (by decide) (by decide)).1 hv
  have hstrict := parseId_of_delimOk hs (by decide) hd
  obtain ⟨rfl, hlen, hlp, _⟩ := hd
  have hfc : userFullyConforming (64 :: (lp ++ 58 :: srv)) = localpartFullyConforming lp := by
    rw [userFullyConforming, if_neg (by omega), (accessors_delim hs (by decide) (by decide) hlp).1]
  have hnp := localpartFullyConforming_ne_panic lp
  refine ⟨lp, srv, rfl, hfc, hfc ▸ hnp, ?_⟩
  -- every accessor is a function of `localpartFullyConforming lp`; compare them value by value
  rw [userIsHistorical, userHistoricalOk, userStrict, userIdValidateStrict, hfc, if_neg (by omega),
    hstrict, ← localpartFullyConforming_ok_true_iff]
  simp only [slice_one_at hs (by decide : 64 < 128) (by decide : 58 < 128)]
  cases hc : localpartFullyConforming lp with
  | ok c => cases c <;> simp [Res.void]
  | err => simp [Res.void]
  | panic => exact absurd hc hnp

/-! ## The IPv6 parameter -/

/-- Every string the reference transcription of `Ipv6Addr::from_str` (`Model/IdsIp.lean`, compared
with the real parser on every run) accepts is `2*45IPv6char` of the specification's server-name
grammar: 2 to 45 bytes, each a hex digit, `:` or `.`. -/
theorem ipv6_reference_in_spec_grammar (c : Str) (h : ipv6Ref c = true) :
    c.all ipv6Char = true ∧ 2 ≤ c.length ∧ c.length ≤ 45 := by
  obtain ⟨h1, h2, h3⟩ := ipv6Ref_chars h
  exact ⟨List.all_eq_true.2 h1, h2, h3⟩

/-- With an IPv6 parser that accepts no more than the reference, a server name of at most 255 bytes
is accepted EXACTLY when it is in the specification's grammar and its port fits `u16` (the known
finding): "accepts only the spec's grammar" and "accepts every identifier in the grammar" in one
statement. (Longer server names: the code has no length limit, the grammar caps DNS names at 255.) -/
theorem server_accept_iff_grammar (x : Ext) (hx : ∀ c, x.isIpv6 c = true → ipv6Ref c = true)
    (s : Str) (h : utf8Valid s = true) (hl : s.length ≤ 255) :
    validate x .server s = .ok () ↔
      (gram x.isIpv6 .server s = true ∧ hasBigPort x.isIpv6 .server s = false) := by
  have hs := sep_of_utf8Valid s h
  constructor
  · intro hv
    have hok := (serverNameValidate_ok_iff hs).1 hv
    exact ⟨gramServerName_of_serverOk hx hok hl, serverOk_not_bigPort hok⟩
  · rintro ⟨hg, hp⟩
    exact grammar_implies_accept_partial x .server s h hg hp

/-- With such an IPv6 parser an accepted server name contains no NUL (this discharges the side
condition of `constructor_accepted_new_partial` for room IDs). -/
theorem accepted_server_has_no_nul (x : Ext) (hx : ∀ c, x.isIpv6 c = true → ipv6Ref c = true)
    (s : Str) (h : utf8Valid s = true) (hv : validate x .server s = .ok ()) : 0 ∉ s :=
  withPort_not_mem (.inl (by decide)) (fun _ => structHost_not_mem hx (.inl (by decide)))
    (structServerName_of_serverOk ((serverNameValidate_ok_iff (sep_of_utf8Valid s h)).1 hv))

-- the hypotheses are satisfiable: "[2001:db8::1]:8448" with the reference parser itself
example : validate ⟨ipv6Ref, ipv4Ref, fun _ => false⟩ .server
    (bs "[2001:db8::1]:8448") = .ok () := by
  rw [bs, String.toList_ofList]
  decide +kernel

/-! ## Required structure ⇒ accepted (the structure predicate is tight) -/

/-- Converse of `accept_implies_structure`: with an IPv6 parser that accepts no more than the
reference, every string with the required structure of a user, room, alias, room-or-alias, event ID,
server name, device key ID, MXC URI, room version or session ID is accepted, unless its server name
carries a port above 65535 (`structBigPort`, the known finding). So for these types the parser
accepts exactly the required structure: nothing the specification's structure allows is refused for
another reason. -/
theorem structure_implies_accept (x : Ext) (hx : ∀ c, x.isIpv6 c = true → ipv6Ref c = true)
    (k : Kind)
    (hk : k ∈ [Kind.user, .room, .alias, .roomOrAlias, .event, .server, .keyAny, .mxc,
      .roomVersion, .sessionId])
    (s : Str) (h : utf8Valid s = true) (hst : struct x.isIpv6 k s = true)
    (hp : structBigPort x.isIpv6 k s = false) : validate x k s = .ok () := by
  have hs := sep_of_utf8Valid s h
  rw [structBigPort_eq] at hp
  have hh : ∀ h, structHost x.isIpv6 h = true → HostOk x h := fun _ => hostOk_of_structHost hx
  have room : structRoom s = true → roomIdValidate s = .ok () := fun hst => by
    simp only [structRoom, Bool.and_eq_true, max255, decide_eq_true_eq] at hst
    exact roomIdValidate_ok_iff.2 ⟨hst.1.1, hst.1.2, all_ne_iff.1 hst.2⟩
  have alias : structAlias x.isIpv6 s = true →
      delimited 35 (fun _ => true) (portTooBig (structHost x.isIpv6)) s = false →
      roomAliasIdValidate x s = .ok () :=
    delimitedValidate_of_delimited hs (by decide) (by decide) hh (fun _ => localpartOk_iff.1)
  simp only [List.mem_cons, List.not_mem_nil, or_false] at hk
  rcases hk with rfl | rfl | rfl | rfl | rfl | rfl | rfl | rfl | rfl | rfl
  · exact delimitedValidate_of_delimited hs (by decide) (by decide) hh (fun _ => localpartOk_iff.1)
      hst hp
  · exact room hst
  · exact alias hst hp
  · rcases Bool.or_eq_true_iff.1 hst with hst | hst
    · exact constructor_accepted_room_or_alias_from_room x s (room hst)
    · exact constructor_accepted_room_or_alias_from_alias x s (alias hst hp)
  · simp only [struct, Bool.and_eq_true, Bool.or_eq_true, decide_eq_true_eq] at hst
    obtain ⟨⟨hlen, hhead⟩, hc | hd⟩ := hst
    · exact (eventIdValidate_ok_iff hs).2
        (.inr ⟨all_ne_iff.1 hc, of_decide_eq_true hlen, hhead⟩)
    · exact eventIdValidate_of_delimited hs hh (fun _ => all_ne_iff.1) hlen hd hp
  · exact serverNameValidate_of_serverOk hs (serverOk_of_withPort hh hst hp)
  · exact keyIdValidate_of_cutAt hs (fun _ => structAlg_facts) (fun _ _ _ _ => rfl) hst
  · exact mxcValidate_of_mxc hs hh (fun _ => structHost_not_mem hx (.inr rfl)) (fun _ hm => hm)
      hst hp
  · exact roomVersionIdValidate_ok_iff.2 hst
  · exact sessionIdValidate_ok_iff.2 hst

/-- The same for the types whose validators ask Unicode `char::is_alphanumeric` (signing key
versions, base64 public keys, client secrets, and key IDs with such key names), on ASCII strings,
where that question is never asked. -/
theorem structure_implies_accept_ascii (x : Ext) (k : Kind)
    (hk : k ∈ [Kind.signingKeyVersion, .base64PublicKey, .clientSecret, .keyVersion, .keyBase64])
    (s : Str) (hascii : ∀ b ∈ s, b < 128) (h : utf8Valid s = true)
    (hst : struct x.isIpv6 k s = true) : validate x k s = .ok () := by
  have hs := sep_of_utf8Valid s h
  have uni : UniOk x s := .of_ascii hascii
  have name : ∀ a n, s = a ++ 58 :: n → UniOk x n := fun a n e =>
    .of_ascii fun b hb => hascii b (e ▸ List.mem_append_right _ (List.mem_cons_of_mem _ hb))
  simp only [List.mem_cons, List.not_mem_nil, or_false] at hk
  rcases hk with rfl | rfl | rfl | rfl | rfl
  · exact serverSigningKeyVersionValidate_ok_iff.2 ⟨hst, uni⟩
  · exact base64PublicKeyValidate_ok_iff.2 ⟨hst, uni⟩
  · exact clientSecretValidate_ok_iff.2 ⟨hst, uni⟩
  · exact keyIdValidate_of_cutAt hs (fun _ => structAlg_facts)
      (fun a n e hn => serverSigningKeyVersionValidate_ok_iff.2 ⟨hn, name a n e⟩) hst
  · exact keyIdValidate_of_cutAt hs (fun _ => structAlg_facts)
      (fun a n e hn => base64PublicKeyValidate_ok_iff.2 ⟨hn, name a n e⟩) hst

/-- Exact characterisation: with an IPv6 parser that accepts no more than the reference, for user,
room, alias, room-or-alias and event IDs, server names, device key IDs, MXC URIs, room versions and
session IDs a string is accepted IF AND ONLY IF it has the required structure and no cut of it has a
server name with a port above 65535 (the port finding is the only gap between the required structure
and what the parser accepts). -/
theorem accept_iff_structure (x : Ext) (hx : ∀ c, x.isIpv6 c = true → ipv6Ref c = true) (k : Kind)
    (hk : k ∈ [Kind.user, .room, .alias, .roomOrAlias, .event, .server, .keyAny, .mxc,
      .roomVersion, .sessionId])
    (s : Str) (h : utf8Valid s = true) :
    validate x k s = .ok () ↔
      (struct x.isIpv6 k s = true ∧ structBigPort x.isIpv6 k s = false) :=
  ⟨fun hv => ⟨accept_implies_structure x k s h hv, structBigPort_eq .. ▸
      accepted_not_bigPort (fun _ => structHost_not_mem hx (.inr rfl)) (sep_of_utf8Valid s h) hv⟩,
    fun ⟨hst, hp⟩ => structure_implies_accept x hx k hk s h hst hp⟩

-- the hypotheses are satisfiable: "@a:[::1]:80" has the required structure and no big port
example : struct ipv6Ref .user (bs "@a:[::1]:80") = true
    ∧ structBigPort ipv6Ref .user (bs "@a:[::1]:80") = false := by
  rw [bs, String.toList_ofList]
  decide +kernel

#print axioms validate_never_panics
#print axioms validate_strict_never_panics
#print axioms accessors_recompose_delimited
#print axioms accessors_recompose_event
#print axioms accessors_room
#print axioms accessors_recompose_server
#print axioms accessors_recompose_key
#print axioms accessors_recompose_mxc
#print axioms accept_implies_structure
#print axioms length_limit
#print axioms grammar_implies_accept_partial
#print axioms grammar_not_always_accepted
#print axioms big_port_rejected
#print axioms grammar_accept_iff
#print axioms grammar_implies_strict
#print axioms constructor_accepted_parse_with_server_name
#print axioms parse_with_server_name_total
#print axioms constructor_accepted_key_from_parts
#print axioms constructor_accepted_new_partial
#print axioms constructor_new_not_always_accepted
#print axioms constructor_with_bytes_partial
#print axioms with_bytes_empty_panics
#print axioms constructor_accepted_client_secret
#print axioms alias_accepted_head
#print axioms room_accepted_head
#print axioms constructor_accepted_room_or_alias_from_room
#print axioms constructor_accepted_room_or_alias_from_alias
#print axioms room_or_alias_accepted_split
#print axioms accessors_user_conformance
#print axioms ipv6_reference_in_spec_grammar
#print axioms server_accept_iff_grammar
#print axioms accepted_server_has_no_nul
#print axioms structure_implies_accept
#print axioms structure_implies_accept_ascii
#print axioms accept_iff_structure
end Ruma.Props.C10
