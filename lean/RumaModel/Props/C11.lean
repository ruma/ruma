/-
  C11 — Matrix URIs round-trip through text and parsing them never panics.
  Property theorems only; helper lemmas live in `Lemmas/MatrixUri*.lean`.

  Reading guide. `Model/MatrixUri.lean` models `matrix_uri.rs` and `percent_encode.rs` on bytes:
  `percentEncode set`, `percentDecode`, `parseWithSigil`, `parseWithType`, `toStringWithSigil`,
  `toStringWithType`, `parseTo`/`formatTo` (`MatrixToUri::parse` / `Display`), `parseUri`/`formatUri`
  (`MatrixUri::parse` / `Display`). `Res` has the outcomes `ok`, `err`, `panic`.
  Parameters: `V : Validators` (the identifier parsers; the theorems hold for *every* `V`) and
  `U : UrlParser` (`url::Url::parse`; assumptions `UrlKeepsSafeText`, `UrlReturnsBytes` from
  `Spec/MatrixUri.lean`, both proven for the reference `urlParseRef` that the check compares with the
  real `Url::parse` on every run). `ToUriOk V u` / `UriOk V u` (`Spec/MatrixUri.lean`) say that a
  value is one the library's types can hold: identifiers accepted by `V`, carrying their sigil,
  valid UTF-8; servers accepted by `V.server`; a custom action is not `join`/`chat`.
-/
import RumaModel.Lemmas.MatrixUriUrl
namespace Ruma.Props.C11
open Ruma Ruma.MatrixUri Ruma.Spec.MatrixUri

/-! ## Percent-coding -/

/-- For an arbitrary encode set: decoding inverts encoding on every byte string **iff** `%` is in
the set or every hex digit is in the set. (With `%` left bare and some hex digit left bare,
`%` + that digit twice is a counterexample; if all hex digits are always escaped, a bare `%` can
never be followed by two hex digits.) -/
theorem percent_roundtrip_iff (set : Nat → Bool) :
    (∀ b, Bytes b → percentDecode (percentEncode set b) = b) ↔
      (set 37 = true ∨ ∀ c, (hexVal c).isSome = true → set c = true) := by
  constructor
  · intro h
    cases h37 : set 37 with
    | true => exact Or.inl rfl
    | false =>
      refine Or.inr (fun c hc => ?_)
      cases hs : set c with
      | true => rfl
      | false =>
        obtain ⟨x, hx⟩ := Option.isSome_iff_exists.mp hc
        have hlt := (hexVal_some hx).1
        exact absurd (h [37, c, c] (by intro y hy; simp at hy; rcases hy with rfl | rfl <;> omega))
          (percent_roundtrip_fails set c x hx h37 hs)
  · exact percent_roundtrip_of set

/-- The form in DESIGN.md: for every encode set that leaves at least one hex digit unescaped (every
set in use does), decoding inverts encoding **iff `%` is in the set**. -/
theorem percent_roundtrip (set : Nat → Bool) (c : Nat) (hc : (hexVal c).isSome = true)
    (hfree : set c = false) :
    (∀ b, Bytes b → percentDecode (percentEncode set b) = b) ↔ set 37 = true := by
  rw [percent_roundtrip_iff]
  constructor
  · rintro (h | h)
    · exact h
    · rw [h c hc] at hfree; cases hfree
  · exact Or.inl

/-- The repaired `PATH_PERCENT_ENCODE_SET` and the `QUERY_VALUE_PERCENT_ENCODE_SET`: decoding
inverts encoding, unconditionally. -/
theorem percent_roundtrip_path (b : Str) (hb : Bytes b) :
    percentDecode (percentEncode pathSet b) = b :=
  (percent_roundtrip pathSet 65 (by decide) (by decide)).mpr (by decide) b hb

theorem percent_roundtrip_query (b : Str) (hb : Bytes b) :
    percentDecode (percentEncode queryValueSet b) = b :=
  (percent_roundtrip queryValueSet 65 (by decide) (by decide)).mpr (by decide) b hb

/-- Why the set before repair F8 failed: it has no `%`, so by `percent_roundtrip` some byte string
does not survive; `%41` is one (it comes back as `A`). -/
theorem percent_roundtrip_old_set_fails :
    ¬ (∀ b, Bytes b → percentDecode (percentEncode pathSetOld b) = b) ∧
    percentDecode (percentEncode pathSetOld (bs "%41")) = bs "A" := by
  refine ⟨fun h => ?_, by decide⟩
  have := (percent_roundtrip pathSetOld 65 (by decide) (by decide)).mp h
  revert this; decide

/-- An encoded path segment or query value contains no `/`, `?`, `#` and no non-ASCII byte
(nor, for query values, `&`, `+`, `=`): it cannot be mistaken for a delimiter of the URI. -/
theorem encoded_has_no_delims (s : Str) (hs : Bytes s) :
    (∀ c ∈ percentEncode pathSet s, isDelim c = false ∧ c < 128) ∧
    (∀ c ∈ percentEncode queryValueSet s, isDelim c = false ∧ c < 128 ∧ c ≠ 38 ∧ c ≠ 43 ∧ c ≠ 61) := by
  have key : ∀ c, urlSafe c = true → c ≠ 47 → isDelim c = false ∧ c < 128 := by
    intro c h h47
    have := urlSafe_bounds h
    simp only [isDelim, Bool.or_eq_false_iff, beq_eq_false_iff_ne]
    omega
  exact ⟨fun c hc => key c (encPath_byte s hs c hc).1 (encPath_byte s hs c hc).2,
    fun c hc =>
      have h := encQuery_byte s hs c hc
      ⟨(key c h.1 h.2.1).1, (key c h.1 h.2.1).2, h.2.2⟩⟩

/-- The model's percent-decoding agrees with RFC 3986's reading of a percent-encoded text. -/
theorem percentDecode_denotes (t b : Str) (h : PctDenotes t b) : percentDecode t = b := by
  induction h with
  | nil => rfl
  | lit c hc _ ih => rw [percentDecode_cons_ne c _ hc, ih]
  | esc h l x y hx hy _ ih => rw [percentDecode_escape h l x y _ hx hy, ih]

/-- What the encoder writes with the repaired sets is a percent-encoding of its input in the sense
of RFC 3986 (no bare `%`). -/
theorem percentEncode_is_rfc3986 (b : Str) (hb : Bytes b) :
    PctDenotes (percentEncode pathSet b) b ∧ PctDenotes (percentEncode queryValueSet b) b :=
  ⟨percentEncode_denotes pathSet (by decide) b hb, percentEncode_denotes queryValueSet (by decide) b hb⟩

/-! ## The `type` table of the `matrix:` scheme -/

/-- The types **read** by `parse_with_type` (the model's `sigilOfType`) are the Matrix spec's table
(`u` ↔ `@`, `r` ↔ `#`, `roomid` ↔ `!`, `e` ↔ `$`), plus the legacy spellings. The write side
(`to_string_with_type`) is `written_types_eq_spec` below. -/
theorem type_table_eq_spec :
    (∀ sg ty, typeOfSigil sg = some ty → sigilOfType ty = some sg) ∧
    sigilOfType (bs "user") = some sigilUser ∧ sigilOfType (bs "room") = some sigilAlias ∧
    sigilOfType (bs "event") = some sigilEvent :=
  ⟨fun _ _ h => (typeOfSigil_some h).2.2.1, by decide +kernel, by decide +kernel, by decide +kernel⟩

/-- The types **written** by `to_string_with_type` are the Matrix spec's table: for an identifier
carrying its sigil (any rest `t`, `e`), the text is the spec's type for that sigil, `/`, and the
percent-encoded identifier without its sigil; an event is written after its room (`!` or `#`) as
`/` + the spec's type for `$` + `/` + the encoded event id without sigil. -/
theorem written_types_eq_spec (t e : Str) :
    (∃ ty, typeOfSigil sigilUser = some ty ∧
      toStringWithType (.user (sigilUser :: t)) = .ok (ty ++ 47 :: encPath t)) ∧
    (∃ ty, typeOfSigil sigilAlias = some ty ∧
      toStringWithType (.roomAlias (sigilAlias :: t)) = .ok (ty ++ 47 :: encPath t)) ∧
    (∃ ty, typeOfSigil sigilRoomId = some ty ∧
      toStringWithType (.room (sigilRoomId :: t)) = .ok (ty ++ 47 :: encPath t)) ∧
    (∃ ty te, typeOfSigil sigilRoomId = some ty ∧ typeOfSigil sigilEvent = some te ∧
      toStringWithType (.event (sigilRoomId :: t) (sigilEvent :: e)) =
        .ok (ty ++ 47 :: encPath t ++ 47 :: te ++ 47 :: encPath e)) ∧
    (∃ ty te, typeOfSigil sigilAlias = some ty ∧ typeOfSigil sigilEvent = some te ∧
      toStringWithType (.event (sigilAlias :: t) (sigilEvent :: e)) =
        .ok (ty ++ 47 :: encPath t ++ 47 :: te ++ 47 :: encPath e)) := by
  have ev : ∀ x, x = 33 ∨ x = 35 → toStringWithType (.event (x :: t) (sigilEvent :: e)) =
      .ok ((if x = 33 then bs "roomid" else bs "r") ++ 47 :: encPath t ++ 47 :: bs "e" ++ 47 :: encPath e) :=
    fun x hx => by
      simpa only [List.append_assoc, List.cons_append] using toStringWithType_event x _ t e hx
  exact ⟨⟨_, rfl, toStringWithType_user _ t⟩, ⟨_, rfl, toStringWithType_roomAlias _ t⟩,
    ⟨_, rfl, toStringWithType_room _ t⟩, ⟨_, _, rfl, rfl, ev _ (.inl rfl)⟩, ⟨_, _, rfl, rfl, ev _ (.inr rfl)⟩⟩

/-! ## Round trips -/

/-- `matrix.to`: formatting a well-formed value and parsing the text gives the value back — for
every validator record `V`, every identifier it accepts (any bytes: reserved, `%`, non-ASCII),
any list of via servers. -/
theorem matrixTo_roundtrip (V : Validators) (u : ToUri) (h : ToUriOk V u) :
    parseTo V (formatTo u) = .ok u := by
  obtain ⟨id, via⟩ := u
  obtain ⟨hid, hvia⟩ := h
  obtain ⟨hparse, h63, hlast⟩ := sigil_roundtrip V id hid
  unfold parseTo formatTo
  rw [List.append_assoc, stripPrefix_append]
  simp only
  cases via with
  | nil =>
    rw [fmtVias_nil, List.append_nil, stripSuffixByte_of_last_ne 47 _ hlast, splitOn_not_mem 63 _ h63]
    simp only [hparse]
  | cons v r =>
    obtain ⟨hquery, hsafe⟩ := query_props (viaPairs (v :: r)) (by simp [viaPairs])
      (viaPairs_ok V _ hvia)
    have hQ63 : 63 ∉ joinWith 38 ((viaPairs (v :: r)).map item) := fun hm =>
      (urlSafe_bounds (hsafe 63 hm).1).2.2.2.2.2.2 rfl
    have hl : (toStringWithSigil id ++ 63 :: joinWith 38 ((viaPairs (v :: r)).map item)).getLast?
        ≠ some 47 := by
      cases hj : joinWith 38 ((viaPairs (v :: r)).map item) with
      | nil => simp
      | cons y t =>
        rw [getLast?_append_cons _ _ 63 (by simp)]
        exact getLast_ne_of_not_mem (hj ▸ fun hm => (hsafe 47 hm).2 rfl)
    rw [fmtVias_cons, if_pos rfl, stripSuffixByte_of_last_ne 47 _ hl, splitOn_append 63 _ _ h63,
      splitOn_not_mem 63 _ hQ63]
    simp only [hparse, hquery,
      viaOfPairs_map V _ (fun w hw => (hvia w hw).2)]

/-- `matrix:`: formatting a well-formed value does not panic, and parsing the text gives the value
back — for every `V`, any via servers, any action; `Url::parse` enters through `UrlKeepsSafeText`. -/
theorem matrixUri_roundtrip (U : UrlParser) (hU : UrlKeepsSafeText U) (V : Validators) (u : Uri)
    (h : UriOk V u) :
    ∃ text, formatUri u = .ok text ∧ parseUri U V text = .ok u := by
  obtain ⟨p, hp, hparse, hsafe, hhead⟩ := typed_roundtrip V u.id h.1
  refine ⟨_, formatUri_eq u p hp, ?_⟩
  have hpairs := queryPairs_ok V u h
  obtain ⟨hid, hvia, hact⟩ := h
  have hq : ∀ q', queryOf u.via u.action = some q' → q'.all urlSafe = true := by
    intro q' hq'
    unfold queryOf at hq'
    split at hq'
    · cases hq'
    · rename_i hne
      cases hq'
      exact List.all_eq_true.mpr fun c hc => ((query_props _ hne hpairs).2 c hc).1
  have hloop : queryLoop V (queryPairs u.via u.action) [] none = some (u.via, u.action) := by
    unfold queryPairs
    rw [queryLoop_vias V u.via _ [] none (fun v hv => (hvia v hv).2)]
    cases ha : u.action with
    | none => simp [queryLoop]
    | some a =>
      have : bs "action" ≠ bs "via" := by decide +kernel
      simp [queryLoop, this, ofStr_asStr a (hact a ha)]
  unfold parseUri
  rw [hU p (queryOf u.via u.action) hsafe hhead hq]
  simp only [ne_eq, not_true_eq_false, if_false, hparse]
  unfold queryOf
  by_cases he : queryPairs u.via u.action = []
  · simp only [he, if_true]
    rw [show formParse [] = [] by decide, ← he, hloop]
  · simp only [he, if_false]
    rw [(query_props _ he hpairs).1, hloop]

/-- Parsing never panics: for every byte string, every `V`, every behaviour of `Url::parse`.
Reading note: the model's parse functions have almost no `.panic` arm (the Rust parse paths contain
no index/slice/unwrap site that the model had to render as one; only the dead `splitOn … = []` arm),
so on the model this holds nearly by construction. That the real parsers do not panic on the
generated and mutated texts is checked by the T2/T3 tie (a panic of the real code is a violation). -/
theorem parse_never_panics (U : UrlParser) (V : Validators) (s : Str) :
    parseTo V s ≠ .panic ∧ parseUri U V s ≠ .panic ∧
    parseWithSigil V s ≠ .panic ∧ parseWithType V s ≠ .panic := by
  refine ⟨?_, ?_, parseWithSigil_ne_panic V s, parseWithType_ne_panic V s⟩
  · unfold parseTo
    intro h
    split at h
    · cases h
    · split at h
      · rename_i he; simp [splitOn] at he
      · split at h
        · cases h
        · rename_i hp; exact parseWithSigil_ne_panic V _ hp
        · dsimp only at h
          split at h
          · cases h
          · split at h <;> cases h
  · unfold parseUri
    intro h
    split at h
    · cases h
    · split at h
      · cases h
      · split at h
        · cases h
        · rename_i hp; exact parseWithType_ne_panic V _ hp
        · dsimp only at h
          split at h <;> cases h

/-- Formatting a well-formed `matrix:` value never reaches `[1..]` on an empty identifier nor the
`unreachable` in `RoomOrAliasId::variant` (formatting `matrix.to` has no such site). -/
theorem format_never_panics (V : Validators) (u : Uri) (h : UriOk V u) :
    formatUri u ≠ .panic ∧ formatUri u ≠ .err := by
  obtain ⟨p, hp, _⟩ := typed_roundtrip V u.id h.1
  rw [formatUri_eq u p hp]
  exact ⟨nofun, nofun⟩

/-- What a successful parse returns is a well-formed value. -/
theorem parsed_is_wellformed (U : UrlParser) (hUb : UrlReturnsBytes U) (V : Validators) (s : Str)
    (hs : Bytes s) :
    (∀ u, parseTo V s = .ok u → ToUriOk V u) ∧ (∀ u, parseUri U V s = .ok u → UriOk V u) := by
  refine ⟨fun u h => ?_, fun u h => ?_⟩
  · unfold parseTo at h
    split at h
    · cases h
    · rename_i s1 hs1
      have hb1 : Bytes (stripSuffixByte 47 s1) := bytes_stripSuffixByte 47 (bytes_stripPrefix hs hs1)
      split at h
      · cases h
      · rename_i idsPart rest hsplit
        have hpieces : ∀ p ∈ idsPart :: rest, Bytes p := by
          intro p hp; rw [← hsplit] at hp
          exact bytes_splitOn 63 hb1 p hp
        split at h
        · cases h
        · cases h
        · rename_i id hid
          have hidok := parseWithSigil_ok V idsPart id (hpieces idsPart (by simp)) hid
          dsimp only at h
          split at h
          · cases h
          · rename_i via hvia
            have hviaok : ∀ v ∈ via, ServerOk V v := by
              cases rest with
              | nil => simp at hvia; subst hvia; simp
              | cons q r =>
                exact viaOfPairs_ok V _ via
                  (fun kv hkv => (formParse_isStr q (hpieces q (by simp)) kv hkv).2) hvia
            split at h
            · cases h
            · cases h; exact ⟨hidok, hviaok⟩
  · unfold parseUri at h
    split at h
    · cases h
    · rename_i url hurl
      have hb := hUb s url hurl
      split at h
      · cases h
      · split at h
        · cases h
        · cases h
        · rename_i id hid
          have hidok := parseWithType_ok V url.path id hb.1 hid
          dsimp only at h
          split at h
          · cases h
          · rename_i via action hloop
            cases h
            have hpairs : ∀ kv ∈ (match url.query with | none => formParse [] | some q => formParse q),
                IsStr kv.2 := by
              intro kv hkv
              cases hq : url.query with
              | none => rw [hq] at hkv; exact (formParse_isStr [] Bytes.nil kv hkv).2
              | some q => rw [hq] at hkv; exact (formParse_isStr q (hb.2 q hq) kv hkv).2
            have := queryLoop_ok V _ [] via none action hpairs (by simp) (by simp) hloop
            exact ⟨hidok, this.1, this.2⟩

/-- A successfully parsed URI re-formats to text that parses to the same value. -/
theorem parse_format_parse (U : UrlParser) (hU : UrlKeepsSafeText U) (hUb : UrlReturnsBytes U)
    (V : Validators) (s : Str) (hs : Bytes s) :
    (∀ u, parseTo V s = .ok u → parseTo V (formatTo u) = .ok u) ∧
    (∀ u, parseUri U V s = .ok u → ∃ text, formatUri u = .ok text ∧ parseUri U V text = .ok u) :=
  ⟨fun u h => matrixTo_roundtrip V u ((parsed_is_wellformed U hUb V s hs).1 u h),
    fun u h => matrixUri_roundtrip U hU V u ((parsed_is_wellformed U hUb V s hs).2 u h)⟩

/-- The two assumptions about `Url::parse` are satisfiable: the executable reference (compared with
the real `Url::parse` on every run, request `c11.url`) meets both. -/
theorem url_assumptions_hold_for_reference :
    UrlKeepsSafeText urlParseRef ∧ UrlReturnsBytes urlParseRef :=
  ⟨urlParseRef_keeps, urlParseRef_bytes⟩

/-! ## The hypotheses are satisfiable on non-trivial inputs -/

/-- Validators that only look at the sigil (any server accepted). -/
def exV : Validators :=
  ⟨fun s => s.head? == some 64, fun s => s.head? == some 33, fun s => s.head? == some 35,
    fun s => s.head? == some 36, fun _ => true⟩

/-- Event `$e/+=` in room alias `#é/?%:h`, two via servers, custom action `a&b=c d`. -/
def exUri : Uri :=
  ⟨.event ([35, 195, 169] ++ bs "/?%:h") (bs "$e/+="), [bs "[::1]:80", bs "h"],
    some (.custom (bs "a&b=c d"))⟩

def exTo : ToUri := ⟨exUri.id, exUri.via⟩

theorem exUri_ok : UriOk exV exUri := by
  have hb : ∀ s : Str, s.all (· < 256) = true → Bytes s :=
    fun s h b hb => by simpa using List.all_eq_true.mp h b hb
  refine ⟨⟨Or.inr ⟨⟨hb _ (by decide), by decide⟩, by decide, by decide⟩,
    ⟨hb _ (by decide), by decide⟩, by decide, by decide⟩, ?_, ?_⟩
  · intro s hs
    simp [exUri] at hs
    rcases hs with rfl | rfl <;> exact ⟨⟨hb _ (by decide), by decide⟩, rfl⟩
  · intro a ha
    simp [exUri] at ha; subst ha
    exact ⟨⟨hb _ (by decide), by decide⟩, by decide, by decide⟩

example : ToUriOk exV exTo := ⟨exUri_ok.1, exUri_ok.2.1⟩

/-- The conclusions on that value, computed: the texts are what `Display` writes. -/
example : formatTo exTo = bs "https://matrix.to/#/%23%C3%A9%2F%3F%25:h/$e%2F+=?via=[::1]:80&via=h" := by
  -- the kernel is slow on a long `bs` literal; `bs_ofList` hands it the characters
  rw [bs_ofList]
  decide +kernel
example : formatUri exUri =
    .ok (bs "matrix:r/%C3%A9%2F%3F%25:h/e/e%2F+=?via=[::1]:80&via=h&action=a%26b%3Dc%20d") := by
  rw [bs_ofList]
  decide +kernel
example : parseUri urlParseRef exV
    (bs "matrix:r/%C3%A9%2F%3F%25:h/e/e%2F+=?via=[::1]:80&via=h&action=a%26b%3Dc%20d") = .ok exUri := by
  rw [bs_ofList]
  decide +kernel

/-- `parse_format_parse` is not vacuous: a text that parses, with an escaped `&` in the action. -/
example : parseUri urlParseRef exV (bs "matrix:u/a:h?action=a%26b&via=h") =
    .ok ⟨.user (bs "@a:h"), [bs "h"], some (.custom (bs "a&b"))⟩ := by
  rw [bs_ofList]
  decide +kernel
example : parseTo exV (bs "https://matrix.to/#/$e/%23a:h?via=h") =
    .ok ⟨.event (bs "#a:h") (bs "$e"), [bs "h"]⟩ := by
  rw [bs_ofList]
  decide +kernel
/-- The F7 witnesses on the model: an error, not a panic. -/
example : parseTo exV (bs "https://matrix.to/#///$e") = .err := by
  rw [bs_ofList]
  decide +kernel
example : parseTo exV (bs "https://matrix.to/#/!r:x///") = .err := by
  rw [bs_ofList]
  decide +kernel
/-- The F16 witness: the room id `!` round-trips through `matrix:roomid/`. -/
example : formatUri ⟨.room (bs "!"), [], none⟩ = .ok (bs "matrix:roomid/") := by
  rw [bs_ofList, bs_ofList]
  decide +kernel
example : parseUri urlParseRef exV (bs "matrix:roomid/") = .ok ⟨.room (bs "!"), [], none⟩ := by
  rw [bs_ofList]
  decide +kernel

#print axioms percent_roundtrip_iff
#print axioms percent_roundtrip
#print axioms percent_roundtrip_path
#print axioms percent_roundtrip_query
#print axioms percent_roundtrip_old_set_fails
#print axioms encoded_has_no_delims
#print axioms percentDecode_denotes
#print axioms percentEncode_is_rfc3986
#print axioms type_table_eq_spec
#print axioms written_types_eq_spec
#print axioms matrixTo_roundtrip
#print axioms matrixUri_roundtrip
#print axioms parse_never_panics
#print axioms format_never_panics
#print axioms parsed_is_wellformed
#print axioms parse_format_parse
#print axioms url_assumptions_hold_for_reference
end Ruma.Props.C11
