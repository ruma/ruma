/-
  C12 — push evaluation picks the first matching enabled rule under spec semantics.
  Property theorems only; helper lemmas live in `Lemmas/Push*.lean`.

  Reading guide.
  * Spec (`Spec/Glob.lean`, `Spec/Push.lean`): `Glob p s` (inductive glob relation), `WordMatch p s`
    (a run between word boundaries matches the glob), `Spec.Push.getMatch` (first enabled rule in the
    order override, content, room, sender, underride all of whose conditions hold; nothing for the
    user's own events), `lookup` (dot-path addressing with backslash escapes).
  * Model (`Model/Glob.lean`, `Model/FlattenedJson.lean`, `Model/Push.lean`): `matchesPattern`,
    `matchesWord` / `containsWord` (hand-written scanner `scanLit` / chunked regular expression
    `chunks`), `flatten`,
    `Cond.applies`, `Iter.next`, `getMatch` — the Rust code branch for branch; panics are the
    `Except.error` outcome.
  * External code is the parameter `E : Ext`; `ExtOk E` states what is assumed of `wildmatch` (it
    decides `Glob`) and of `regex` (`is_match` has the standard meaning `RegexMatches` of the
    generated expression). `reference_matchers_ok` shows the assumptions are satisfiable: the small
    Lean matchers the driver runs (and T2 compares with the real crates) satisfy them.
-/
import RumaModel.Lemmas.PushMatch
import RumaModel.Lemmas.PushPath
import RumaModel.Lemmas.PushCount
import RumaModel.Lemmas.PushCond
import RumaModel.Lemmas.PushUnique
import RumaModel.Lemmas.PushUtf8
namespace Ruma.Props.C12
open Ruma.Push
open Ruma.Spec.Glob (Glob WordMatch globDecide wordDecide wordMatches valueMatches)
open Ruma.Spec.Push (CondHolds JsonIs kindRank orderedRules ruleHolds MemberCountDenotes MemberCountHolds
  memberCountDecide hasMentions lookupStr lookup sentBySelf KeysUnique KeysUniqueFields leaves pathString)

/-- The decision procedure `globDecide` is sound and complete for the inductive glob relation, for
every pattern and every text. -/
theorem globDecide_iff_Glob (p s : Text) : globDecide p s = true ↔ Glob p s :=
  Ruma.Spec.Glob.globDecide_iff_Glob p s

/-- The decision procedure `wordDecide` (which answers `c12.spec.word`) is sound and complete for
the spec's word-boundary matching `∃ i j, Glob p s[i,j) ∧ boundary s i ∧ boundary s j`. -/
theorem wordDecide_iff_WordMatch (p s : Text) : wordDecide p s = true ↔ WordMatch p s :=
  Ruma.Spec.Glob.wordDecide_iff_WordMatch p s

/-- The hand-written scanner: for a pattern without wildcards (including the empty one),
`matches_word` never panics and answers exactly the spec's word-boundary matching — in particular
the "find next word and recurse" restart after a failed boundary loses no match and invents none. -/
theorem matchesWord_literal_iff_spec (E : Ext) (p s : Text) (hlit : p.any isWild = false) :
    ∃ b, matchesWord E p s = .ok b ∧ (b = true ↔ WordMatch p s) :=
  matchesWord_literal E p s hlit

example : ("foo bar".toList).any isWild = false := by decide +kernel

/-- The wildcard path: the chunk list that `matches_word` builds from ANY pattern (escaped literals,
`(?s:.){n}` for a run of `?`, `(?s:.){n,}` for a run containing `*`) denotes exactly the language of
the glob, and the whole generated expression `(^|\W|\b) chunks (\b|\W|$)` — with the standard
meaning `RegexMatches` of such an expression — matches a text iff the spec's word matching holds.
No hypothesis about newlines is needed: the groups are built with `(?s:.)` (F13 is fixed). -/
theorem wildcard_chunks_iff_spec (p : Text) :
    (∀ t, ChunksMatch (chunks p) t ↔ Glob p t) ∧
    (p ≠ [] → ∀ s, RegexMatches (chunks p) s ↔ WordMatch p s) :=
  ⟨chunks_spec p, fun hp s => RegexMatches_chunks_iff p s hp⟩

example : "a*b".toList ≠ [] := by decide +kernel

/-- The edge groups of the generated expression are the spec's word boundaries:
`(?-u:^|\W|\b)` can end at position `i` iff `boundary s i`, `(?-u:\b|\W|$)` can start at `j` iff
`boundary s j`. -/
theorem regex_edges_are_boundaries (s : Text) (k : Nat) (hk : k ≤ s.length) :
    (startEdge s k = true ↔ Ruma.Spec.Glob.boundary s k) ∧
    (endEdge s k = true ↔ Ruma.Spec.Glob.boundary s k) :=
  ⟨startEdge_iff s k hk, endEdge_iff s k hk⟩

/-- `matches_pattern` never panics and is the spec's case-insensitive matching, for every value and
pattern: word-boundary matching if `match_words`, whole-value glob matching otherwise (given the
assumptions about `wildmatch` and `regex`). -/
theorem matchesPattern_iff_spec (E : Ext) (hE : ExtOk E) (value pattern : Text) (matchWords : Bool) :
    ∃ b, matchesPattern E value pattern matchWords = .ok b ∧
      (b = true ↔ if matchWords then Ruma.Spec.Glob.wordMatches E.lower pattern value
                  else Ruma.Spec.Glob.valueMatches E.lower pattern value) := by
  refine ⟨_, matchesPattern_spec E hE value pattern matchWords, ?_⟩
  cases matchWords
  · exact valueDecide_iff ..
  · exact wordMatchDecide_iff ..

/-- `contains_display_name` — "`content.body` contains the owner's display name": `contains_word`
never panics and holds iff the display name occurs in the body as LITERAL text (a `*` or `?` in a
display name is an ordinary character, unlike in an `event_match` pattern) between word boundaries,
case-insensitively; for EVERY display name and body. A name without `*` / `?` is matched exactly as
the same text used as an `event_match` pattern on `content.body` would be. -/
theorem containsDisplayName_literal (E : Ext) (body name : Text) :
    (∃ b, containsWord E body name = .ok b ∧
      (b = true ↔ Ruma.Spec.Glob.containsWordMatches E.lower name body)) ∧
    ((∀ c ∈ E.lower name, c ≠ '*' ∧ c ≠ '?') →
      (Ruma.Spec.Glob.containsWordMatches E.lower name body ↔ wordMatches E.lower name body)) :=
  ⟨⟨_, containsWord_spec E body name, Ruma.Spec.Glob.literalWordDecide_iff _ _⟩,
   fun h => Ruma.Spec.Glob.LiteralWordMatch_iff_WordMatch h _⟩

/-- The display name `*` does not match everything: it has to occur, as the character `*`. -/
example : Ruma.Spec.Glob.literalWordDecide "*".toList "hello".toList = false ∧
    Ruma.Spec.Glob.literalWordDecide "*".toList "a * b".toList = true ∧
    wordDecide "*".toList "hello".toList = true := by decide +kernel

/-- The assumptions `ExtOk` are satisfiable: the reference matchers of the driver (`globDecide` for
`wildmatch`, `rxDecide` for the generated regular expression) satisfy them, for any `lower` and
`isUserId`. -/
theorem reference_matchers_ok (lower : Text → Text) (isUserId : Text → Bool) :
    ExtOk { lower := lower, wild := globDecide, rxMatch := rxDecide, isUserId := isUserId } :=
  refExt_ok lower isUserId

/-- A concrete instance of the external functions satisfying `ExtOk` (hypothesis of the theorems
below), and a concrete non-trivial evaluation: a disabled override rule is skipped and the
underride rule with a member-count condition matches somebody else's event. -/
private def exE : Ext := { lower := id, wild := globDecide, rxMatch := rxDecide, isUserId := fun _ => true }
private def exRule : CondRule := ⟨true, "r".toList, [.roomMemberCount ⟨.ge, 2⟩]⟩
private def exRs : Ruleset := ⟨[⟨false, "off".toList, []⟩], [], [], [], [exRule]⟩
private def exCtx : Ctx := ⟨"!r:h".toList, 3, "@me:h".toList, "me".toList, none⟩
private def exEv : PJ := .obj [("sender".toList, .str "@you:h".toList)]

example : ExtOk exE := reference_matchers_ok _ _

example : getMatch exE exRs exEv exCtx = .ok (some (.underride exRule)) := by
  rw [getMatch_spec exE (reference_matchers_ok _ _)]
  exact congrArg Except.ok (by decide +kernel)

/-- `RoomMemberCountIs::contains` (through `RangeBounds`) is the comparison the prefix names. -/
theorem memberCount_iff (is : MemberCountIs) (x : Nat) :
    is.contains x = true ↔
      match is.prefix_ with
      | .eq => x = is.count
      | .lt => x < is.count
      | .gt => x > is.count
      | .ge => x ≥ is.count
      | .le => x ≤ is.count := by
  rw [memberCount_eq]
  exact compare_iff ..

/-- FULL-STRENGTH statement about the `is` string of `room_member_count` as it arrives in JSON: the
code's reading (`RoomMemberCountIs::from_str`, then `contains`) is the spec's — "a decimal integer
optionally prefixed by one of `==`, `<`, `>`, `>=` or `<=`", anything else is not a condition the
spec defines (`none`). FALSE of the code: see `memberCountStringStatement_refuted`. -/
def MemberCountStringStatement : Prop :=
  ∀ (s : Text) (x : Nat), memberCountStr s x = Ruma.Spec.Push.memberCountDecide s x

/-- Known finding (findings/C12.json, replayed on the real deserializer on every run): the statement
above is false. `RoomMemberCountIs::from_str` hands the count to `u64::from_str`, which skips one
leading `+`: `"+3"` is read as `==3` and holds in a room of 3 members, while the spec's grammar has
no `+` (the condition is not one the spec defines). -/
theorem memberCountStringStatement_refuted : ¬ MemberCountStringStatement := by
  intro h
  have := h "+3".toList 3
  revert this
  decide +kernel

/-- What does hold: for every `is` string without a `+` and every member count, the code reads the
string exactly as the spec does — same strings rejected, same comparison and number otherwise
(including the arm order `<=` before `<`, `>=` before `>`, the `2^53 − 1` limit, leading zeros,
non-ASCII digits rejected). Missing for the full statement: exactly the strings containing `+`. -/
theorem memberCount_string_iff_partial (s : Text) (x : Nat) (hplus : '+' ∉ s) :
    memberCountStr s x = Ruma.Spec.Push.memberCountDecide s x := by
  unfold memberCountStr Ruma.Spec.Push.memberCountDecide
  rw [fromStr_noplus s hplus]
  cases List.findSome? (Ruma.Spec.Push.readAs s) Ruma.Spec.Push.opSpellings with
  | none => rfl
  | some r => simp [memberCount_eq]

example : '+' ∉ ">=10".toList ∧ memberCountStr ">=10".toList 10 = some true := by decide +kernel

/-- `sender_notification_permission` holds iff there is a power-levels context, the event's sender
is a user id, the key is `room`, and the sender's level (own entry, else `users_default`) is at
least `notifications.room`. -/
theorem notificationPermission_iff (E : Ext) (ev : FMap) (ctx : Ctx) (key : Text) :
    senderMayNotify E ev ctx key = true ↔
      ∃ pl sender, ctx.powerLevels = some pl ∧ ev.getStr kSender = some sender ∧
        E.isUserId sender = true ∧ key = kRoom ∧ userLevel pl sender ≥ pl.room := by
  unfold senderMayNotify notificationsGet
  cases hpl : ctx.powerLevels with
  | none => simp
  | some pl =>
    cases hs : ev.getStr kSender with
    | none => simp
    | some v =>
      cases hu : E.isUserId v
      · simp [hu]
      · by_cases hk : key = kRoom <;> simp [hu, hk]

/-- Distinct key paths (with any `.` and `\` inside keys, empty keys included) have distinct
escaped property paths: `pathString` is injective on non-empty key paths — `parsePath` is a left
inverse. -/
theorem flatten_path_injective {ks ks' : List Text} (h : ks ≠ []) (h' : ks' ≠ [])
    (heq : Ruma.Spec.Push.pathString ks = Ruma.Spec.Push.pathString ks') : ks = ks' :=
  pathString_injective h h' heq

/-- `FlattenedJson::from_raw` inserts exactly the leaves of the event under their escaped property
paths; hence `get` is the spec's dot-path lookup (`toF` = the flattened form of a leaf value), and
`get_str` / `contains_mentions` are `lookupStr` / `hasMentions`. -/
theorem flatten_get_eq_lookup (ev : PJ) (key : Text) :
    (flatten ev).get key = (Ruma.Spec.Push.lookup ev key).map toF ∧
    (flatten ev).getStr key = Ruma.Spec.Push.lookupStr ev key ∧
    containsMentions (flatten ev) = Ruma.Spec.Push.hasMentions ev :=
  ⟨flatten_get ev key, flatten_getStr ev key, flatten_containsMentions ev⟩

/-- Main theorem. For every ruleset, event and room context, `Ruleset::get_match` never panics and
returns the spec's match: nothing if the user sent the event themselves, otherwise the first rule —
kinds in the order override, content, room, sender, underride, list order within a kind — that is
enabled and all of whose conditions hold under the spec's semantics (given the assumptions about
`wildmatch` and `regex`). -/
theorem getMatch_first_enabled (E : Ext) (hE : ExtOk E) (rs : Ruleset) (ev : PJ) (ctx : Ctx) :
    getMatch E rs ev ctx = .ok (Ruma.Spec.Push.getMatch (paramsOf E) rs ev ctx) :=
  getMatch_spec E hE rs ev ctx

/-- Stated outright: the returned rule `r` splits the priority-ordered rule list as
`before ++ r :: after` with `r` holding and no rule of `before` holding. -/
theorem getMatch_is_first (E : Ext) (hE : ExtOk E) (rs : Ruleset) (ev : PJ) (ctx : Ctx) (r : AnyRule)
    (h : getMatch E rs ev ctx = .ok (some r)) :
    ∃ before after, Ruma.Spec.Push.orderedRules rs = before ++ r :: after ∧
      Ruma.Spec.Push.ruleHolds (paramsOf E) ev ctx r = true ∧
      ∀ x ∈ before, Ruma.Spec.Push.ruleHolds (paramsOf E) ev ctx x = false := by
  rw [getMatch_spec E hE] at h
  simp only [Except.ok.injEq] at h
  unfold Ruma.Spec.Push.getMatch at h
  split at h
  · cases h
  · obtain ⟨hr, as, bs, hsplit, hno⟩ := List.find?_eq_some_iff_append.1 h
    exact ⟨as, bs, hsplit, hr, fun x hx => by simpa using hno x hx⟩

/-- Stated outright: an event sent by the user themselves matches nothing. -/
theorem getMatch_self_sent (E : Ext) (hE : ExtOk E) (rs : Ruleset) (ev : PJ) (ctx : Ctx)
    (h : Ruma.Spec.Push.lookupStr ev Ruma.Spec.Push.keySender = some ctx.userId) :
    getMatch E rs ev ctx = .ok none := by
  rw [getMatch_spec E hE]
  simp [Ruma.Spec.Push.getMatch, Ruma.Spec.Push.sentBySelf, h]

/-- Stated outright: a disabled rule is never returned. -/
theorem getMatch_never_disabled (E : Ext) (hE : ExtOk E) (rs : Ruleset) (ev : PJ) (ctx : Ctx)
    (r : AnyRule) (h : getMatch E rs ev ctx = .ok (some r)) : Ruma.Spec.Push.enabled r = true := by
  obtain ⟨_, _, _, hr, _⟩ := getMatch_is_first E hE rs ev ctx r h
  unfold Ruma.Spec.Push.ruleHolds at hr
  simp only [Bool.and_eq_true] at hr
  exact hr.1.1

/-- Stated outright: if nothing is returned for somebody else's event, no rule holds. -/
theorem getMatch_none (E : Ext) (hE : ExtOk E) (rs : Ruleset) (ev : PJ) (ctx : Ctx)
    (hother : Ruma.Spec.Push.sentBySelf ev ctx = false) (h : getMatch E rs ev ctx = .ok none) :
    ∀ r ∈ Ruma.Spec.Push.orderedRules rs, Ruma.Spec.Push.ruleHolds (paramsOf E) ev ctx r = false := by
  rw [getMatch_spec E hE] at h
  simp only [Except.ok.injEq, Ruma.Spec.Push.getMatch, hother, Bool.false_eq_true, if_false] at h
  intro r hr
  simpa using List.find?_eq_none.1 h r hr

/-- `matches_word` as a whole — the `self == pattern` shortcut, the empty pattern, the wildcard path
(chunked regular expression) and the literal path (hand-written scanner) together: for every
pattern and every text it never panics and answers exactly the spec's word-boundary matching
(given the assumption about `regex`). -/
theorem matchesWord_iff_spec (E : Ext) (hE : ExtOk E) (p s : Text) :
    ∃ b, matchesWord E p s = .ok b ∧ (b = true ↔ WordMatch p s) :=
  ⟨_, matchesWord_spec E hE p s, Ruma.Spec.Glob.wordDecide_iff_WordMatch p s⟩

/-- The six spellings of `is`: for every count up to `2^53 − 1`, `n`, `==n`, `<n`, `>n`, `>=n`,
`<=n` (`n` in decimal) are read by `RoomMemberCountIs::from_str` as the comparison they name with
`n`; and what `Display` writes is read back as the same value. -/
theorem memberCount_spellings (n : Nat) (hn : n ≤ maxSafeUInt) :
    let d := Nat.toDigits 10 n
    MemberCountIs.fromStr d = some ⟨.eq, n⟩ ∧
    MemberCountIs.fromStr ("==".toList ++ d) = some ⟨.eq, n⟩ ∧
    MemberCountIs.fromStr ("<".toList ++ d) = some ⟨.lt, n⟩ ∧
    MemberCountIs.fromStr (">".toList ++ d) = some ⟨.gt, n⟩ ∧
    MemberCountIs.fromStr (">=".toList ++ d) = some ⟨.ge, n⟩ ∧
    MemberCountIs.fromStr ("<=".toList ++ d) = some ⟨.le, n⟩ ∧
    ∀ op, MemberCountIs.fromStr (MemberCountIs.display ⟨op, n⟩) = some ⟨op, n⟩ :=
  ⟨fromStr_spelling ([], .eq) (by decide) n hn, fromStr_spelling ("==".toList, .eq) (by decide) n hn,
   fromStr_spelling ("<".toList, .lt) (by decide) n hn, fromStr_spelling (">".toList, .gt) (by decide) n hn,
   fromStr_spelling (">=".toList, .ge) (by decide) n hn, fromStr_spelling ("<=".toList, .le) (by decide) n hn,
   fun op => fromStr_display ⟨op, n⟩ hn⟩

example : (9007199254740991 : Nat) ≤ maxSafeUInt := by decide +kernel

/-- The decision procedure that answers `c12.spec.count` is sound and complete for the spec's
grammar of `is` (`MemberCountDenotes`: one of the spellings `==`, `<`, `>`, `>=`, `<=` or none,
followed by a non-empty string of ASCII digits denoting a number ≤ 2^53 − 1): it says `true` iff the
condition holds, and `none` iff the string is not a well-formed `is`; a well-formed string denotes
exactly one comparison. -/
theorem memberCountDecide_iff_Holds (s : Text) (x : Nat) :
    (memberCountDecide s x = some true ↔ MemberCountHolds s x) ∧
    (memberCountDecide s x = none ↔ ¬ ∃ op n, MemberCountDenotes s op n) ∧
    (∀ op n op' n', MemberCountDenotes s op n → MemberCountDenotes s op' n' → op = op' ∧ n = n') :=
  ⟨memberCountDecide_true_iff s x, memberCountDecide_none_iff s x,
   fun _ _ _ _ h h' => MemberCountDenotes_unique h h'⟩

/-- Every `PushCondition` variant: `PushCondition::applies` never panics and holds iff the event was
not sent by the user and the condition holds in the spec's reading `CondHolds` — `event_match`
(string property, or the context's room id for `room_id`; word-boundary glob for `content.body`,
whole-value glob otherwise), `contains_display_name` (the name as literal text on word boundaries), `room_member_count`,
`sender_notification_permission`, `event_property_is`, `event_property_contains`; an unknown
condition never holds. -/
theorem condition_iff_spec (E : Ext) (hE : ExtOk E) (ev : PJ) (ctx : Ctx) (c : Cond) :
    ∃ b, c.applies E (flatten ev) ctx = .ok b ∧
      (b = true ↔ sentBySelf ev ctx = false ∧ CondHolds (paramsOf E) ev ctx c) := by
  cases hself : selfSent (flatten ev) ctx
  · refine ⟨_, Cond_applies_eq E hE ev ctx hself c, ?_⟩
    rw [condHolds_iff, ← selfSent_eq, hself]
    simp
  · refine ⟨false, by simp [Cond.applies, hself], ?_⟩
    rw [← selfSent_eq, hself]
    simp

/-- Stated outright: an unknown condition kind never holds (so a rule containing one never
matches). -/
theorem condition_unknown_false (E : Ext) (ev : FMap) (ctx : Ctx) :
    Cond.custom.applies E ev ctx = .ok false := by
  unfold Cond.applies
  split <;> rfl

/-- `event_property_is`: holds iff the event has a property at exactly that (escaped) path whose
value is exactly the given scalar — same JSON type, same value; integers are compared as
canonical-JSON integers; arrays, objects and floats never match. -/
theorem eventPropertyIs_iff (E : Ext) (hE : ExtOk E) (ev : PJ) (ctx : Ctx) (key : Text) (value : Scalar)
    (hother : sentBySelf ev ctx = false) :
    (Cond.eventPropertyIs key value).applies E (flatten ev) ctx = .ok true ↔
      ∃ v, lookup ev key = some v ∧ v = Ruma.Spec.Push.scalarJson value ∧
        ∀ i, value = .int i → Ruma.Spec.Push.canonicalInt i = true := by
  obtain ⟨b, hb, hiff⟩ := condition_iff_spec E hE ev ctx (.eventPropertyIs key value)
  rw [hb]
  simp only [Except.ok.injEq, hiff, hother, true_and]
  rfl

/-- `event_property_contains`: holds iff the property at that path is an array one of whose
elements is exactly the given scalar. -/
theorem eventPropertyContains_iff (E : Ext) (hE : ExtOk E) (ev : PJ) (ctx : Ctx) (key : Text)
    (value : Scalar) (hother : sentBySelf ev ctx = false) :
    (Cond.eventPropertyContains key value).applies E (flatten ev) ctx = .ok true ↔
      ∃ xs, lookup ev key = some (.arr xs) ∧ ∃ x ∈ xs, x = Ruma.Spec.Push.scalarJson value ∧
        ∀ i, value = .int i → Ruma.Spec.Push.canonicalInt i = true := by
  obtain ⟨b, hb, hiff⟩ := condition_iff_spec E hE ev ctx (.eventPropertyContains key value)
  rw [hb]
  simp only [Except.ok.injEq, hiff, hother, true_and]
  rfl

/-- Kind priority, stated outright: the returned rule's kind is the most important kind
(override < content < room < sender < underride) that has a holding rule — no rule that holds
belongs to a more important kind than the rule returned. -/
theorem getMatch_kind_priority (E : Ext) (hE : ExtOk E) (rs : Ruleset) (ev : PJ) (ctx : Ctx)
    (r : AnyRule) (h : getMatch E rs ev ctx = .ok (some r)) :
    ∀ x ∈ orderedRules rs, ruleHolds (paramsOf E) ev ctx x = true → kindRank r ≤ kindRank x := by
  obtain ⟨before, after, hsplit, hr, hno⟩ := getMatch_is_first E hE rs ev ctx r h
  intro x hx hxh
  have hs := orderedRules_sorted rs
  rw [hsplit] at hs hx
  rcases List.mem_append.1 hx with hb | hb
  · rw [hno x hb] at hxh; cases hxh
  · rcases List.mem_cons.1 hb with rfl | ha
    · exact Nat.le_refl _
    · exact List.rel_of_pairwise_cons (List.pairwise_append.1 hs).2.1 ha

/-- The rule holds in the spec's sense, as a proposition: enabled, not a legacy mention rule
switched off by `m.mentions`, and every condition it stands for holds. -/
theorem ruleHolds_iff (E : Ext) (ev : PJ) (ctx : Ctx) (r : AnyRule) :
    ruleHolds (paramsOf E) ev ctx r = true ↔
      Ruma.Spec.Push.enabled r = true ∧
      ¬ (Ruma.Spec.Push.legacyMention r = true ∧ hasMentions ev = true) ∧
      ∀ c ∈ Ruma.Spec.Push.conditions r, CondHolds (paramsOf E) ev ctx c := by
  cases hl : Ruma.Spec.Push.legacyMention r <;> simp [ruleHolds, condHolds_iff, and_assoc, hl]

/-- Per-kind shape of `AnyPushRuleRef::applies` for somebody else's event (never a panic):
* override / underride: enabled, all conditions hold, and the rule is not `.m.rule.roomnotif` /
  `.m.rule.contains_display_name` on an event carrying `content.m.mentions`;
* content: enabled, `content.body` is a string that the rule's pattern matches on word boundaries,
  and the rule is not `.m.rule.contains_user_name` on an event carrying `content.m.mentions`;
* room: enabled and the rule id, as a glob, matches the room id of the context (not of the event);
* sender: enabled and `sender` is a string that the rule id, as a glob, matches. -/
theorem rule_applies_shapes (E : Ext) (hE : ExtOk E) (ev : PJ) (ctx : Ctx)
    (hother : sentBySelf ev ctx = false) :
    (∀ r : CondRule, ∀ k ∈ [AnyRule.override_, AnyRule.underride],
      (k r).applies E (flatten ev) ctx = .ok true ↔
        r.enabled = true ∧
        ¬ ((r.ruleId = Ruma.Spec.Push.ruleRoomNotif ∨ r.ruleId = Ruma.Spec.Push.ruleContainsDisplayName) ∧
            hasMentions ev = true) ∧
        ∀ c ∈ r.conditions, CondHolds (paramsOf E) ev ctx c) ∧
    (∀ r : PatRule, (AnyRule.content r).applies E (flatten ev) ctx = .ok true ↔
        r.enabled = true ∧
        ¬ (r.ruleId = Ruma.Spec.Push.ruleContainsUserName ∧ hasMentions ev = true) ∧
        ∃ body, lookupStr ev Ruma.Spec.Push.keyContentBody = some body ∧
          wordMatches E.lower r.pattern body) ∧
    (∀ r : SimpleRule, (AnyRule.room r).applies E (flatten ev) ctx = .ok true ↔
        r.enabled = true ∧ valueMatches E.lower r.ruleId ctx.roomId) ∧
    (∀ r : SimpleRule, (AnyRule.sender r).applies E (flatten ev) ctx = .ok true ↔
        r.enabled = true ∧
        ∃ s, lookupStr ev Ruma.Spec.Push.keySender = some s ∧ valueMatches E.lower r.ruleId s) := by
  have key : ∀ r : AnyRule, r.applies E (flatten ev) ctx = .ok true ↔
      Ruma.Spec.Push.enabled r = true ∧
      ¬ (Ruma.Spec.Push.legacyMention r = true ∧ hasMentions ev = true) ∧
      ∀ c ∈ Ruma.Spec.Push.conditions r, CondHolds (paramsOf E) ev ctx c := by
    intro r
    rw [AnyRule_applies_eq E hE ev ctx (by rw [selfSent_eq]; exact hother), Except.ok.injEq, ruleHolds_iff]
  refine ⟨fun r k hk => ?_, fun r => ?_, fun r => ?_, fun r => ?_⟩
  · simp only [List.mem_cons, List.not_mem_nil, or_false] at hk
    rcases hk with rfl | rfl <;>
      simp only [key, Ruma.Spec.Push.enabled, Ruma.Spec.Push.legacyMention, Ruma.Spec.Push.conditions,
        Bool.or_eq_true, decide_eq_true_eq]
  · simp only [key, Ruma.Spec.Push.enabled, Ruma.Spec.Push.legacyMention, Ruma.Spec.Push.conditions,
      decide_eq_true_eq, List.mem_singleton, forall_eq, CondHolds, Ne.symm keys_ne.1, if_false, if_true, paramsOf]
  · simp only [key, Ruma.Spec.Push.enabled, Ruma.Spec.Push.legacyMention, Ruma.Spec.Push.conditions,
      List.mem_singleton, forall_eq, CondHolds, keys_ne.1, if_false, if_true, paramsOf, Bool.false_eq_true,
      false_and, not_false_eq_true, true_and, exists_eq_left]
  · simp only [key, Ruma.Spec.Push.enabled, Ruma.Spec.Push.legacyMention, Ruma.Spec.Push.conditions,
      List.mem_singleton, forall_eq, CondHolds, keys_ne.2.1, keys_ne.2.2, if_false, paramsOf, Bool.false_eq_true,
      false_and, not_false_eq_true, true_and]

/-- Room and sender rules whose id has no glob character after case folding are plain
case-insensitive equality tests: of the context's room id, resp. of the event's `sender`. -/
theorem room_sender_rule_equality (E : Ext) (hE : ExtOk E) (ev : PJ) (ctx : Ctx)
    (hother : sentBySelf ev ctx = false) (r : SimpleRule)
    (hlit : ∀ c ∈ E.lower r.ruleId, c ≠ '*' ∧ c ≠ '?') :
    ((AnyRule.room r).applies E (flatten ev) ctx = .ok true ↔
        r.enabled = true ∧ E.lower ctx.roomId = E.lower r.ruleId) ∧
    ((AnyRule.sender r).applies E (flatten ev) ctx = .ok true ↔
        r.enabled = true ∧
        ∃ s, lookupStr ev Ruma.Spec.Push.keySender = some s ∧ E.lower s = E.lower r.ruleId) := by
  obtain ⟨_, _, hroom, hsender⟩ := rule_applies_shapes E hE ev ctx hother
  refine ⟨?_, ?_⟩
  · rw [hroom r]; unfold valueMatches; rw [Ruma.Spec.Glob.Glob_literal hlit]
  · rw [hsender r]; unfold valueMatches; simp only [Ruma.Spec.Glob.Glob_literal hlit]

/-- `Ruleset::get_actions` never panics and returns the actions of the rule `get_match` returns —
the spec's first matching enabled rule — or nothing when no rule matches (in particular for the
user's own events). -/
theorem getActions_eq {α : Type} (acts : AnyRule → List α) (E : Ext) (hE : ExtOk E) (rs : Ruleset)
    (ev : PJ) (ctx : Ctx) :
    getActions acts E rs ev ctx =
      .ok (match Ruma.Spec.Push.getMatch (paramsOf E) rs ev ctx with
           | some r => acts r
           | none => []) := by
  unfold getActions
  rw [getMatch_spec E hE]
  cases Ruma.Spec.Push.getMatch (paramsOf E) rs ev ctx <;> rfl

/-- Reading aid for the spec's word matching: for a non-empty pattern without wildcards it says
exactly "the pattern occurs in the text, and neither end of the occurrence is in the middle of a
word" (`bnd l r`: the last character of `l` and the first of `r` are not both in `[A-Za-z0-9_]`). -/
theorem wordMatch_literal_is_occurrence (p s : Text) (hp : p ≠ []) (hlit : ∀ c ∈ p, c ≠ '*' ∧ c ≠ '?') :
    WordMatch p s ↔ ∃ a b, s = a ++ p ++ b ∧ bnd a (p ++ b) = true ∧ bnd (a ++ p) b = true :=
  WordMatch_literal hp hlit s

example : "foo".toList ≠ [] ∧ ∀ c ∈ "foo".toList, c ≠ '*' ∧ c ≠ '?' := by decide +kernel

/-- The examples of the Matrix specification ("Conditions": `lunc?*` on `content.body`-like values,
`ex*ple` word matching) and of the upstream test-suite, evaluated with the spec's decision
procedures (lower-casing already applied). -/
example : wordDecide "ex*ple".toList "an example event.".toList = true := by decide +kernel
example : wordDecide "ex*ple".toList "exple".toList = true := by decide +kernel
example : wordDecide "ex*ple".toList "an exciting triple-whammy".toList = true := by decide +kernel
example : globDecide "lunc?*".toList "lunch plans".toList = true := by decide +kernel
example : globDecide "lunc?*".toList "lunch".toList = true := by decide +kernel
example : globDecide "lunc?*".toList " lunch".toList = false := by decide +kernel
example : globDecide "lunc?*".toList "lunc".toList = false := by decide +kernel
example : wordDecide "foo".toList "foobar foo".toList = true := by decide +kernel
example : wordDecide "foo".toList "foobar foobar".toList = false := by decide +kernel
example : wordDecide "bar bar".toList "foobar bar bar".toList = true := by decide +kernel
example : wordDecide "a*b".toList "a\nb".toList = true := by decide +kernel
example : wordDecide [] [] = true ∧ wordDecide [] "foo".toList = false := by decide +kernel

/-- Disabled rules are irrelevant, stated outright: deleting every disabled rule from the ruleset
does not change what `get_match` returns, for any event and context. -/
theorem getMatch_ignores_disabled (E : Ext) (hE : ExtOk E) (rs : Ruleset) (ev : PJ) (ctx : Ctx) :
    getMatch E
        { override_ := rs.override_.filter (·.enabled), content := rs.content.filter (·.enabled),
          room := rs.room.filter (·.enabled), sender := rs.sender.filter (·.enabled),
          underride := rs.underride.filter (·.enabled) } ev ctx =
      getMatch E rs ev ctx := by
  -- only enabled rules can hold
  have key : ∀ l : List AnyRule, (l.filter Ruma.Spec.Push.enabled).find? (ruleHolds (paramsOf E) ev ctx) =
      l.find? (ruleHolds (paramsOf E) ev ctx) := by
    intro l
    rw [List.find?_filter]
    congr 1
    funext a
    rw [Bool.eq_iff_iff, decide_eq_true_eq, ruleHolds, Bool.and_eq_true, Bool.and_eq_true]
    exact ⟨fun h => h.2, fun h => ⟨h.1.1, h⟩⟩
  rw [getMatch_spec E hE, getMatch_spec E hE, Ruma.Spec.Push.getMatch, Ruma.Spec.Push.getMatch,
    ← key (orderedRules rs)]
  simp only [orderedRules, List.filter_append, List.filter_map]
  rfl

/-- The sender-is-self shortcut exists at all three levels: for an event the user sent themselves
every condition and every rule answers `false` on its own, not only `get_match`. -/
theorem self_sent_nothing_applies (E : Ext) (ev : FMap) (ctx : Ctx) (h : selfSent ev ctx = true) :
    (∀ c : Cond, c.applies E ev ctx = .ok false) ∧ (∀ r : AnyRule, r.applies E ev ctx = .ok false) := by
  refine ⟨fun c => ?_, fun r => ?_⟩
  · simp [Cond.applies, h]
  · simp [AnyRule.applies, h]

/-- Dot-path addressing is unambiguous: in an event no object of which has a key twice (every
`serde_json::Value`), distinct leaves have distinct escaped property paths — whatever `.` and `\`
the keys contain — and every leaf is exactly what its own path looks up (so "the last leaf with
that path" in `lookup` is "the leaf with that path"). -/
theorem property_paths_unambiguous (ev : PJ) (h : KeysUnique ev) :
    ((leaves ev []).map fun e => pathString e.1).Nodup ∧
    ∀ e ∈ leaves ev [], lookup ev (pathString e.1) = some e.2 ∧
      (flatten ev).get (pathString e.1) = some (toF e.2) :=
  ⟨leaves_paths_nodup ev h, fun e he =>
    ⟨lookup_leaf ev h e he, by rw [flatten_get, lookup_leaf ev h e he]; rfl⟩⟩

example : KeysUnique (.obj [("a.b".toList, .obj [("c".toList, .int 1)]), ("a".toList, .obj [("b.c".toList, .int 2)])]) := by
  simp [KeysUnique, KeysUniqueFields]

/-- Why a model over code points is faithful to code that indexes `&str` by bytes. The scanner
starts from `self.find(pattern)`, a search in the UTF-8 BYTES. UTF-8 is self-synchronising: wherever
the bytes of a non-empty text occur in the bytes of another, they occur on character boundaries and
as an occurrence of the characters (`utf8_occurrence`). Hence the model's code-point-level `findSub`
IS the byte-level `str::find`: its split `(before, from)` is at the byte offset of the first
byte-level occurrence — `cs = before ++ from`, so that offset is a character boundary and
`char_at` / `find_prev_char` read whole characters there —, and it is `none` exactly when the
needle's bytes occur nowhere. -/
theorem find_on_bytes_is_find_on_chars (cp cs : List Char) (hcp : cp ≠ []) :
    (∀ pre post : ByteArray, cs.utf8Encode = pre ++ cp.utf8Encode ++ post →
        ∃ a b : List Char, cs = a ++ cp ++ b ∧ a.utf8Encode = pre ∧ b.utf8Encode = post) ∧
    (∀ before from_, findSub cp cs = some (before, from_) →
        cs = before ++ from_ ∧ IsFirstByteOcc cp cs before.utf8Encode.size) ∧
    (findSub cp cs = none → ¬ ∃ pre post : ByteArray, cs.utf8Encode = pre ++ cp.utf8Encode ++ post) :=
  ⟨utf8_occurrence cs cp hcp, (findSub_is_byte_find cp cs hcp).1, (findSub_is_byte_find cp cs hcp).2⟩

example : "é⚡".toList ≠ [] := by decide +kernel

end Ruma.Props.C12

#print axioms Ruma.Props.C12.globDecide_iff_Glob
#print axioms Ruma.Props.C12.wordDecide_iff_WordMatch
#print axioms Ruma.Props.C12.matchesWord_literal_iff_spec
#print axioms Ruma.Props.C12.wildcard_chunks_iff_spec
#print axioms Ruma.Props.C12.regex_edges_are_boundaries
#print axioms Ruma.Props.C12.matchesPattern_iff_spec
#print axioms Ruma.Props.C12.containsDisplayName_literal
#print axioms Ruma.Props.C12.reference_matchers_ok
#print axioms Ruma.Props.C12.memberCount_iff
#print axioms Ruma.Props.C12.notificationPermission_iff
#print axioms Ruma.Props.C12.memberCountStringStatement_refuted
#print axioms Ruma.Props.C12.memberCount_string_iff_partial
#print axioms Ruma.Props.C12.flatten_path_injective
#print axioms Ruma.Props.C12.flatten_get_eq_lookup
#print axioms Ruma.Props.C12.getMatch_first_enabled
#print axioms Ruma.Props.C12.getMatch_is_first
#print axioms Ruma.Props.C12.getMatch_self_sent
#print axioms Ruma.Props.C12.getMatch_never_disabled
#print axioms Ruma.Props.C12.getMatch_none
#print axioms Ruma.Props.C12.matchesWord_iff_spec
#print axioms Ruma.Props.C12.memberCount_spellings
#print axioms Ruma.Props.C12.memberCountDecide_iff_Holds
#print axioms Ruma.Props.C12.condition_iff_spec
#print axioms Ruma.Props.C12.condition_unknown_false
#print axioms Ruma.Props.C12.eventPropertyIs_iff
#print axioms Ruma.Props.C12.eventPropertyContains_iff
#print axioms Ruma.Props.C12.getMatch_kind_priority
#print axioms Ruma.Props.C12.ruleHolds_iff
#print axioms Ruma.Props.C12.rule_applies_shapes
#print axioms Ruma.Props.C12.room_sender_rule_equality
#print axioms Ruma.Props.C12.getActions_eq
#print axioms Ruma.Props.C12.wordMatch_literal_is_occurrence
#print axioms Ruma.Props.C12.getMatch_ignores_disabled
#print axioms Ruma.Props.C12.self_sent_nothing_applies
#print axioms Ruma.Props.C12.property_paths_unambiguous
#print axioms Ruma.Props.C12.find_on_bytes_is_find_on_chars
