/-
  C13 — Push ruleset edits follow the documented placement semantics, never panic, fail atomically.
  Property theorems only; helper lemmas live in `Lemmas/Ruleset.lean`, `Lemmas/RulesetInv.lean`.

  Reading guide. `step s op` is the model of one `Ruleset::{insert, remove, set_enabled,
  set_actions, get}` call on ruleset `s` (`Model/Ruleset.lean`, mirrors `push.rs`): the new ruleset
  and the outcome (`ok`, `err class`, `panic`, `got rule?`). `exec s ops` is the ruleset after the
  operation sequence `ops`, `run s ops` additionally lists the outcomes. `Reachable s` says that `s`
  is produced by SOME operation sequence (any length, any operations, any ids) from the empty
  ruleset or from `Ruleset::server_default`; every theorem below quantifies over all of them — the
  proofs go by induction on the operation list through the invariants of `Lemmas/RulesetInv.lean`.
  `position l id` is the index of the rule `id` in the priority list `l` (0 = most important),
  `lookup` the rule itself, `others l id` the list without that rule, `s.get k` the list of kind `k`.
-/
import RumaModel.Lemmas.RulesetInv
namespace Ruma.Props.C13
open Ruma Ruma.Ruleset
open Ruma.Spec.RulesetPlacement (position lookup others isServerDefaultId anchorIsServerDefault
  hasInvalidChar defaultPosition insertRule newRule replaceInPlace)

/-- The two start states of the property. -/
inductive Start where
  | empty
  | serverDefault

def Start.state : Start → State
  | .empty => State.empty
  | .serverDefault => State.serverDefault

/-- `s` is the ruleset after some operation sequence from one of the two start states. -/
def Reachable (s : State) : Prop := ∃ (st : Start) (ops : List Op), s = exec st.state ops

theorem reachable_start (st : Start) : Reachable st.state := ⟨st, [], rfl⟩

/-- Reachability is closed under one more operation (so every theorem about `Reachable s` and one
further `step` is a theorem about every position in every operation sequence). -/
theorem reachable_step {s : State} (h : Reachable s) (op : Op) : Reachable (step s op).1 := by
  obtain ⟨st, ops, rfl⟩ := h
  exact ⟨st, ops ++ [op], by rw [exec_append, exec_cons, exec_nil]⟩

theorem start_inv (st : Start) : Inv st.state ∧ DefaultIffDot st.state := by
  cases st
  · exact empty_ok
  · exact serverDefault_ok

theorem reachable_inv {s : State} (h : Reachable s) : Inv s ∧ DefaultIffDot s := by
  obtain ⟨st, ops, rfl⟩ := h
  exact exec_inv (start_inv st).1 (start_inv st).2 ops

/-- **Rule ids stay unique per kind**, after every operation sequence from either start state. -/
theorem inv_unique_ids (st : Start) (ops : List Op) (k : Kind) :
    (((exec st.state ops).get k).map (·.id)).Nodup :=
  (reachable_inv ⟨st, ops, rfl⟩).1 k

/-- **The model of the code does what the specification prescribes**: in every reachable ruleset,
one step of the model (`push.rs`, indexmap operations) equals one step of
`Spec/RulesetPlacement.lean` (placement described on plain lists) — same new ruleset, same outcome. -/
theorem step_refines_spec {s : State} (h : Reachable s) (op : Op) :
    step s op = Spec.RulesetPlacement.step s op :=
  step_eq_spec (reachable_inv h).1 op

/-- The same for whole sequences: final ruleset and list of outcomes agree with the specification. -/
theorem run_refines_spec (st : Start) (ops : List Op) :
    run st.state ops = Spec.RulesetPlacement.run st.state ops := by
  have hu := (start_inv st).1
  generalize st.state = s at hu
  induction ops generalizing s with
  | nil => rfl
  | cons op t ih =>
    simp only [run, Spec.RulesetPlacement.run]
    rw [← step_eq_spec hu op, ih _ (step_inv hu op)]

private theorem spec_step_ne_panic (s : State) (op : Op) :
    (Spec.RulesetPlacement.step s op).2 ≠ .panic := by
  rcases spec_step_cases s op with ⟨_, h⟩ | ⟨k, _, rfl⟩ | ⟨_, _, _, h⟩
  · rw [h]; nofun
  · cases k <;> nofun
  · rw [h]; nofun

/-- **No operation panics**: in every reachable ruleset, no `insert`, `remove`, `set_enabled`,
`set_actions` or `get` call — with any kind, id, anchors — reaches `move_index` with an index out of
bounds or the `unreachable!()` of `remove`. -/
theorem no_panic {s : State} (h : Reachable s) (op : Op) : (step s op).2 ≠ .panic := by
  rw [step_refines_spec h]; exact spec_step_ne_panic s op

/-- The same, for the whole trace of any operation sequence from either start state. -/
theorem trace_no_panic (st : Start) (ops : List Op) : Outcome.panic ∉ (run st.state ops).2 := by
  rw [run_refines_spec]
  generalize st.state = s
  induction ops generalizing s with
  | nil => simp [Spec.RulesetPlacement.run]
  | cons op t ih =>
    simp only [Spec.RulesetPlacement.run, List.mem_cons, not_or]
    exact ⟨fun e => spec_step_ne_panic s op e.symm, ih _⟩

/-- **An operation that returns an error leaves the ruleset unchanged** (every kind, every field
of every rule, every position) — and so does a lookup. -/
theorem error_leaves_unchanged {s : State} (h : Reachable s) (op : Op)
    (herr : (step s op).2 ≠ .ok) : (step s op).1 = s := by
  rw [step_refines_spec h] at herr ⊢
  rcases spec_step_cases s op with ⟨_, h⟩ | ⟨k, id, rfl⟩ | ⟨_, _, _, h⟩
  · rw [h]
  · exact spec_step_get s k id
  · exact absurd (by rw [h]) herr

private theorem step_ok {s s' : State} (hs : Reachable s) {op : Op} (h : step s op = (s', .ok)) :
    ∃ k l', Edit s op k l' ∧ s' = s.set k l' := by
  rw [step_refines_spec hs] at h
  rcases spec_step_cases s op with ⟨_, h'⟩ | ⟨k, _, rfl⟩ | ⟨k, l', he, h'⟩
  · rw [h'] at h; cases h
  · cases k <;> cases h
  · rw [h'] at h; exact ⟨k, l', he, (Prod.mk.inj h).1.symm⟩

/-- What a successful insert does: the rule stored is `newRule …`, it stands at index `slot …`, and a
rule that stood at index `i` among the others stands at `i`, or at `i + 1` if that is behind the
new rule. The placement theorems below read off the cases of `slot`. -/
private theorem insert_ok_form {s s' : State} (hs : Reachable s) {k : Kind} {id : Str}
    {actions : Nat} {a b : Option Str} (h : step s (.insert k id actions a b) = (s', .ok)) :
    ∃ n, slot k (s.get k) id a b = .ok n
      ∧ s'.get k = (others (s.get k) id).insertIdx n (newRule (s.get k) id actions)
      ∧ position (s'.get k) id = some n
      ∧ lookup (s'.get k) id = some (newRule (s.get k) id actions)
      ∧ ∀ z i, position (others (s.get k) id) z = some i →
          position (s'.get k) z = some (if i < n then i else i + 1) := by
  obtain ⟨_, l', he, rfl⟩ := step_ok hs h
  cases he with
  | insert hi =>
    obtain ⟨n, hn, hle, rfl⟩ := insertRule_form ((reachable_inv hs).1 k) hi
    rw [State.get_set_same]
    have hr := not_mem_ids_others (s.get k) id
    have hu := uniqueIds_others id ((reachable_inv hs).1 k)
    exact ⟨n, hn, rfl, position_insertIdx_self hle hr hu, lookup_insertIdx_self hle hr,
      fun z i hz => position_insertIdx_other hle hr hu hz⟩

/-- **A new rule without anchors goes to the default position**: index 0 — the most important
rule of its kind — and index 1 among the overrides (index 0 when there is no other override
rule). It is enabled, not a server-default rule, and has the given actions. -/
theorem insert_new_unpositioned {s s' : State} (hs : Reachable s) {k : Kind} {id : Str}
    {actions : Nat} (hnew : lookup (s.get k) id = none)
    (h : step s (.insert k id actions none none) = (s', .ok)) :
    position (s'.get k) id = some (min (defaultPosition k) (s.get k).length)
      ∧ lookup (s'.get k) id
          = some { id := id, enabled := true, dflt := false, actions := actions } := by
  obtain ⟨n, hn, _, hpos, hlook, _⟩ := insert_ok_form hs h
  rw [slot, lookup_eq_none.mp hnew] at hn
  cases hn
  rw [hlook, newRule, hnew]
  exact ⟨hpos, rfl⟩

/-- Among the overrides of a ruleset that started as the server-default ruleset, `.m.rule.master`
is and stays the first rule, whatever operations are applied … -/
theorem master_stays_first (ops : List Op) :
    position ((exec State.serverDefault ops).get .override) masterId = some 0 :=
  exec_headMaster serverDefault_ok.1 serverDefault_ok.2 headMaster_serverDefault ops

/-- … and a new unpositioned override rule becomes the second rule, right after it; in every
other kind a new unpositioned rule becomes the first. -/
theorem insert_new_unpositioned_default_ruleset (ops : List Op) {s' : State} {id : Str}
    {actions : Nat} (hnew : lookup ((exec State.serverDefault ops).get .override) id = none)
    (h : step (exec State.serverDefault ops) (.insert .override id actions none none) = (s', .ok)) :
    position (s'.get .override) masterId = some 0 ∧ position (s'.get .override) id = some 1 := by
  refine ⟨?_, ?_⟩
  · have := master_stays_first (ops ++ [.insert .override id actions none none])
    rwa [exec_append, exec_cons, exec_nil, h] at this
  · have hr : Reachable (exec State.serverDefault ops) := ⟨.serverDefault, ops, rfl⟩
    have := position_lt (master_stays_first ops)
    rw [(insert_new_unpositioned hr hnew h).1]
    exact congrArg some (by show min 1 _ = 1; omega)

theorem insert_new_unpositioned_first {s s' : State} (hs : Reachable s) {k : Kind} {id : Str}
    {actions : Nat} (hk : k ≠ .override) (hnew : lookup (s.get k) id = none)
    (h : step s (.insert k id actions none none) = (s', .ok)) :
    position (s'.get k) id = some 0 := by
  rw [(insert_new_unpositioned hs hnew h).1]
  cases k <;> first | exact absurd rfl hk | simp [defaultPosition]

/-- **`after` puts the rule immediately after the referenced rule.** For every reachable ruleset,
whether the rule is new or exists, and wherever it was relative to its anchor (before it, after
it, adjacent or not): after a successful insert with `after = x` only, the rule's index is the
index of `x` plus one. -/
theorem insert_after_immediately_after {s s' : State} (hs : Reachable s) {k : Kind} {id x : Str}
    {actions : Nat} (h : step s (.insert k id actions (some x) none) = (s', .ok)) :
    ∃ i, position (s'.get k) x = some i ∧ position (s'.get k) id = some (i + 1) := by
  obtain ⟨n, hn, _, hpos, _, hoth⟩ := insert_ok_form hs h
  obtain ⟨i, hi, rfl⟩ := slot_ok hn
  exact ⟨i, by simpa using hoth x i hi, hpos⟩

/-- **`before` puts the rule immediately before the referenced rule** (also when `after` is given
as well: then the rule additionally comes after the `after` rule). For every reachable ruleset and
every previous position of the rule relative to its anchors. -/
theorem insert_before_immediately_before {s s' : State} (hs : Reachable s) {k : Kind} {id y : Str}
    {actions : Nat} {a : Option Str} (h : step s (.insert k id actions a (some y)) = (s', .ok)) :
    ∃ i, position (s'.get k) id = some i ∧ position (s'.get k) y = some (i + 1)
      ∧ ∀ x, a = some x → ∃ j, position (s'.get k) x = some j ∧ j < i := by
  obtain ⟨n, hn, _, hpos, _, hoth⟩ := insert_ok_form hs h
  refine ⟨n, hpos, ?_⟩
  have hn := slot_ok hn
  cases a <;> simp only [] at hn
  · exact ⟨by simpa using hoth y _ hn, nofun⟩
  · obtain ⟨i, hx, hy, hij⟩ := hn
    refine ⟨by simpa using hoth y _ hy, fun x' e => ?_⟩
    cases e
    exact ⟨i, by simpa [hij] using hoth _ i hx, hij⟩

/-- **Replacing a rule keeps its `enabled` flag and, if unpositioned, its place.** Inserting a
rule whose id exists yields a rule with the old `enabled` flag, the new actions, not
server-default; without anchors it stays at its index and the order of ids is unchanged. -/
theorem replace_keeps_enabled_and_place {s s' : State} (hs : Reachable s) {k : Kind} {id : Str}
    {actions : Nat} {a b : Option Str} {old : Rule} (hold : lookup (s.get k) id = some old)
    (h : step s (.insert k id actions a b) = (s', .ok)) :
    lookup (s'.get k) id
        = some { id := id, enabled := old.enabled, dflt := false, actions := actions }
      ∧ (a = none → b = none →
          position (s'.get k) id = position (s.get k) id
            ∧ (s'.get k).map (·.id) = (s.get k).map (·.id)) := by
  obtain ⟨n, hn, hget, hpos, hlook, _⟩ := insert_ok_form hs h
  refine ⟨by rw [hlook, newRule, hold], ?_⟩
  rintro rfl rfl
  obtain ⟨c, hc⟩ := lookup_some_position hold
  simp only [slot, hc, Option.getD_some] at hn
  cases hn
  refine ⟨hpos.trans hc.symm, ?_⟩
  have := replaceInPlace_eq_insertIdx ((reachable_inv hs).1 k) (r := newRule (s.get k) id actions) hc
  exact (congrArg ids (hget.trans this.symm)).trans (ids_replaceInPlace _ _)

/-- **Server-default rules are protected** (1): a rule whose id starts with `.` cannot be created
or overwritten — the insert fails and changes nothing. -/
theorem server_default_protected_create {s : State} (hs : Reachable s) (k : Kind) {id : Str}
    (actions : Nat) (a b : Option Str) (hid : isServerDefaultId id = true) :
    step s (.insert k id actions a b) = (s, .err .prot) := by
  rw [step_refines_spec hs]
  simp [Spec.RulesetPlacement.step, insertRule, hid]

/-- (2): a server-default rule cannot be used as `after` / `before` anchor — the insert fails and
changes nothing. -/
theorem server_default_protected_anchor {s : State} (hs : Reachable s) (k : Kind) (id : Str)
    (actions : Nat) {a b : Option Str}
    (hab : anchorIsServerDefault a = true ∨ anchorIsServerDefault b = true) :
    ∃ c, step s (.insert k id actions a b) = (s, .err c) := by
  rw [step_refines_spec hs]
  rcases spec_step_cases s (.insert k id actions a b) with h | ⟨_, _, h⟩ | ⟨_, _, he, _⟩
  · exact h
  · cases h
  · cases he with
    | insert hi =>
      obtain ⟨_, _, ha, hb, _⟩ := insertRule_ok hi
      rw [ha, hb] at hab
      rcases hab with h | h <;> cases h

/-- (3): a server-default rule cannot be removed: `remove` with an id starting with `.` fails in
every reachable ruleset and changes nothing; … -/
theorem server_default_protected_remove {s : State} (hs : Reachable s) (k : KindArg) {id : Str}
    (hid : isServerDefaultId id = true) :
    ∃ c, step s (.remove k id) = (s, .err c) := by
  rw [step_refines_spec hs]
  rcases spec_step_cases s (.remove k id) with h | ⟨_, _, h⟩ | ⟨_, _, he, _⟩
  · exact h
  · cases h
  · cases he with
    | @remove _ _ r hl hdf =>
      rw [(reachable_inv hs).2 _ r (lookup_mem hl), lookup_id hl, hid] at hdf
      cases hdf

/-- … and (4), outright: after ANY operation sequence the server-default rules of every kind are
the ones of the start state, in the same order — none was removed, created or moved past another. -/
theorem server_default_protected (st : Start) (ops : List Op) (k : Kind) :
    defaultIds ((exec st.state ops).get k) = defaultIds (st.state.get k) :=
  exec_defaultIds (start_inv st).1 (start_inv st).2 ops k

/-- The kind and rule an operation is about (`none`: a custom kind). -/
def target : Op → Option (Kind × Str)
  | .insert k id _ _ _ => some (k, id)
  | .remove (.known k) id => some (k, id)
  | .setEnabled (.known k) id _ => some (k, id)
  | .setActions (.known k) id _ => some (k, id)
  | .get (.known k) id => some (k, id)
  | _ => none

private theorem spec_step_others (s : State) (hu : Inv s) (op : Op) :
    match target op with
    | some (k, id) =>
      (∀ k', k' ≠ k → (Spec.RulesetPlacement.step s op).1.get k' = s.get k')
        ∧ others ((Spec.RulesetPlacement.step s op).1.get k) id = others (s.get k) id
    | none => (Spec.RulesetPlacement.step s op).1 = s := by
  rcases spec_step_fst s op with h | ⟨k, l', he, h⟩ <;> rw [h]
  · split
    · exact ⟨fun _ _ => rfl, rfl⟩
    · rfl
  · have key : ∀ id, others l' id = others (s.get k) id →
        (∀ k', k' ≠ k → (s.set k l').get k' = s.get k') ∧
          others ((s.set k l').get k) id = others (s.get k) id :=
      fun id hl => ⟨fun k' hk => State.get_set_ne s l' hk, by rw [State.get_set_same]; exact hl⟩
    cases he with
    | insert hi =>
      obtain ⟨n, _, hn, rfl⟩ := insertRule_form (hu k) hi
      exact key _ (others_insertIdx_self hn (not_mem_ids_others _ _) (uniqueIds_others _ (hu k)))
    | remove => exact key _ (others_others _ _)
    | setEnabled _ hl | setActions _ hl =>
      exact key _ (lookup_id hl ▸ others_replaceInPlace _ _)

/-- **The other rules keep their relative order** (and everything else about them): whatever an
operation on rule `id` of kind `k` does and returns, the rules of the other kinds are untouched,
and the list of kind `k` without rule `id` is exactly what it was — same rules, same fields, same
order. An operation on a custom kind changes nothing at all. -/
theorem other_rules_keep_relative_order {s : State} (hs : Reachable s) (op : Op) :
    match target op with
    | some (k, id) =>
      (∀ k', k' ≠ k → (step s op).1.get k' = s.get k')
        ∧ others ((step s op).1.get k) id = others (s.get k) id
    | none => (step s op).1 = s := by
  rw [step_refines_spec hs]; exact spec_step_others s (reachable_inv hs).1 op

/-- What the three remaining operations do to the rule itself: `remove` deletes exactly that rule;
`set_enabled` / `set_actions` change exactly that field and keep the place. -/
theorem remove_ok {s s' : State} (hs : Reachable s) {k : Kind} {id : Str}
    (h : step s (.remove (.known k) id) = (s', .ok)) :
    s'.get k = others (s.get k) id ∧ lookup (s'.get k) id = none := by
  obtain ⟨_, _, he, rfl⟩ := step_ok hs h
  cases he
  rw [State.get_set_same]
  exact ⟨rfl, lookup_eq_none.mpr (position_others_self _ _)⟩

theorem set_enabled_ok {s s' : State} (hs : Reachable s) {k : Kind} {id : Str} {on : Bool}
    (h : step s (.setEnabled (.known k) id on) = (s', .ok)) :
    ∃ r, lookup (s.get k) id = some r ∧ lookup (s'.get k) id = some { r with enabled := on }
      ∧ position (s'.get k) id = position (s.get k) id := by
  obtain ⟨_, _, he, rfl⟩ := step_ok hs h
  cases he with
  | @setEnabled _ _ r _ hl =>
    rw [State.get_set_same, position_replaceInPlace]
    exact ⟨r, hl, lookup_replaceInPlace hl rfl, rfl⟩

theorem set_actions_ok {s s' : State} (hs : Reachable s) {k : Kind} {id : Str} {actions : Nat}
    (h : step s (.setActions (.known k) id actions) = (s', .ok)) :
    ∃ r, lookup (s.get k) id = some r ∧ lookup (s'.get k) id = some { r with actions := actions }
      ∧ position (s'.get k) id = position (s.get k) id := by
  obtain ⟨_, _, he, rfl⟩ := step_ok hs h
  cases he with
  | @setActions _ _ r _ hl =>
    rw [State.get_set_same, position_replaceInPlace]
    exact ⟨r, hl, lookup_replaceInPlace hl rfl, rfl⟩

/-! ### Non-vacuity: the hypotheses above are satisfiable, on the witnesses of defect F5 -/

section Examples
def a := bs "a"
def b := bs "b"
def c := bs "c"
def mk (id : Str) : Rule := { id := id, enabled := true, dflt := false, actions := 1 }

/-- An override rule can be inserted into the empty ruleset (F5: used to panic). -/
example : step State.empty (.insert .override a 1 none none)
    = ({ State.empty with override := [mk a] }, .ok) := by decide +kernel

/-- `[c, b, a]`, insert `c` after `b`: a rule moved FORWARD lands immediately after its anchor
(F5: used to give `[b, a, c]`). -/
example : (run State.empty [.insert .content a 1 none none, .insert .content b 1 none none,
      .insert .content c 1 none none, .insert .content c 1 (some b) none]).1.content
    = [mk b, mk c, mk a] := by decide +kernel

/-- A rule moved BACKWARD: `[c, b, a]`, insert `a` after `c` gives `[c, a, b]`. -/
example : (run State.empty [.insert .content a 1 none none, .insert .content b 1 none none,
      .insert .content c 1 none none, .insert .content a 1 (some c) none]).1.content
    = [mk c, mk a, mk b] := by decide +kernel

/-- Re-inserting a rule after the LAST rule (F5: used to panic): `[b, a]`, `b` after `a`. -/
example : (run State.empty [.insert .content a 1 none none, .insert .content b 1 none none,
      .insert .content b 1 (some a) none])
    = ({ State.empty with content := [mk a, mk b] }, [.ok, .ok, .ok]) := by decide +kernel

/-- `before` in both directions: `[c, b, a]`: `c` before `a` gives `[b, c, a]`; `a` before `c`
gives `[a, c, b]`. -/
example : (run State.empty [.insert .content a 1 none none, .insert .content b 1 none none,
      .insert .content c 1 none none, .insert .content c 1 none (some a)]).1.content
    = [mk b, mk c, mk a] := by decide +kernel
example : (run State.empty [.insert .content a 1 none none, .insert .content b 1 none none,
      .insert .content c 1 none none, .insert .content a 1 none (some c)]).1.content
    = [mk a, mk c, mk b] := by decide +kernel

/-- A failed insert (unknown anchor; `before` above `after`) changes nothing (F5: used to leave the
new rule appended / the old rule overwritten); a disabled rule stays disabled when replaced. -/
example : run State.empty [.insert .content a 1 none none, .insert .content b 1 (some (bs "zz")) none]
    = ({ State.empty with content := [mk a] }, [.ok, .err .unknown]) := by decide +kernel
example : run State.empty [.insert .content a 1 none none, .insert .content b 1 none none,
      .setEnabled (.known .content) a false, .insert .content a 3 (some b) (some b),
      .insert .content a 3 none none]
    = ({ State.empty with content := [mk b, { mk a with enabled := false, actions := 3 }] },
        [.ok, .ok, .ok, .err .order, .ok]) := by decide +kernel

/-- From the server-default ruleset: a new override goes to index 1, behind `.m.rule.master`;
`.m.rule.master` can be neither removed nor used as anchor nor re-created. -/
example : ((run State.serverDefault [.insert .override a 1 none none]).1.override.take 2).map (·.id)
    = [masterId, a] := by
  unfold State.serverDefault dr masterId
  have h := bs_ofList  -- as a hypothesis, so that `simp` opens the literals: see `serverDefault_ok`
  simp only [h]
  decide +kernel
example : (run State.serverDefault [.remove (.known .override) masterId,
      .insert .override a 1 (some masterId) none, .insert .override masterId 1 none none])
    = (State.serverDefault, [.err .prot, .err .prot, .err .prot]) := by
  unfold State.serverDefault dr masterId
  have h := bs_ofList
  simp only [h]
  decide +kernel

/-- The hypotheses of the placement theorems are satisfiable in every relative position of rule
and anchor. `cba` is the reachable content list `[c, b, a]`. -/
def cba : State := exec State.empty [.insert .content a 1 none none, .insert .content b 1 none none,
  .insert .content c 1 none none]
theorem cba_reachable : Reachable cba := ⟨.empty, _, rfl⟩

/-- `insert_after_immediately_after`, rule before its anchor (moves forward), adjacent: -/
example : step cba (.insert .content c 1 (some b) none) = ((step cba (.insert .content c 1 (some b) none)).1, .ok)
    ∧ position (cba.get .content) c = some 0 ∧ position (cba.get .content) b = some 1 := by decide +kernel
/-- … not adjacent (`c` after `a`), rule after its anchor (`a` after `c`), and a new rule: -/
example : (step cba (.insert .content c 1 (some a) none)).2 = .ok
    ∧ (step cba (.insert .content a 1 (some c) none)).2 = .ok
    ∧ (step cba (.insert .content (bs "n") 1 (some b) none)).2 = .ok := by decide +kernel
/-- `insert_before_immediately_before`, rule after / before its anchor, with and without `after`: -/
example : (step cba (.insert .content a 1 none (some c))).2 = .ok
    ∧ (step cba (.insert .content c 1 none (some a))).2 = .ok
    ∧ (step cba (.insert .content a 1 (some c) (some b))).2 = .ok
    ∧ (step cba (.insert .content (bs "n") 1 (some c) (some b))).2 = .ok := by decide +kernel
/-- `replace_keeps_enabled_and_place` and `insert_new_unpositioned`: -/
example : lookup (cba.get .content) b = some (mk b)
    ∧ (step cba (.insert .content b 2 none none)).2 = .ok
    ∧ lookup (cba.get .content) (bs "n") = none
    ∧ (step cba (.insert .content (bs "n") 2 none none)).2 = .ok := by decide +kernel
/-- `error_leaves_unchanged`: errors of every class occur in reachable states. -/
example : (step cba (.insert .content a 1 (some b) (some c))).2 = .err .order
    ∧ (step cba (.insert .content a 1 (some a) none)).2 = .err .unknown
    ∧ (step cba (.insert .content (bs "a/b") 1 none none)).2 = .err .invalid
    ∧ (step cba (.remove (.known .content) (bs ".x"))).2 = .err .unknown
    ∧ (step State.serverDefault (.remove (.known .content) (bs ".m.rule.contains_user_name"))).2
        = .err .prot := by
  unfold State.serverDefault dr
  have h := bs_ofList
  simp only [h]
  decide +kernel

/-- `Reachable` is inhabited by non-trivial rulesets. -/
example : Reachable { State.empty with content := [mk b, mk c, mk a] } :=
  ⟨.empty, [.insert .content a 1 none none, .insert .content b 1 none none,
      .insert .content c 1 none none, .insert .content c 1 (some b) none], by decide +kernel⟩
end Examples

#print axioms inv_unique_ids
#print axioms step_refines_spec
#print axioms run_refines_spec
#print axioms no_panic
#print axioms trace_no_panic
#print axioms error_leaves_unchanged
#print axioms insert_new_unpositioned
#print axioms master_stays_first
#print axioms insert_new_unpositioned_default_ruleset
#print axioms insert_new_unpositioned_first
#print axioms insert_after_immediately_after
#print axioms insert_before_immediately_before
#print axioms replace_keeps_enabled_and_place
#print axioms server_default_protected_create
#print axioms server_default_protected_anchor
#print axioms server_default_protected_remove
#print axioms server_default_protected
#print axioms other_rules_keep_relative_order
#print axioms remove_ok
#print axioms set_enabled_ok
#print axioms set_actions_ok
end Ruma.Props.C13
