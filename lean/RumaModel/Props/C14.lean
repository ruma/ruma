/-
  C14 — Sanitized HTML has only allow-listed elements, attributes, schemes and classes.
  Property theorems only; helper lemmas live in `Lemmas/Html*.lean`.

  Reading guide. `clean L c roots` is the model of `SanitizerConfig::clean` on the children of a
  parsed fragment (`Model/Html.lean`); `L` are the private static lists of `clean.rs`, `c` is a
  `SanitizerConfig` with every builder field. The predicates `elemOk`, `attrOk`, `valueOk`,
  `classOk`, `AllElemsL`, `NoOtherL`, `depthOfL`, `textOfL`, `keptTextL` are the vocabulary of
  `Spec/HtmlPolicy.lean` (what a configuration promises); `Spec/HtmlAllow.lean` holds the Matrix
  spec's lists. `valueOk` (with `denied`, `schemeList`), `classOk`, `renamed`, `renamedAttr`,
  `tooDeep`, `keptText` and the selection in `keptElems` are written there with `mapGet`, list
  operations and the glob relation `GlobCp` of `Spec/HtmlGlob.lean` only — they call no function of
  the model; `Lemmas/HtmlPolicy.lean` proves that the model's `node_action` /
  `clean_element_attributes` / `apply_replacements` compute them (`*_eq_model`), and
  `Lemmas/HtmlGlob.lean` that the model of `WildMatch::matches` decides `GlobCp`, which on strings
  of Unicode scalar values is the relation `Glob` of `Spec/Glob.lean`. The one place where a
  statement still contains a model function on its specification side is the attribute SET that
  `keptElems` attaches to a kept element (`cleanAttrs … (replaceAttrsOf …)`, see there).
  The first block of theorems holds for EVERY configuration, every choice of static
  lists and every tree. The second block evaluates the promises for `strict()`/`compat()` with and
  without `remove_reply_fallback()` at the spec's lists: there they are the spec's tables. The
  third block (T1) ties the lists the running implementation uses to the spec's.
-/
import RumaModel.Lemmas.HtmlIdem
import RumaModel.Lemmas.HtmlTables
import RumaModel.Lemmas.HtmlPlain
import RumaModel.Lemmas.HtmlBuilder
namespace Ruma.Props.C14
open Ruma Ruma.Html Ruma.Spec.HtmlPolicy Ruma.Spec.HtmlGlob Ruma.Lemmas.Html

/-! ## For every configuration and every tree -/

/-- Every element of the output is allowed by the configuration: not removed by name, not
ignored by name, and on the allow list if there is one. -/
theorem clean_elements_allowed (L : Lists) (c : Cfg) (roots : List Node) :
    AllElemsL (fun _ n _ => elemOk L c n = true) 0 (clean L c roots) :=
  cleanList_all L c _ (fun _ _ n as _ h => elemOk_of_none L c n as _ h) roots 0 0 (Nat.le_refl 0)

/-- On every element of the output, every attribute is allowed for that element: its name is
not removed and is on the element's allow list if there is one — and then it is an HTML attribute
(no namespace), so that a parser reading the serialized output sees the same name. -/
theorem clean_attrs_allowed (L : Lists) (c : Cfg) (roots : List Node) :
    AllElemsL (fun _ n as => ∀ a ∈ as, attrOkA L c n a) 0 (clean L c roots) :=
  cleanList_all L c _
    (fun _ _ n as _ _ a ha => ((attrGood_iff L c n a).1 (cleanAttrs_good L c n as a ha)).1)
    roots 0 0 (Nat.le_refl 0)

/-- On every element of the output, EVERY attribute (other than `class`, whose value is a class
list and is rewritten by the class filter) carries an acceptable value: no denied scheme, and if
the attribute has a scheme list the value starts with `scheme:` for a scheme of the list —
whatever other attributes accompany it. (`valueOk` is stated in `Spec/HtmlPolicy.lean` without
functions of the model; read as a statement: `policy_values_read`.) -/
theorem clean_schemes_allowed (L : Lists) (c : Cfg) (roots : List Node) :
    AllElemsL (fun _ n as => ∀ a ∈ as, a.name ≠ className → valueOk L c n a.name a.value = true)
      0 (clean L c roots) :=
  cleanList_all L c _
    (fun _ _ n as _ h a ha hc =>
      ((nodeAction_none_iff L c n as _).1 h).2.2 a (cleanAttrs_origin L c n as a ha hc))
    roots 0 0 (Nat.le_refl 0)

/-- Why `class` is excluded above: a configuration may put a scheme list on `class` itself; the
class filter then rewrites the value after the scheme check. (Not reachable in the standard
configurations, see `plain_class_unrestricted`.) -/
example :
    let c : Cfg := { allowSchemes := some ⟨false, [(bs "p", [(className, [bs "a"])])]⟩,
                     removeClasses := some [(bs "p", [bs "a:*"])] }
    clean Spec.HtmlAllow.lists c [.elem (bs "p") [⟨none, [], className, bs "a:x b"⟩] []]
      = [.elem (bs "p") [⟨none, [], className, bs "b"⟩] []] := by decide +kernel

/-- Every class left in a `class` attribute of the output is allowed for its element. (`classOk`
is stated in `Spec/HtmlPolicy.lean` with the glob relation, without functions of the model; read
as a statement: `policy_classes_read`.) -/
theorem clean_classes_allowed (L : Lists) (c : Cfg) (roots : List Node) :
    AllElemsL (fun _ n as => ∀ a ∈ as, a.name = className →
      ∀ cl ∈ splitWs a.value, classOk L c n cl = true) 0 (clean L c roots) :=
  cleanList_all L c _
    (fun _ _ n as _ _ a ha => ((attrGood_iff L c n a).1 (cleanAttrs_good L c n as a ha)).2)
    roots 0 0 (Nat.le_refl 0)

/-- The output consists of elements and text only: no comments or other node kinds. -/
theorem clean_no_other_nodes (L : Lists) (c : Cfg) (roots : List Node) :
    NoOtherL (clean L c roots) :=
  cleanList_noOther L c roots 0

/-- With a maximum depth `m` (100 in strict and compat mode), the output nests at most `m`
levels of elements. -/
theorem clean_depth_le (L : Lists) (c : Cfg) (roots : List Node) (m : Nat)
    (hm : maxDepthValue L c = some m) : depthOfL (clean L c roots) ≤ m := by
  have h := cleanList_all L c (fun d _ _ => d < m)
    (fun dOut dIn n as hle h => Nat.lt_of_le_of_lt hle (depth_of_none L c n as dIn m h hm))
    roots 0 0 (Nat.le_refl 0)
  have := depth_of_allElemsL m _ 0 h (Nat.zero_le m)
  simpa [clean] using this

/-- `valueOk`, read as a statement: no scheme of the element's and attribute's entry in the
`deny_schemes` list starts the value, and if the attribute is restricted (`schemeList`: the entries
of the given list and of the mode's tables, chained) some scheme of that list does. -/
theorem policy_values_read (L : Lists) (c : Cfg) (el a v : Str) :
    valueOk L c el a v = true ↔
      (∀ l, c.denySchemes.bind (cell · el a) = some l → ∀ s ∈ l, hasScheme v s = false) ∧
      (∀ l, Spec.HtmlPolicy.schemeList L c el a = some l → ∃ s ∈ l, hasScheme v s = true) :=
  valueOk_iff_schemes L c el a v

/-- `classOk`, read as a statement with the glob RELATION: no pattern of the element's
`remove_classes` entry matches the class, and if there is an allow list (a list was given or a
mode is set) some pattern of the element's entry in the given list matches it, or — where the
mode's list counts — some pattern of the mode's entry. -/
theorem policy_classes_read (L : Lists) (c : Cfg) (el cl : Str) :
    classOk L c el cl = true ↔
      (∀ pats, c.removeClasses.bind (mapGet · el) = some pats → ∀ p ∈ pats, ¬ GlobCp p cl) ∧
      ((c.allowClasses.isSome ∨ c.mode.isSome) →
        (∃ pats, c.allowClasses.bind (fun l => mapGet l.content el) = some pats ∧
          ∃ p ∈ pats, GlobCp p cl) ∨
        (modeCounts c.allowClasses = true ∧ c.mode.isSome ∧
          ∃ pats, mapGet L.classes el = some pats ∧ ∃ p ∈ pats, GlobCp p cl)) :=
  classOk_iff_glob L c el cl

/-- The glob relation on code points is the glob relation of `Spec/Glob.lean` (Matrix spec,
"Glob-style matching") on strings of Unicode scalar values — which is what a Rust `str` holds —;
the spec-side procedure `globCp` decides it, and so does the model of `WildMatch::matches`. -/
theorem glob_is_spec_glob (p s : Str) :
    (Lemmas.HtmlGlob.Scalars p → Lemmas.HtmlGlob.Scalars s →
      (GlobCp p s ↔ Spec.Glob.Glob (Lemmas.HtmlGlob.toText p) (Lemmas.HtmlGlob.toText s))) ∧
    (globCp p s = true ↔ GlobCp p s) ∧ (globMatch p s = true ↔ GlobCp p s) :=
  ⟨Lemmas.HtmlGlob.globCp_iff_Glob p s, Lemmas.HtmlGlob.globCp_iff p s,
    Lemmas.HtmlGlob.globMatch_iff p s⟩

/-- The hypotheses of the first part are satisfiable: ASCII and non-ASCII text is scalar values. -/
example : Lemmas.HtmlGlob.Scalars (bs "language-*") ∧ Lemmas.HtmlGlob.Scalars [0x6C, 0xE9, 0x1F600] := by
  unfold Lemmas.HtmlGlob.Scalars; decide +kernel

/-- `glob_is_spec_glob` on a concrete pattern: `language-*` matches `language-rust`, not `rust`. -/
example : GlobCp (bs "language-*") (bs "language-rust") ∧ ¬ GlobCp (bs "language-*") (bs "rust") :=
  ⟨(Lemmas.HtmlGlob.globCp_iff _ _).1 (by decide +kernel),
    fun h => absurd ((Lemmas.HtmlGlob.globCp_iff _ _).2 h) (by decide +kernel)⟩

/-- With reply-fallback removal, no `mx-reply` element remains (its content is gone as well:
`clean_keeps_text_in_order` with `keptText` skipping it). -/
theorem clean_no_mx_reply (L : Lists) (c : Cfg) (roots : List Node)
    (h : c.removeReplyFallback = true) :
    AllElemsL (fun _ n _ => n ≠ replyName) 0 (clean L c roots) :=
  cleanList_all L c _
    (fun _ _ n as _ hact hn => by
      have := elemOk_of_none L c n as _ hact
      simp [elemOk, elemRemoved, h, hn] at this)
    roots 0 0 (Nat.le_refl 0)

/-- The text of the output is exactly the text outside dropped subtrees (removed element names,
`mx-reply` under reply-fallback removal, nesting beyond the maximum depth, comments), in document
order: text and descendants of elements that are merely not allowed are kept. -/
theorem clean_keeps_text_in_order (L : Lists) (c : Cfg) (roots : List Node) :
    textOfL (clean L c roots) = keptTextL L c 0 roots :=
  cleanList_text L c roots 0

/-! ## What is dropped, what is hoisted -/

/-- A removed element leaves nothing — neither itself nor any descendant, text or element:
removed by name (after the documented replacements), `mx-reply` under reply-fallback removal, or
nested at or beyond the maximum depth. -/
theorem clean_drops_subtree (L : Lists) (c : Cfg) (d : Nat) (n : Str) (as : List Attr) (cs : List Node)
    (h : elemRemoved c (renamed L c n) = true ∨ tooDeep L c d = true) :
    cleanNode L c d (.elem n as cs) = [] := by
  rw [cleanNode_elem, if_pos (by simpa using h)]

/-- With reply-fallback removal, an `mx-reply` element (or one the configuration renames to
`mx-reply`) disappears with everything inside it, wherever it stands — also below elements that
are themselves kept or ignored — and whatever other lists say about it. -/
theorem clean_drops_mx_reply (L : Lists) (c : Cfg) (d : Nat) (n : Str) (as : List Attr) (cs : List Node)
    (h : c.removeReplyFallback = true) (hn : renamed L c n = replyName) :
    cleanNode L c d (.elem n as cs) = [] :=
  clean_drops_subtree L c d n as cs (.inl (by simp [elemRemoved, h, hn]))

/-- The elements of the output, in document order, are exactly the elements of the input that
stand outside dropped subtrees, whose name is allowed and whose attribute values are all
acceptable (`keptElemsL`), each with its filtered attribute set: allowed descendants of elements
that are merely not allowed are kept, in order, and nothing else appears.
Which elements, under which names, in which order: `keptElemsL` says that without functions of the
model (`clean_keeps_allowed_names` states just this part). The attribute set beside each name is
the model's own `cleanAttrs … (replaceAttrsOf …)` on both sides of the equation — for that
component this theorem says nothing beyond the model; what the specification says about it is
`clean_attrs_allowed`, `clean_schemes_allowed`, `clean_classes_allowed`. -/
theorem clean_keeps_allowed_descendants (L : Lists) (c : Cfg) (roots : List Node) :
    elemsOfL (clean L c roots) = keptElemsL L c 0 roots :=
  cleanList_elems L c roots 0

/-- The names of the output's elements, in document order, are the names (after the documented
replacements) of the input's elements that stand outside dropped subtrees, are allowed and carry
only acceptable values — `keptNamesL` (`Spec/HtmlPolicy.lean`) contains no function of the model. -/
theorem clean_keeps_allowed_names (L : Lists) (c : Cfg) (roots : List Node) :
    (elemsOfL (clean L c roots)).map (·.1) = keptNamesL L c 0 roots := by
  rw [clean_keeps_allowed_descendants, keptElemsL_names]

/-- … and an element that is merely not allowed (ignored by name, not on the allow list, or
carrying a value with a scheme that is denied / not allowed) is replaced by its cleaned children,
which count one level deeper. -/
theorem clean_hoists_children (L : Lists) (c : Cfg) (d : Nat) (n : Str) (as : List Attr) (cs : List Node)
    (hr : elemRemoved c (renamed L c n) = false) (hd : tooDeep L c d = false)
    (h : elemOk L c (renamed L c n) = false ∨
      ∃ a ∈ as, valueOk L c (renamed L c n) (renamedAttr L c n a.name) a.value = false) :
    cleanNode L c d (.elem n as cs) = cleanList L c (d + 1) cs := by
  have hk : ¬ (elemOk L c (renamed L c n) && as.all fun a =>
      valueOk L c (renamed L c n) (renamedAttr L c n a.name) a.value) = true := by
    rw [Bool.and_eq_true, List.all_eq_true]
    rintro ⟨he, hall⟩
    rcases h with h | ⟨a, ha, hv⟩
    · rw [he] at h; cases h
    · rw [hall a ha] at hv; cases hv
  rw [cleanNode_elem, if_neg (by simp [hr, hd]), if_neg hk]

/-! ## The public builder -/

/-- "For every `c : Cfg`" is "for every configuration reachable through the public builder":
every configuration value is the result of `new()` / `strict()` / `compat()` followed by one call
per field that is set; and each call overwrites exactly its own field (a later call of the same
method replaces the earlier one). -/
theorem builder_reaches_every_cfg (c : Cfg) :
    (∃ calls, build c.mode calls = c) ∧
    ∀ m calls call, build m (calls ++ [call]) = call.apply (build m calls) :=
  ⟨builder_reaches c, build_snoc⟩

/-- Removing beats ignoring beats allowing, as the builder documents: an element on the remove
list goes with its content whatever the ignore and allow lists say; an element on the ignore list
(not removed, within the depth limit) is replaced by its children even if an allow list names it. -/
theorem builder_precedence (L : Lists) (c : Cfg) (d : Nat) (n : Str) (as : List Attr) (cs : List Node) :
    (optContains c.removeElements (renamed L c n) = true →
      cleanNode L c d (.elem n as cs) = []) ∧
    (elemRemoved c (renamed L c n) = false → tooDeep L c d = false →
      optContains c.ignoreElements (renamed L c n) = true →
      cleanNode L c d (.elem n as cs) = cleanList L c (d + 1) cs) := by
  constructor
  · intro h
    exact clean_drops_subtree L c d n as cs (.inl (by simp [elemRemoved, h]))
  · intro hr hd hi
    exact clean_hoists_children L c d n as cs hr hd (.inl (by simp [elemOk, hi]))

/-- The element allow list of a configuration: without `allow_elements`, the mode's list (no
mode: everything); with `Override`, exactly the given list; with `Add`, the given list and the
mode's. -/
theorem builder_elements (L : Lists) (c : Cfg) (n : Str) :
    elemListed L c n =
      match c.allowElements with
      | none => c.mode.isNone || L.elements.contains n
      | some ⟨true, l⟩ => l.contains n
      | some ⟨false, l⟩ => l.contains n || (c.mode.isSome && L.elements.contains n) := by
  unfold elemListed Cfg.useStrict
  cases c.allowElements with
  | none => cases c.mode <;> simp [optContains, isOverride]
  | some b =>
    obtain ⟨o, l⟩ := b
    cases o <;> cases c.mode <;> simp [optContains, isOverride]

/-- The attribute allow list per element, likewise; `remove_attributes` beats it. -/
theorem builder_attrs (L : Lists) (c : Cfg) (el a : Str) :
    attrOk L c el a =
      (!optContains (c.removeAttrs.bind (mapGet · el)) a &&
      match c.allowAttrs with
      | none => c.mode.isNone || optContains (mapGet L.attrs el) a
      | some ⟨true, l⟩ => optContains (mapGet l el) a
      | some ⟨false, l⟩ => optContains (mapGet l el) a || (c.mode.isSome && optContains (mapGet L.attrs el) a)) := by
  unfold attrOk Cfg.useStrict
  cases c.allowAttrs with
  | none => cases c.mode <;> simp [optContains, isOverride]
  | some b =>
    obtain ⟨o, l⟩ := b
    cases o <;> cases c.mode <;> simp [optContains, isOverride]

/-- The class allow list per element, likewise (patterns); `remove_classes` beats it. -/
theorem builder_classes (L : Lists) (c : Cfg) (el cl : Str) :
    classOk L c el cl =
      (!matchesAny ((c.removeClasses.bind (mapGet · el)).getD []) cl &&
      match c.allowClasses with
      | none => c.mode.isNone || matchesAny ((mapGet L.classes el).getD []) cl
      | some ⟨true, l⟩ => matchesAny ((mapGet l el).getD []) cl
      | some ⟨false, l⟩ => matchesAny ((mapGet l el).getD []) cl ||
          (c.mode.isSome && matchesAny ((mapGet L.classes el).getD []) cl)) := by
  unfold classOk modeCounts
  cases c.removeClasses <;>
  (cases c.allowClasses with
   | none => cases c.mode <;> simp [matchesAny]
   | some b =>
     obtain ⟨o, l⟩ := b
     cases o <;> cases c.mode <;> simp [matchesAny, List.any_append])

/-- `allow_schemes(…, Override)`: an attribute is restricted exactly to the schemes the given
list names for it; the mode's lists (also compat's `matrix`) no longer count. -/
theorem builder_schemes_override (L : Lists) (c : Cfg) (l : SchemeMap) (el a : Str)
    (h : c.allowSchemes = some ⟨true, l⟩) :
    Spec.HtmlPolicy.schemeList L c el a = (mapGet l el).bind (mapGet · a) := by
  unfold Spec.HtmlPolicy.schemeList cell
  simp only [h, modeCounts, Bool.not_true, Bool.false_and, Bool.false_eq_true, if_false]
  cases (mapGet l el).bind (mapGet · a) <;> simp

/-- `allow_schemes(…, Add)` and no `allow_schemes` at all: the schemes of the given list (if any),
of the strict list when a mode is set, and of the compat list in compat mode, chained; an
attribute none of them names is unrestricted. -/
theorem builder_schemes_strict (L : Lists) (c : Cfg) (el a : Str) :
    (∀ l, c.allowSchemes = some ⟨false, l⟩ →
      Spec.HtmlPolicy.schemeList L c el a = chain3 ((mapGet l el).bind (mapGet · a))
        (if c.mode.isSome then (mapGet L.schemesStrict el).bind (mapGet · a) else none)
        (if c.mode = some .compat then (mapGet L.schemesCompat el).bind (mapGet · a) else none)) ∧
    (c.allowSchemes = none →
      Spec.HtmlPolicy.schemeList L c el a = chain3 none
        (if c.mode.isSome then (mapGet L.schemesStrict el).bind (mapGet · a) else none)
        (if c.mode = some .compat then (mapGet L.schemesCompat el).bind (mapGet · a) else none)) := by
  unfold Spec.HtmlPolicy.schemeList chain3 cell
  constructor
  · intro l h
    simp only [h, modeCounts, Bool.not_false, Bool.true_and, beq_iff_eq]
  · intro h
    simp only [h, modeCounts, Bool.true_and, beq_iff_eq]

/-- The builder theorems on a concrete configuration: compat mode, `allow_elements([center],
Add)`, `remove_elements([center, u])`, `ignore_elements([b])`, `allow_schemes(a[href]: [tel],
Override)`: `center` is removed although allowed, `b` is replaced by its children, `tel:` links
stay and `https:`/`matrix:` links no longer do. -/
example :
    let c := build (some .compat)
      [.allowElements [bs "center"] false, .removeElements [bs "center", bs "u"],
       .ignoreElements [bs "b"], .allowSchemes [(bs "a", [(bs "href", [bs "tel"])])] true]
    clean Spec.HtmlAllow.lists c
      [.elem (bs "center") [] [.text (bs "x")],
       .elem (bs "b") [] [.elem (bs "a") [⟨none, [], bs "href", bs "tel:1"⟩] [.text (bs "y")]],
       .elem (bs "a") [⟨none, [], bs "href", bs "matrix:u/a"⟩] [.text (bs "z")]] =
      [.elem (bs "a") [⟨none, [], bs "href", bs "tel:1"⟩] [.text (bs "y")], .text (bs "z")] := by
  -- evaluated at the extracted lists: the same data (`impl_eq_spec`) written as numerals, where
  -- the spec's lists are `bs "…"` literals, which the kernel is slow to turn into code points
  rw [← Lemmas.HtmlTables.impl_eq_spec]
  decide +kernel

/-! ## The standard configurations at the spec's lists -/

section spec
open Spec.HtmlAllow

/-- In strict and compat mode, with or without reply-fallback removal, the allowed elements are
the spec's list — minus `mx-reply` under reply-fallback removal. -/
theorem plain_elemOk_spec (m : Mode) (rrf : Bool) (n : Str) :
    elemOk lists (plain (some m) rrf) n = (elemAllowed n && !(rrf && n == replyName)) :=
  Lemmas.Html.plain_elemOk_spec m rrf n

/-- … the allowed attributes are the spec's rows. -/
theorem plain_attrOk_spec (m : Mode) (rrf : Bool) (el a : Str) :
    attrOk lists (plain (some m) rrf) el a = attrAllowed el a :=
  Lemmas.Html.plain_attrOk_spec m rrf el a

/-- … the value restrictions are the spec's scheme lists (`matrix:` only in compat mode). -/
theorem plain_schemeList_spec (m : Mode) (rrf : Bool) (el a : Str) :
    Spec.HtmlPolicy.schemeList lists (plain (some m) rrf) el a = Spec.HtmlAllow.schemeList m el a :=
  Lemmas.Html.plain_schemeList_spec m rrf el a

/-- … the value restrictions are the spec's scheme lists (`matrix:` only in compat mode). -/
theorem plain_valueOk_spec (m : Mode) (rrf : Bool) (el a v : Str) :
    valueOk lists (plain (some m) rrf) el a v = valueAllowed m el a v :=
  Lemmas.Html.plain_valueOk_spec m rrf el a v

/-- … the allowed classes are `language-*` on `code`. -/
theorem plain_classOk_spec (m : Mode) (rrf : Bool) (el cl : Str) :
    classOk lists (plain (some m) rrf) el cl = classAllowed el cl :=
  Lemmas.Html.plain_classOk_spec m rrf el cl

/-- … the maximum depth is 100. -/
theorem plain_maxDepth_spec (m : Mode) (rrf : Bool) :
    maxDepthValue lists (plain (some m) rrf) = some 100 := rfl

/-- … and `class` carries no URI restriction, so `clean_schemes_allowed` loses nothing there. -/
theorem plain_class_unrestricted (m : Mode) (rrf : Bool) (el v : Str) :
    valueOk lists (plain (some m) rrf) el className v = true :=
  Lemmas.Html.plain_class_unrestricted m rrf el v

/-- The property, in the spec's words, for `sanitize_html(_, mode, reply_fallback)`: every element
of the output is on the spec's list (and is not `mx-reply` under reply-fallback removal), every
attribute is an HTML attribute (no namespace) in the element's row, every attribute value satisfies the spec's scheme restriction
whatever other attributes accompany it, every class on `code` matches `language-*`; there are no
comments; nesting is at most 100; the text outside dropped subtrees is kept in order. -/
theorem standard_output_spec (m : Mode) (rrf : Bool) (roots : List Node) :
    let out := clean lists (plain (some m) rrf) roots
    AllElemsL (fun _ n as =>
        elemAllowed n = true ∧ (rrf = true → n ≠ replyName) ∧
        ∀ a ∈ as, a.ns = [] ∧ attrAllowed n a.name = true ∧
          valueAllowed m n a.name a.value = true ∧
          (a.name = className → ∀ cl ∈ splitWs a.value, classAllowed n cl = true)) 0 out ∧
    NoOtherL out ∧ depthOfL out ≤ 100 ∧
    textOfL out = keptTextL lists (plain (some m) rrf) 0 roots := by
  refine ⟨?_, clean_no_other_nodes .., clean_depth_le _ _ _ 100 (plain_maxDepth_spec m rrf),
    clean_keeps_text_in_order ..⟩
  -- every element the pass keeps satisfies `Keeps`, which at these lists reads as follows
  refine allElemsL_imp (Keeps lists (plain (some m) rrf)) _ (fun d n as h => ?_) _ 0
    (cleanList_all _ _ _ (fun dOut dIn n as hle h => keeps_of_none _ _ dOut dIn n as hle h
      (plain_class_unrestricted m rrf n)) roots 0 0 (Nat.le_refl 0))
  have := (keeps_plain_iff m rrf d n as).1 h
  exact ⟨this.1, this.2.1, this.2.2.2⟩

/-- The F3 witnesses on the model of the repaired code: the link and the image are dropped. -/
example :
    clean lists (plain (some .strict) false)
      [.elem (bs "a") [⟨none, [], className, bs "x"⟩, ⟨none, [], bs "href", bs "javascript:alert(1)"⟩]
        [.text (bs "t")]] = [.text (bs "t")] := by
  rw [← Lemmas.HtmlTables.impl_eq_spec]
  decide +kernel
example :
    clean lists (plain (some .strict) false)
      [.elem (bs "img") [⟨none, [], bs "alt", bs "a"⟩, ⟨none, [], bs "src", bs "http://x/y"⟩] []] = [] := by
  rw [← Lemmas.HtmlTables.impl_eq_spec]
  decide +kernel

end spec

/-! ## T1: the lists of the running implementation are the spec's -/

/-- What `SanitizerConfig::strict()` does on every point of the stated universes (extracted on
this run by one-element probes) is what the spec's lists say. -/
theorem strict_lists_eq_spec :
    Generated.C14.strict = Spec.HtmlAllow.expected .strict Generated.C14.univ :=
  Lemmas.HtmlTables.strict_table

/-- The same for `SanitizerConfig::compat()`. -/
theorem compat_lists_eq_spec :
    Generated.C14.compat = Spec.HtmlAllow.expected .compat Generated.C14.univ :=
  Lemmas.HtmlTables.compat_table

/-- The static lists assembled from the extraction — the lists the model runs with when it is
compared with the running code (T2) — are, as data, the spec's lists. -/
theorem impl_lists_eq_spec : Lemmas.HtmlTables.implLists = Spec.HtmlAllow.lists :=
  Lemmas.HtmlTables.impl_eq_spec

/-- Hence the property in the spec's words (`standard_output_spec`) holds of the very model
instance that is run side by side with the implementation. -/
theorem standard_output_impl (m : Mode) (rrf : Bool) (roots : List Node) :
    let out := clean Lemmas.HtmlTables.implLists (plain (some m) rrf) roots
    AllElemsL (fun _ n as =>
        Spec.HtmlAllow.elemAllowed n = true ∧ (rrf = true → n ≠ replyName) ∧
        ∀ a ∈ as, a.ns = [] ∧ Spec.HtmlAllow.attrAllowed n a.name = true ∧
          Spec.HtmlAllow.valueAllowed m n a.name a.value = true ∧
          (a.name = className → ∀ cl ∈ splitWs a.value, Spec.HtmlAllow.classAllowed n cl = true)) 0 out ∧
    NoOtherL out ∧ depthOfL out ≤ 100 ∧
    textOfL out = keptTextL Lemmas.HtmlTables.implLists (plain (some m) rrf) 0 roots := by
  rw [impl_lists_eq_spec]
  exact standard_output_spec m rrf roots

/-- Every name the spec lists is inside the universes, so the comparison misses nothing. -/
theorem spec_within_universe : Spec.HtmlAllow.withinUniverse Generated.C14.univ = true :=
  Lemmas.HtmlTables.within

end Ruma.Props.C14
#print axioms Ruma.Props.C14.clean_elements_allowed
#print axioms Ruma.Props.C14.clean_attrs_allowed
#print axioms Ruma.Props.C14.clean_schemes_allowed
#print axioms Ruma.Props.C14.clean_classes_allowed
#print axioms Ruma.Props.C14.policy_values_read
#print axioms Ruma.Props.C14.policy_classes_read
#print axioms Ruma.Props.C14.glob_is_spec_glob
#print axioms Ruma.Props.C14.clean_no_other_nodes
#print axioms Ruma.Props.C14.clean_depth_le
#print axioms Ruma.Props.C14.clean_no_mx_reply
#print axioms Ruma.Props.C14.clean_keeps_text_in_order
#print axioms Ruma.Props.C14.clean_drops_subtree
#print axioms Ruma.Props.C14.clean_drops_mx_reply
#print axioms Ruma.Props.C14.clean_keeps_allowed_descendants
#print axioms Ruma.Props.C14.clean_keeps_allowed_names
#print axioms Ruma.Props.C14.clean_hoists_children
#print axioms Ruma.Props.C14.builder_reaches_every_cfg
#print axioms Ruma.Props.C14.builder_precedence
#print axioms Ruma.Props.C14.builder_elements
#print axioms Ruma.Props.C14.builder_attrs
#print axioms Ruma.Props.C14.builder_classes
#print axioms Ruma.Props.C14.builder_schemes_override
#print axioms Ruma.Props.C14.builder_schemes_strict
#print axioms Ruma.Props.C14.plain_elemOk_spec
#print axioms Ruma.Props.C14.plain_attrOk_spec
#print axioms Ruma.Props.C14.plain_schemeList_spec
#print axioms Ruma.Props.C14.plain_valueOk_spec
#print axioms Ruma.Props.C14.plain_classOk_spec
#print axioms Ruma.Props.C14.plain_maxDepth_spec
#print axioms Ruma.Props.C14.plain_class_unrestricted
#print axioms Ruma.Props.C14.standard_output_spec
#print axioms Ruma.Props.C14.strict_lists_eq_spec
#print axioms Ruma.Props.C14.compat_lists_eq_spec
#print axioms Ruma.Props.C14.impl_lists_eq_spec
#print axioms Ruma.Props.C14.standard_output_impl
#print axioms Ruma.Props.C14.spec_within_universe
