/-
  C15 — HTML sanitization is idempotent and leaves already-clean documents unchanged; deprecated
  elements and attributes are rewritten to their documented replacements.
  Property theorems only; helper lemmas live in `Lemmas/Html*.lean`.

  Reading guide. Same model as C14 (`Model/Html.lean`): `clean L c roots` is
  `SanitizerConfig::clean` on the children of a parsed fragment, `L` the private static lists, `c`
  a `SanitizerConfig` with every builder field. `Clean L c d f` (`Spec/HtmlPolicy.lean`) is the
  predicate sanitization establishes, each element at its true depth; `Allowed m rrf d f`
  (`Spec/HtmlDoc.lean`) is "a document of the allow-list grammar" in the words of the Matrix
  spec's lists; `rewriteDeprecatedL` is the documented rewriting (`font` → `span` with `color` →
  `data-mx-color`, `strike` → `s`). `Settled L c` (`Lemmas/HtmlIdem.lean`) is the explicit
  hypothesis on the replacement tables under which idempotence holds; it is decidable
  (`settledB`), holds for the standard configurations (`standard_settled`), and is needed
  (`not_idempotent_chained_replacement`).

  The theorems are about trees. "Sanitizing already-sanitized output equals a plain
  parse-and-reserialize of it" additionally involves html5ever's serializer and parser, which are
  parameters: that part is checked on every run against the real code (T3), not proven.
-/
import RumaModel.Lemmas.HtmlIdem
import RumaModel.Lemmas.HtmlSorted
import RumaModel.Spec.HtmlDoc
import RumaModel.Lemmas.HtmlPlain
import RumaModel.Lemmas.HtmlTables15
namespace Ruma.Props.C15
open Ruma Ruma.Html Ruma.Spec.HtmlPolicy Ruma.Spec.HtmlDoc Ruma.Lemmas.Html
open Ruma.Spec.HtmlAllow (lists elemAllowed attrAllowed valueAllowed classAllowed maxDepth
  elemReplacement attrReplacement deprecatedAttrs deprecatedElements)
open Ruma.Lemmas.HtmlTables15 (implLists)

/-! ## For every configuration -/

/-- An element that `node_action` keeps with `d` element ancestors is kept with fewer: the first
pass counts ignored ancestors, a second pass no longer sees them. -/
theorem nodeAction_mono (L : Lists) (c : Cfg) (n : Str) (as : List Attr) (d d' : Nat)
    (h : d' ≤ d) (ha : nodeAction L c n as d = .none) : nodeAction L c n as d' = .none := by
  rw [nodeAction_none_iff, removeCheck_eq, Bool.or_eq_false_iff, depthExceeded_false_iff] at ha ⊢
  exact ⟨⟨ha.1.1, fun m hm => Nat.lt_of_le_of_lt h (ha.1.2 m hm)⟩, ha.2⟩

/-- A forest that satisfies the predicate sanitization establishes — every element, at its true
depth, allowed, within the depth limit, with allowed attributes, values and classes, and not the
subject of a replacement; no comments — is returned unchanged. -/
theorem clean_fixes_allowed (L : Lists) (c : Cfg) (d : Nat) (f : List Node) (h : Clean L c d f) :
    cleanList L c d f = f :=
  cleanList_fix L c f d h.1 h.2

/-- If the forest with the configuration's replacements applied (`rewriteL`: element and
attribute names only, everything else untouched) consists of elements that are kept as they
are, sanitization does exactly that rewriting and nothing else. -/
theorem clean_only_rewrites (L : Lists) (c : Cfg) (f : List Node)
    (h : AllElemsL (Keeps L c) 0 (rewriteL L c f)) (ho : NoOtherL f) :
    clean L c f = rewriteL L c f :=
  cleanList_rewrites L c f 0 h ho

/-- For a configuration with settled replacement tables, the output of sanitization satisfies
`Clean` (each element at its depth in the OUTPUT, which is at most the depth the pass counted). -/
theorem clean_establishes_clean (L : Lists) (c : Cfg) (hs : Settled L c) (roots : List Node) :
    Clean L c 0 (clean L c roots) :=
  ⟨cleanList_all L c (CleanElem L c)
      (fun dOut dIn n as hle h => cleanElem_of_none L c hs dOut dIn n as hle h) roots 0 0 (Nat.le_refl 0),
    cleanList_noOther L c roots 0⟩

/-- Idempotence, for every configuration whose replacement tables are settled (decidable:
`settledB`) and every forest: sanitizing the output again changes nothing. -/
theorem clean_idempotent_of (L : Lists) (c : Cfg) (hs : Settled L c) (roots : List Node) :
    clean L c (clean L c roots) = clean L c roots :=
  clean_fixes_allowed L c 0 _ (clean_establishes_clean L c hs roots)

/-- Idempotence in general form. Attribute lists are ordered sets (`SortedTree`: what the parser
hands over — the element's `BTreeSet<Attribute>`); the configuration's replacement tables are
settled in the weaker sense `SettledW`: an element that may remain is not itself replaced, none of
the attributes that may remain on it is renamed, `class` carries no scheme restriction (decidable:
`settledWB`; implied by `Settled`). Then sanitizing the output again changes nothing. This covers
builder configurations with attribute replacement tables on allowed elements. -/
theorem clean_idempotent_of_sorted (L : Lists) (c : Cfg) (hs : SettledW L c) (roots : List Node)
    (hw : SortedTree roots) : clean L c (clean L c roots) = clean L c roots :=
  clean_fixes_allowed L c 0 _ (clean_clean_of_sorted L c hs roots hw)

/-- The general hypotheses on a configuration of the public builder that is not settled in the
strong sense: strict mode with `replace_attributes(span: color → data-mx-color, Add)` and
`replace_elements(center → div, Add)`; and on a tree: `<span color="red" title="t">`. -/
example :
    let c : Cfg := { mode := some Mode.strict, replaceAttrs := some ⟨false, [(bs "span", [(bs "color", bs "data-mx-color")])]⟩, replaceElements := some ⟨false, [(bs "center", bs "div")]⟩ }
    settledWB lists c = true ∧ settledB lists c = false ∧
    sortedForestB [.elem (bs "span") [⟨none, [], bs "color", bs "red"⟩, ⟨none, [], bs "title", bs "t"⟩] []] = true ∧
    clean lists c [.elem (bs "span") [⟨none, [], bs "color", bs "red"⟩, ⟨none, [], bs "title", bs "t"⟩] []] =
      [.elem (bs "span") [⟨none, [], bs "data-mx-color", bs "red"⟩] []] := by
  decide +kernel

/-- `Settled` implies `SettledW`, so the general form covers the standard configurations too. -/
theorem settled_implies_general (L : Lists) (c : Cfg) (h : Settled L c) : SettledW L c :=
  settledW_of_settled L c h

/-- html5ever as a parameter. `reparse` stands for "serialize, then parse again" (external code,
not modelled); the only assumption used is that it maps a clean forest to a clean forest — what
the re-parse oracle checks on every generated case. Then sanitizing the re-parsed first output
removes and rewrites nothing: it equals the plain parse-and-reserialize of that output. -/
theorem clean_reparse_fixpoint (L : Lists) (c : Cfg) (hs : Settled L c)
    (reparse : List Node → List Node)
    (hp : ∀ t, Clean L c 0 t → Clean L c 0 (reparse t)) (roots : List Node) :
    clean L c (reparse (clean L c roots)) = reparse (clean L c roots) :=
  clean_fixes_allowed L c 0 _ (hp _ (clean_establishes_clean L c hs roots))

/-- The assumption on `reparse` is satisfiable (trivially by the identity: a serializer/parser
pair that round-trips clean trees exactly). -/
example (L : Lists) (c : Cfg) (hs : Settled L c) (roots : List Node) :
    clean L c (id (clean L c roots)) = id (clean L c roots) :=
  clean_reparse_fixpoint L c hs id (fun _ h => h) roots

/-- The hypothesis is satisfiable on a non-trivial configuration of the public builder: compat
mode, reply-fallback removal, `center` replaced by `div`, `u` removed, `span[style]` allowed. -/
example : Settled lists
    { mode := some .compat, removeReplyFallback := true,
      replaceElements := some ⟨false, [(bs "center", bs "div")]⟩,
      removeElements := some [bs "u"],
      allowAttrs := some ⟨false, [(bs "span", [bs "style"])]⟩ } :=
  settled_of_settledB _ _ (by decide +kernel)

/-- The hypothesis is needed: with a chained replacement (`big` → `b`, `b` → `strong`, a
configuration the public builder accepts) the first pass yields `<b>`, a second pass `<strong>`;
the configuration is not settled. -/
theorem not_idempotent_chained_replacement :
    let c : Cfg := { replaceElements := some ⟨false, [(bs "big", bs "b"), (bs "b", bs "strong")]⟩ }
    clean lists c [.elem (bs "big") [] [.text (bs "t")]] = [.elem (bs "b") [] [.text (bs "t")]] ∧
    clean lists c [.elem (bs "b") [] [.text (bs "t")]] = [.elem (bs "strong") [] [.text (bs "t")]] ∧
    ¬ Settled lists c := by
  refine ⟨by decide +kernel, by decide +kernel, ?_⟩
  intro h
  have := (h (bs "b") (by decide +kernel)).1
  revert this
  decide +kernel

/-! ## The standard configurations -/

/-- `strict()`, `compat()` and `new()`, with and without `remove_reply_fallback()` — what
`sanitize_html` and `remove_html_reply_fallback` use — are settled, at the spec's lists and at the
lists extracted from the running implementation on this run. -/
theorem standard_settled (mo : Option Mode) (rrf : Bool) :
    Settled lists (plain mo rrf) ∧ Settled implLists (plain mo rrf) :=
  ⟨settled_plain _ Lemmas.HtmlTables15.consistent_both.1 mo rrf,
   settled_plain _ Lemmas.HtmlTables15.consistent_both.2 mo rrf⟩

/-- The static lists do not contradict themselves (an allowed element is not a deprecated one; no
scheme list on `class`): the spec's lists and the extracted ones. -/
theorem spec_lists_consistent : consistent lists = true ∧ consistent implLists = true :=
  Lemmas.HtmlTables15.consistent_both

/-- **Idempotence** in strict and compat mode (and without a mode), with and without
reply-fallback removal, for every forest: sanitizing sanitized output changes nothing. -/
theorem clean_idempotent (mo : Option Mode) (rrf : Bool) (roots : List Node) :
    clean lists (plain mo rrf) (clean lists (plain mo rrf) roots) = clean lists (plain mo rrf) roots :=
  clean_idempotent_of _ _ (standard_settled mo rrf).1 roots

/-- The same with the lists the running implementation uses (extracted on this run). -/
theorem clean_idempotent_lists (mo : Option Mode) (rrf : Bool) (roots : List Node) :
    clean implLists (plain mo rrf) (clean implLists (plain mo rrf) roots) =
      clean implLists (plain mo rrf) roots :=
  clean_idempotent_of _ _ (standard_settled mo rrf).2 roots

/-! ## Documents of the allow-list grammar -/

/-- For the standard configurations, "an element of the allow-list grammar" (in the spec's words)
is exactly "an element that is kept as it is and is not the subject of a replacement". -/
theorem elemFine_iff_cleanElem (m : Mode) (rrf : Bool) (d : Nat) (n : Str) (as : List Attr) :
    ElemFine m rrf d n as ↔ CleanElem lists (plain (some m) rrf) d n as := by
  rw [cleanElem_iff_keeps _ _ (standard_settled (some m) rrf).1, keeps_plain_iff]
  rfl

/-- A well-nested document built only from allowed elements, attributes, schemes and classes
within the depth limit (`mx-reply` excluded under reply-fallback removal) is returned unchanged,
in strict and compat mode. -/
theorem allowed_grammar_unchanged (m : Mode) (rrf : Bool) (f : List Node) (h : Allowed m rrf 0 f) :
    clean lists (plain (some m) rrf) f = f :=
  clean_fixes_allowed _ _ 0 f
    ⟨(allElemsL_congr _ _ (elemFine_iff_cleanElem m rrf) f 0).1 h.1, h.2⟩

/-- … and these are the only documents that are returned unchanged. -/
theorem unchanged_iff_allowed (m : Mode) (rrf : Bool) (f : List Node) :
    clean lists (plain (some m) rrf) f = f ↔ Allowed m rrf 0 f := by
  constructor
  · intro h
    have hc := clean_establishes_clean lists (plain (some m) rrf) (standard_settled (some m) rrf).1 f
    rw [h] at hc
    exact ⟨(allElemsL_congr _ _ (elemFine_iff_cleanElem m rrf) f 0).2 hc.1, hc.2⟩
  · exact allowed_grammar_unchanged m rrf f

/-- The same in the spec's words for strict and compat mode: if re-parsing the serialization of a
document of the allow-list grammar yields a document of the grammar (the assumption on html5ever
that the re-parse oracle checks), sanitizing sanitized output is a plain parse-and-reserialize. -/
theorem sanitized_output_reparse_unchanged (m : Mode) (rrf : Bool)
    (reparse : List Node → List Node)
    (hp : ∀ t, Allowed m rrf 0 t → Allowed m rrf 0 (reparse t)) (roots : List Node) :
    clean lists (plain (some m) rrf) (reparse (clean lists (plain (some m) rrf) roots)) =
      reparse (clean lists (plain (some m) rrf) roots) := by
  apply allowed_grammar_unchanged
  apply hp
  exact (unchanged_iff_allowed m rrf _).1 (clean_idempotent (some m) rrf roots)

/-- The hypothesis of `allowed_grammar_unchanged` on a concrete non-trivial document:
`<a href="https://x" target="_blank"><code class="language-rust x">t</code></a>` is NOT in the
grammar (class `x`), `<… class="language-rust">` is. -/
example :
    allowedB .strict true 0 [.elem (bs "a") [⟨none, [], bs "href", bs "https://x"⟩, ⟨none, [], bs "target", bs "_blank"⟩]
      [.elem (bs "code") [⟨none, [], className, bs "language-rust"⟩] [.text (bs "t")]]] = true ∧
    allowedB .strict true 0 [.elem (bs "a") [⟨none, [], bs "href", bs "https://x"⟩, ⟨none, [], bs "target", bs "_blank"⟩]
      [.elem (bs "code") [⟨none, [], className, bs "language-rust x"⟩] [.text (bs "t")]]] = false := by
  decide +kernel

theorem elemFineB_iff (m : Mode) (rrf : Bool) (d : Nat) (n : Str) (as : List Attr) :
    elemFineB m rrf d n as = true ↔ ElemFine m rrf d n as := by
  simp only [elemFineB, ElemFine, Bool.and_eq_true, not_reply_iff, decide_eq_true_eq,
    List.all_eq_true, Bool.or_eq_true, bne_iff_ne, ne_eq, List.isEmpty_iff, and_assoc,
    ← Decidable.imp_iff_not_or]

mutual
theorem allowedNodeB_iff (m : Mode) (rrf : Bool) : ∀ (node : Node) (d : Nat),
    allowedNodeB m rrf d node = true ↔ AllElems (ElemFine m rrf) d node ∧ NoOther node
  | .text _, _ => by simp [allowedNodeB, AllElems, NoOther]
  | .other, _ => by simp [allowedNodeB, NoOther]
  | .elem n as cs, d => by
    simp only [allowedNodeB, Bool.and_eq_true, allowedB_iff_aux m rrf cs (d + 1), AllElems, NoOther,
      elemFineB_iff, and_assoc]
theorem allowedB_iff_aux (m : Mode) (rrf : Bool) : ∀ (l : List Node) (d : Nat),
    allowedB m rrf d l = true ↔ AllElemsL (ElemFine m rrf) d l ∧ NoOtherL l
  | [], _ => by simp [allowedB, AllElemsL, NoOtherL]
  | n :: t, d => by
    simp only [allowedB, Bool.and_eq_true, allowedNodeB_iff m rrf n d, allowedB_iff_aux m rrf t d,
      AllElemsL, NoOtherL]
    exact and_and_and_comm
end

/-- The executable recogniser of grammar documents (used by the driver as the SPEC answer to
"is this document returned unchanged?") decides `Allowed`. -/
theorem allowedB_iff (m : Mode) (rrf : Bool) (d : Nat) (f : List Node) :
    allowedB m rrf d f = true ↔ Allowed m rrf d f :=
  allowedB_iff_aux m rrf f d

/-! ## Deprecated elements and attributes -/

theorem replaceNameOf_plain (m : Mode) (rrf : Bool) (n : Str) :
    replaceNameOf lists (plain (some m) rrf) n = elemReplacement n := by
  simp only [replaceNameOf, plain, isOverride, Cfg.useStrict, elemReplacement, lists,
    Option.bind_none, Option.isSome_some, Bool.not_false, Bool.and_self, if_true]
  cases mapGet deprecatedElements n <;> rfl

theorem replaceAttrsOf_plain (m : Mode) (rrf : Bool) (n : Str) (as : List Attr) :
    replaceAttrsOf lists (plain (some m) rrf) n as = rewriteAttrs n as := by
  simp only [replaceAttrsOf, plain, isOverride, Cfg.useStrict, rewriteAttrs, lists,
    Option.bind_none, Option.isSome_some, Bool.not_false, Bool.and_self, if_true,
    Option.isSome_none, Bool.false_or]
  cases h : mapGet deprecatedAttrs n with
  | none => simp
  | some r =>
    simp only [Option.isSome_some, if_true]
    congr 1

mutual
theorem rewrite_plain (m : Mode) (rrf : Bool) : ∀ (node : Node),
    rewrite lists (plain (some m) rrf) node = rewriteDeprecated node
  | .text _ => by simp [rewrite, rewriteDeprecated]
  | .other => by simp [rewrite, rewriteDeprecated]
  | .elem n as cs => by
    simp only [rewrite, rewriteDeprecated, replaceNameOf_plain, replaceAttrsOf_plain,
      rewriteL_plain m rrf cs]
theorem rewriteL_plain (m : Mode) (rrf : Bool) : ∀ (l : List Node),
    rewriteL lists (plain (some m) rrf) l = rewriteDeprecatedL l
  | [] => by simp [rewriteL, rewriteDeprecatedL]
  | n :: t => by simp only [rewriteL, rewriteDeprecatedL, rewrite_plain m rrf n, rewriteL_plain m rrf t]
end

/-- Deprecated elements and attributes are rewritten to their documented replacements and
nothing else happens: if the document contains no comments or other non-element, non-text nodes
(`ho`) and the document with `font` → `span`, `font[color]` → `data-mx-color`,
`strike` → `s` applied is a document of the allow-list grammar, the output of sanitization in
strict or compat mode is exactly that rewritten document — children and all other attributes as
they were (`rewrite_preserves`) — and it is a fixpoint of sanitization. -/
theorem deprecated_rewritten (m : Mode) (rrf : Bool) (f : List Node) (ho : NoOtherL f)
    (h : Allowed m rrf 0 (rewriteDeprecatedL f)) :
    clean lists (plain (some m) rrf) f = rewriteDeprecatedL f ∧
    clean lists (plain (some m) rrf) (rewriteDeprecatedL f) = rewriteDeprecatedL f := by
  refine ⟨?_, allowed_grammar_unchanged m rrf _ h⟩
  rw [← rewriteL_plain m rrf f]
  apply clean_only_rewrites _ _ f _ ho
  rw [rewriteL_plain m rrf f]
  have := (allElemsL_congr _ _ (elemFine_iff_cleanElem m rrf) _ 0).1 h.1
  exact ((allElemsL_and _ _ _ 0).1 this).1

/-- The hypothesis of `deprecated_rewritten` on a concrete document, and the rewriting it yields:
`<font color="#f00" data-mx-bg-color="#000"><strike>t</strike></font>` →
`<span data-mx-bg-color="#000" data-mx-color="#f00"><s>t</s></span>`. -/
example :
    let f := [Node.elem (bs "font") [⟨none, [], bs "color", bs "#f00"⟩, ⟨none, [], bs "data-mx-bg-color", bs "#000"⟩]
      [.elem (bs "strike") [] [.text (bs "t")]]]
    allowedB .strict false 0 (rewriteDeprecatedL f) = true ∧
    clean lists (plain (some .strict) false) f =
      [.elem (bs "span") [⟨none, [], bs "data-mx-bg-color", bs "#000"⟩, ⟨none, [], bs "data-mx-color", bs "#f00"⟩]
        [.elem (bs "s") [] [.text (bs "t")]]] := by
  decide +kernel

mutual
theorem rewriteDeprecated_text : ∀ (node : Node), textOf (rewriteDeprecated node) = textOf node
  | .text _ => by simp [rewriteDeprecated]
  | .other => by simp [rewriteDeprecated]
  | .elem n as cs => by simp only [rewriteDeprecated, textOf, rewriteDeprecatedL_text cs]
theorem rewriteDeprecatedL_text : ∀ (l : List Node), textOfL (rewriteDeprecatedL l) = textOfL l
  | [] => by simp [rewriteDeprecatedL]
  | n :: t => by simp only [rewriteDeprecatedL, textOfL, rewriteDeprecated_text n, rewriteDeprecatedL_text t]
end

/-- What the documented rewriting preserves: the text; for an element, the number of children
(each rewritten in place); every attribute, with its namespace and value, under its replacement
name — and nothing else appears. -/
theorem rewrite_preserves (f : List Node) (n : Str) (as : List Attr) (cs : List Node) :
    textOfL (rewriteDeprecatedL f) = textOfL f ∧
    (rewriteDeprecatedL f).length = f.length ∧
    rewriteDeprecated (.elem n as cs) =
      .elem (elemReplacement n) (rewriteAttrs n as) (rewriteDeprecatedL cs) ∧
    (∀ b, b ∈ rewriteAttrs n as ↔ ∃ a ∈ as, b = { a with name := attrReplacement n a.name }) := by
  refine ⟨rewriteDeprecatedL_text f, ?_, rfl, ?_⟩
  · induction f with
    | nil => rfl
    | cons x t ih => simp [rewriteDeprecatedL, ih]
  · intro b
    unfold rewriteAttrs attrReplacement
    cases h : mapGet deprecatedAttrs n with
    | none =>
      simp only [Option.bind_none, Option.getD_none]
      constructor
      · intro hb; exact ⟨b, hb, rfl⟩
      · rintro ⟨a, ha, rfl⟩; exact ha
    | some r =>
      simp only [mem_setCollect, List.mem_map, Option.bind_some]
      refine exists_congr fun a => and_congr_right fun _ => ?_
      cases mapGet r a.name <;> exact eq_comm

end Ruma.Props.C15
#print axioms Ruma.Props.C15.nodeAction_mono
#print axioms Ruma.Props.C15.clean_fixes_allowed
#print axioms Ruma.Props.C15.clean_only_rewrites
#print axioms Ruma.Props.C15.clean_establishes_clean
#print axioms Ruma.Props.C15.clean_idempotent_of
#print axioms Ruma.Props.C15.clean_idempotent_of_sorted
#print axioms Ruma.Props.C15.settled_implies_general
#print axioms Ruma.Props.C15.clean_reparse_fixpoint
#print axioms Ruma.Props.C15.not_idempotent_chained_replacement
#print axioms Ruma.Props.C15.standard_settled
#print axioms Ruma.Props.C15.spec_lists_consistent
#print axioms Ruma.Props.C15.clean_idempotent
#print axioms Ruma.Props.C15.clean_idempotent_lists
#print axioms Ruma.Props.C15.elemFine_iff_cleanElem
#print axioms Ruma.Props.C15.allowed_grammar_unchanged
#print axioms Ruma.Props.C15.unchanged_iff_allowed
#print axioms Ruma.Props.C15.sanitized_output_reparse_unchanged
#print axioms Ruma.Props.C15.allowedB_iff
#print axioms Ruma.Props.C15.deprecated_rewritten
#print axioms Ruma.Props.C15.rewrite_preserves
