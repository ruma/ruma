/-
  C16 — Endpoint requests and responses survive the HTTP wire format unchanged; path selection
  follows the version history.
  Property theorems only; helper lemmas live in `Lemmas/Endpoint*.lean`.

  Reading guide. `VersionHistory`, `newOk` (= `VersionHistory::new` does not panic), `selectPath`,
  `makeEndpointUrl`, `substPath`, `authorizationHeader`, `xmatrixFormat`/`xmatrixParse` are the
  model of the code (`Model/Endpoint.lean`); `Selects`/`select`, `authExpect`, `percentDecode`,
  `segmentUnsafe` are the specification (`Spec/Endpoint.lean`); `routeArgs` is what a receiving
  server does with a request path. `Generated.C16.histories` are the version histories of every
  endpoint constant of the five API crates, re-extracted from the running code on every check.

  The second half of the file is about the code the `#[request]` / `#[response]` macros generate
  (`Model/EndpointGlue.lean`): `request_roundtrip_partial`, `response_roundtrip_partial`,
  `glue_no_panic`, the reference query-string codec, and the recorded findings G17–G19 as
  full-strength statement / `_partial` theorem / machine-checked witness on the model (the G is to keep
  them apart from finding F17 of property C17). The last section brings the REAL endpoints under the hypotheses:
  `Generated.C16.realReq` / `realResp` are the descriptions of every `#[request]` / `#[response]`
  struct of the five API crates, re-read from the source text on every check;
  `real_endpoints_under_model` decides `macroAccepts`, `testsPass`, the history conditions and the
  header-name `Nodup` for each, `real_g17_endpoints` which of them have the shape of G17.
  What is NOT proven: that the model is the code (that is the differential check, see
  `props/C16.json`), and the libraries behind the parameters (`serde_json`, `serde_html_form`,
  `http`) beyond the reference form codec and the C01-based JSON codec `canonJson`.
-/
import RumaModel.Lemmas.Endpoint
import RumaModel.Lemmas.EndpointUrl
import RumaModel.Lemmas.EndpointXMatrix
import RumaModel.Lemmas.EndpointNoPanic
import RumaModel.Lemmas.EndpointGlueResp
import RumaModel.Lemmas.EndpointGlueReal
import RumaModel.Generated.C16
namespace Ruma.Props.C16
open Ruma Ruma.Endpoint Ruma.Spec.Endpoint Ruma.Glue

/-! ## Path selection -/

/-- T1: every extracted history satisfies the invariants `VersionHistory::new` enforces, mentions
only the 15 known versions, and all its paths start with `/` and consist of `/` and bytes that
are safe inside a URI path segment. -/
theorem generated_histories_valid :
    Generated.C16.histories.all (fun h =>
      newOk h
      && h.stable.all (fun e => decide (e.1 < 15))
      && (h.unstable ++ h.stable.map (·.2)).all (fun p =>
            p.head? == some 47 && p.all (fun b => b == 47 || !segmentUnsafe b))) = true := by
  have key : Generated.C16.histories.all (fun h =>
      historyOk h && h.stable.all (fun e => decide (e.1 < 15))) = true := by decide +kernel
  rw [List.all_eq_true] at key ⊢
  intro h hh
  have hk := key h hh
  rw [Bool.and_eq_true] at hk
  obtain ⟨h1, h2⟩ := historyOk_sound h hk.1
  rw [Bool.and_eq_true, Bool.and_eq_true]
  exact ⟨⟨h1, hk.2⟩, List.all_eq_true.2 h2⟩

/-- For EVERY history accepted by `VersionHistory::new` and EVERY list of supported versions
(any order, duplicates, empty): `select_path` does not panic and its result is the one the rule
prescribes — `EndpointRemoved` iff a removal version is set and every supported version is at or
past it; otherwise the path of the greatest stable entry that some supported version offers;
otherwise the last unstable path, or `NoUnstablePath` when there is none. -/
theorem selectPath_spec (h : VersionHistory) (vs : List Version) (hnew : newOk h = true) :
    ∃ s, (selectPath h vs).toSelection? = some s ∧ Selects (toSpec h) vs s :=
  selectPath_spec' h vs (newOk_inv h hnew)

/-- The declarative rule determines its result (stable versions are distinct), and the executable
form of the rule that answers the check's `c16.spec.*` requests computes it. -/
theorem spec_select_is_the_rule (h : History) (vs : List Version) :
    Selects h vs (select h vs) ∧
    (h.stable.Pairwise (fun a b => a.1 ≠ b.1) → ∀ s, Selects h vs s → s = select h vs) :=
  ⟨select_selects h vs, fun hd s hs => selects_unique h vs hd s _ hs (select_selects h vs)⟩

/-- Hence model and executable rule agree on every valid history and every version list. -/
theorem selectPath_eq_spec_select (h : VersionHistory) (vs : List Version)
    (hnew : newOk h = true) : (selectPath h vs).toSelection? = some (select (toSpec h) vs) := by
  have hinv := newOk_inv h hnew
  obtain ⟨s, hs, hsel⟩ := selectPath_spec' h vs hinv
  rw [hs]
  congr 1
  exact selects_unique (toSpec h) vs (hinv.asc.imp (fun h => Nat.ne_of_lt h)) _ _ hsel (select_selects _ _)

/-- A reported removal names the history's removal version. -/
theorem selectPath_removed_version (h : VersionHistory) (vs : List Version) (r : Version)
    (hr : selectPath h vs = .errRemoved r) : h.removed = some r := by
  unfold selectPath at hr
  split at hr
  · split at hr
    · rename_i r' hr'; cases hr; exact hr'
    · cases hr
  · split at hr
    · cases hr
    · split at hr <;> cases hr
  · split at hr <;> cases hr

/-- `expect("VersioningDecision::Stable implies that a stable path exists")` cannot fire: for any
history at all, a `Stable` decision comes with a path from `stable_endpoint_for`. -/
theorem stable_decision_has_path (h : VersionHistory) (vs : List Version) (a b c : Bool)
    (hd : versioningDecision h vs = .stable a b c) : ∃ p, stableEndpointFor h vs = some p := by
  unfold versioningDecision at hd
  split at hd
  · cases hd
  · split at hd
    · rename_i hadd
      obtain ⟨e, he⟩ := find_reverse_of_addedIn h vs hadd
      exact ⟨e.2, by unfold stableEndpointFor; rw [he]; rfl⟩
    · cases hd

/-- None of the three panic sites of `select_path` (`expect` on `removed`, the `unreachable!`,
`expect` on the stable path) is reachable for a history `VersionHistory::new` accepted. -/
theorem selectPath_no_panic (h : VersionHistory) (vs : List Version) (hnew : newOk h = true) :
    selectPath h vs ≠ .panic := by
  obtain ⟨s, hs, _⟩ := selectPath_spec h vs hnew
  intro hp
  rw [hp] at hs
  cases hs

/-- The hypotheses are satisfiable on a non-trivial history (two unstable paths, three stable
ones, deprecated and removed), and the rule picks what one expects. -/
example :
    let h : VersionHistory :=
      ⟨[bs "/u1/:a", bs "/u2/:a"], [(1, bs "/v1/:a"), (4, bs "/v2/:a"), (9, bs "/v3/:a")], some 11, some 12⟩
    newOk h = true
    ∧ selectPath h [0] = .ok (bs "/u2/:a")
    ∧ selectPath h [0, 5] = .ok (bs "/v2/:a")
    ∧ selectPath h [3, 2, 3] = .ok (bs "/v1/:a")
    ∧ selectPath h [13, 3, 3] = .ok (bs "/v3/:a")
    ∧ selectPath h [14, 12] = .errRemoved 12
    ∧ selectPath h [] = .errRemoved 12
    ∧ selectPath ⟨[], [(3, bs "/v")], none, none⟩ [1] = .errNoUnstable := by decide +kernel

/-- Reading recorded in DESIGN.md: "a supported version offers a path" is `v ≥ path.version`, as
the code documents. Under the stricter reading (`… ∧ v < removed`) this selection would be wrong:
the versions {1.1, 1.5} select the stable path although 1.1 predates it and 1.5 has removed it.
Kept as a witness, not claimed as a defect. -/
example :
    let h : VersionHistory := ⟨[bs "/u"], [(2, bs "/s")], some 3, some 4⟩
    newOk h = true ∧ selectPath h [1, 5] = .ok (bs "/s") := by decide +kernel

/-! ## Path arguments on the wire -/

/-- Percent-decoding is a left inverse of percent-encoding with a set that leaves the hex digits
alone **iff** the set contains `%` — which is why `PATH_PERCENT_ENCODE_SET` must contain it (F8). -/
theorem percent_roundtrip_iff (set : Nat → Bool) (hhex : ∀ d, isHexDigit d = true → set d = false) :
    (∀ s, IsBytes s → percentDecode (percentEncode set s) = s) ↔ set 37 = true := by
  refine ⟨fun h => ?_, percentDecode_encode set⟩
  -- with `%` outside the set, `%41` is sent as it is and read as `A`
  cases hp : set 37 with
  | true => rfl
  | false =>
    have henc : percentEncode set [37, 52, 49] = [37, 52, 49] := by
      simp [percentEncode, hp, hhex 52 (by decide), hhex 49 (by decide)]
    have := h [37, 52, 49] (by unfold IsBytes; decide)
    rw [henc] at this
    exact absurd this (by decide)

/-- The set the code uses qualifies, the pre-fix set does not; the concrete F8 witness on the
model: `a%41` was sent verbatim and decoded to `aA`. -/
example : (∀ d, isHexDigit d = true → pathSet d = false) ∧ pathSet 37 = true
    ∧ pathSetNoPercent 37 = false
    ∧ percentDecode (percentEncode pathSetNoPercent (bs "a%41")) = bs "aA"
    ∧ percentDecode (percentEncode pathSet (bs "a%41")) = bs "a%41" := by
  refine ⟨fun d hd => ?_, by decide +kernel⟩
  unfold isHexDigit at hd
  unfold pathSet
  simp only [Bool.or_eq_true, Bool.and_eq_true, decide_eq_true_eq, Bool.or_eq_false_iff,
    decide_eq_false_iff_not] at hd ⊢
  omega

/-- For every path template, and every list of argument strings (arbitrary bytes: any Unicode,
`/ % ? # + & =`, spaces, empty) with one argument per placeholder: if `make_endpoint_url`'s
substitution produces the path `p`, then a server that splits `p` on `/` and percent-decodes the
placeholder segments gets back exactly the arguments, and `p` has as many segments as the
template. -/
theorem path_args_roundtrip (tmpl : Str) (args : List Str) (p : Str)
    (hargs : ∀ a ∈ args, IsBytes a) (hlen : args.length = (pathArgNames tmpl).length)
    (h : substPath tmpl args = some p) :
    routeArgs tmpl p = some args ∧ (splitOn 47 p).length = (splitOn 47 tmpl).length :=
  path_args_roundtrip' tmpl args p hargs hlen h

/-- …and the substitution does produce a path (neither the `assert!` on the leading `/` nor the
`expect` on the argument count fires) whenever the template starts with `/` and there are at
least as many arguments as placeholders. -/
theorem substPath_no_panic (tmpl : Str) (args : List Str) (hslash : tmpl.head? = some 47)
    (hlen : (pathArgNames tmpl).length ≤ args.length) : ∃ p, substPath tmpl args = some p :=
  substPath_some tmpl args hslash hlen

/-- `make_endpoint_url` is: selected path, arguments substituted, after the base URL without its
trailing slash, then `?query` unless the query is empty. -/
theorem makeEndpointUrl_shape (h : VersionHistory) (vs : List Version) (base query : Str)
    (args : List Str) (url : Str) :
    makeEndpointUrl h vs base args query = .ok url ↔
      ∃ tmpl p, selectPath h vs = .ok tmpl ∧ substPath tmpl args = some p ∧
        url = stripSlashSuffix base ++ p ++ (if query = [] then [] else 63 :: query) := by
  refine ⟨makeEndpointUrl_ok_inv h vs base query args url, ?_⟩
  rintro ⟨tmpl, p, h1, h2, rfl⟩
  simp only [makeEndpointUrl, h1, h2]

/-- `make_endpoint_url` as a whole has no reachable panic site (the three of `select_path`, the
`assert!` on the leading `/`, the `expect` on the argument count) for a history
`VersionHistory::new` accepted whose paths all start with `/` — which `generated_histories_valid`
establishes for every endpoint constant — when at least as many arguments as placeholders are
supplied (the macros pass one per path field; the generated `path_parameters` tests pin the
count). -/
theorem makeEndpointUrl_no_panic (h : VersionHistory) (vs : List Version) (base query : Str)
    (args : List Str) (hnew : newOk h = true)
    (hslash : ∀ p ∈ allPaths h, p.head? = some 47)
    (hlen : ∀ r, refPath h = some r → (pathArgNames r).length ≤ args.length) :
    makeEndpointUrl h vs base args query ≠ .panic :=
  makeEndpointUrl_no_panic' h vs base query args hnew hslash hlen

example : substPath (bs "/r/:room_id/e/:event_id") [bs "!a%41/b:x", bs "$?#+ " ++ [195, 169]]
      = some (bs "/r/!a%2541%2Fb:x/e/$%3F%23+%20%C3%A9")
    ∧ routeArgs (bs "/r/:room_id/e/:event_id") (bs "/r/!a%2541%2Fb:x/e/$%3F%23+%20%C3%A9")
      = some [bs "!a%41/b:x", bs "$?#+ " ++ [195, 169]] := by
  repeat rw [bs_ofList]
  constructor <;> decide +kernel

/-- The produced path contains no stray delimiter: if the template consists of `/` and bytes that
are safe in a URI path segment, so does the path with the arguments filled in — no raw `?`, `#`,
space, control or non-ASCII byte, and no `/` beyond the template's. -/
theorem url_no_stray_delims (tmpl : Str) (args : List Str) (p : Str)
    (htmpl : ∀ b ∈ tmpl, b = 47 ∨ segmentUnsafe b = false) (hargs : ∀ a ∈ args, IsBytes a)
    (h : substPath tmpl args = some p) :
    (∀ b ∈ p, b = 47 ∨ segmentUnsafe b = false)
    ∧ (args.length = (pathArgNames tmpl).length → (splitOn 47 p).length = (splitOn 47 tmpl).length) :=
  ⟨url_no_stray_delims' tmpl args p htmpl hargs h,
   fun hlen => (path_args_roundtrip' tmpl args p hargs hlen h).2⟩

/-! ## Authorization header -/

/-- What a `SendAccessToken` offers. -/
def kindOf : SendAccessToken → TokenKind
  | .ifRequired _ => .ifRequired
  | .always _ => .always
  | .appservice _ => .appservice
  | .none => .none

def tokenOf : SendAccessToken → Str
  | .ifRequired t | .always t | .appservice t => t
  | .none => []

/-- For each of the 6 authentication schemes × 4 `SendAccessToken` kinds, `authorization_header`
does what the specification table says: the bearer header built from the caller's token, no
header, or the `NeedsAuthentication` error. -/
theorem authorization_header_table (s : AuthScheme) (sat : SendAccessToken) :
    authorizationHeader s sat =
      match authExpect s (kindOf sat) with
      | .bearer => bearer (tokenOf sat)
      | .noHeader => .noHeader
      | .needsAuth => .errNeedsAuth := by
  cases s <;> cases sat <;> rfl

/-- The bearer header is `Authorization: Bearer <token>`, produced exactly when the token consists
of bytes an HTTP header value may hold (otherwise the conversion to `HeaderValue` fails). -/
theorem bearer_header (t : Str) :
    bearer t = if headerValueOk t then .header (bs "Bearer " ++ t) else .errHeaderValue := by
  unfold bearer
  have : headerValueOk (bs "Bearer " ++ t) = headerValueOk t := by
    unfold headerValueOk
    rw [List.all_append]
    have : (bs "Bearer ").all (fun b => (decide (32 ≤ b) && b != 127) || b == 9) = true := by decide
    rw [this, Bool.true_and]
  simp only [this]

/-- The table itself, cell by cell (scheme order: None, AccessToken, AccessTokenOptional,
AppserviceToken, AppserviceTokenOptional, ServerSignatures; columns IfRequired, Always,
Appservice, None). -/
example :
    ([AuthScheme.none, .accessToken, .accessTokenOptional, .appserviceToken,
      .appserviceTokenOptional, .serverSignatures].map fun s =>
      [TokenKind.ifRequired, .always, .appservice, .none].map (authExpect s))
    = [[.noHeader, .bearer, .noHeader, .noHeader],
       [.bearer, .bearer, .bearer, .needsAuth],
       [.bearer, .bearer, .bearer, .noHeader],
       [.needsAuth, .bearer, .bearer, .needsAuth],
       [.noHeader, .bearer, .bearer, .noHeader],
       [.noHeader, .noHeader, .noHeader, .noHeader]] := by decide +kernel

/-! ## X-Matrix -/

/-- Formatting an `X-Matrix` value and parsing the text gives back the same origin, destination
(present or absent), key and signature — for all field strings made of bytes that may stand in a
quoted string (tab, space, visible ASCII; server names, key IDs and unpadded base64 are such
strings), including strings that need quoting and escaping (`"`, `\`, `:`, `/`, `,`, `=`, empty). -/
theorem xmatrix_roundtrip (x : XMatrix) (ho : x.origin.all isQuotable = true)
    (hd : ∀ d, x.destination = some d → d.all isQuotable = true)
    (hk : x.key.all isQuotable = true) (hs : x.sig.all isQuotable = true) :
    xmatrixParse (xmatrixFormat x) = some x := by
  unfold xmatrixParse
  rw [parseChallenge_format x ho hd hk hs]
  have hsch : eqIgnoreCase nScheme (bs "x-matrix") = true := by decide
  simp only [hsch, Bool.not_true, Bool.false_eq_true, if_false]
  obtain ⟨o, d, k, s⟩ := x
  cases d with
  | none =>
    have : collectFields ([] ++ [(nKey, rawOf k), (nOrigin, rawOf o), (nSig, rawOf s)]) {}
        = some ⟨some (unescape (rawOf o)), none, some (unescape (rawOf k)), some (unescape (rawOf s))⟩ := by
      rfl
    simp only [this, unescape_rawOf]
  | some d =>
    have : collectFields ([(nDestination, rawOf d)] ++ [(nKey, rawOf k), (nOrigin, rawOf o), (nSig, rawOf s)]) {}
        = some ⟨some (unescape (rawOf o)), some (unescape (rawOf d)), some (unescape (rawOf k)),
            some (unescape (rawOf s))⟩ := by
      rfl
    simp only [this, unescape_rawOf]

example :
    xmatrixFormat ⟨bs "origin.hs.example.com", some (bs "[::1]:8448"), bs "ed25519:key1", bs "ABC/+"⟩
      = bs "X-Matrix destination=\"[::1]:8448\",key=\"ed25519:key1\",origin=origin.hs.example.com,sig=\"ABC/+\""
    ∧ xmatrixParse (bs "X-Matrix sig=\"a\\\"b\",ORIGIN=o.example,key=\"ed25519:1\"")
      = some ⟨bs "o.example", none, bs "ed25519:1", bs "a\"b"⟩ := by
  repeat rw [bs_ofList]
  constructor <;> decide +kernel

/-! ## The macro-generated request/response glue

`ReqDesc` / `RespDesc` describe an endpoint the way `#[request]` / `#[response]` see it (ordered
fields with their `#[ruma_api(..)]` kind); `tryIntoHttpRequest`, `tryFromHttpRequest`,
`tryIntoHttpResponse`, `tryFromHttpResponse` are the model of the generated code
(`Model/EndpointGlue.lean`); `deliver` is what lies between sender and receiver (cut the base URL
off, split path and query, route the path, percent-decode the arguments). `FormCodec`, `JsonCodec`,
`HttpLib` stand for `serde_html_form`, `serde_json` and `http::Uri` and are quantified over — every
theorem holds for all implementations satisfying the stated laws. `refForm` is the executable
reference form codec, proved to satisfy its law. -/

/-! ### The query-string codec -/

/-- **All byte strings.** The reference `application/x-www-form-urlencoded` parser (split on `&`,
first `=`, `+` → space, `%XX`) reads back every list of pairs of arbitrary byte strings from what
the reference serializer (`* - . _ 0-9 A-Z a-z` kept, space → `+`, the rest `%XX`) wrote: keys and
values with `& = + % # ?`, spaces, controls, NUL, bytes that are not UTF-8, empty strings, the
empty list, repeated keys. -/
theorem query_roundtrip_all_bytes (ps : List (Str × Str))
    (hb : ∀ p ∈ ps, IsBytes p.1 ∧ IsBytes p.2) : formParseBytes (formSerialize ps) = ps :=
  formParseBytes_formSerialize ps hb

/-- `String::from_utf8_lossy` (the step `form_urlencoded::parse` adds on top) changes nothing on
well-formed UTF-8, so the parser as `serde_html_form` uses it reads back all Rust strings. -/
theorem form_codec_lawful (ps : List (Str × Str))
    (ht : ∀ p ∈ ps, utf8Valid p.1 = true ∧ utf8Valid p.2 = true) :
    formParse (formSerialize ps) = ps ∧ 35 ∉ formSerialize ps :=
  ⟨refForm_lawful.law ps ht, refForm_lawful.no_hash ps⟩

example : formSerialize [(bs "a b", bs "x&y=z"), (bs "", bs "100%"), (bs "k", [195, 169]), (bs "k", bs "+#?")]
      = bs "a+b=x%26y%3Dz&=100%25&k=%C3%A9&k=%2B%23%3F"
    ∧ formParse (bs "a+b=x%26y%3Dz&=100%25&&k=%C3%A9&k=%2B%23%3F&novalue&%zz=%4")
      = [(bs "a b", bs "x&y=z"), (bs "", bs "100%"), (bs "k", [195, 169]), (bs "k", bs "+#?"),
         (bs "novalue", []), (bs "%zz", bs "%4")]
    -- a percent escape that is not UTF-8 arrives as U+FFFD
    ∧ formParse (bs "k=%FF%C3") = [(bs "k", [239, 191, 189, 239, 191, 189])]
    ∧ utf8Valid [240, 159, 152, 128] = true ∧ utf8Valid [237, 160, 128] = false
    ∧ utf8Valid [192, 128] = false := by
  repeat rw [bs_ofList]
  decide +kernel

/-! ### Requests -/

/-- The property for requests, at full strength: for every endpoint description within the model
(`inModel`: no flattened body field) that the macro accepts (and whose generated tests pass), every value made of wire forms of values, and every message the
encoder produces for it: the receiving side, after routing, reads back the value (and so its
re-encoding is the identical message). **This does not hold** — see `request_statement_false`:
findings G17 and G19 and descriptions with two header fields of one name are counterexamples. -/
def RequestRoundtripStatement : Prop :=
  ∀ (F : FormCodec) (J : JsonCodec) (H : HttpLib) (d : ReqDesc) (v : ReqVal) (base : Str)
    (sat : SendAccessToken) (vs : List Version) (m : HttpRequest),
    F.Lawful → J.Lawful → newOk d.history = true →
    (∀ p ∈ allPaths d.history, ∀ b ∈ p, b = 47 ∨ segmentUnsafe b = false) →
    d.inModel = true → d.macroAccepts = true → d.testsPass = true → v.Canon d → v.Text F d →
    tryIntoHttpRequest F J H d v base sat vs = .ok m →
    ∃ tmpl a, selectPath d.history vs = .ok tmpl ∧ deliver base tmpl m = some a
      ∧ tryFromHttpRequest F J d a = .ok v

/-- What is proved. For EVERY implementation of the form, JSON and URI libraries satisfying the
stated laws, EVERY endpoint description `d` expressible in the model (`hmodel`: any mix of path,
query / `query_all`, header (mandatory or `Option`), body, newtype-body and raw-body fields, but NO
body field with `#[serde(flatten)]` — such descriptions are outside the model) that `#[request]`
accepts (`macroAccepts`), whose generated tests pass (`testsPass`: path fields = placeholders, no
body on `GET`, distinct field names — these are `#[test]` functions the macro emits, run by ruma's
own `cargo test`, not by the compiler) and whose history `VersionHistory::new` accepts (`hnew`)
with paths made of `/` and URI-safe bytes (`hsafe`),
EVERY value `v` whose field contents are wire forms of values of the fields' types (`Canon`) and
Rust strings where they pass through text (`Text`), every base URL, access token and list of
supported versions: if `try_into_http_request` produces the message `m`, then a server that routes
`m` by the selected path template and hands it to `try_from_http_request` obtains exactly `v`.
(The last conjunct — re-encoding what was obtained gives `m` again — adds nothing: it is the
third conjunct plus the fact that the encoder is a function. It is kept because the property is
worded that way. The direction that starts from an ARRIVED message — decode, re-encode, deliver,
decode again — is not a theorem here: it needs the codecs to be idempotent and the form library to
produce text, which are not among the laws assumed.)

Excluded, spelled out:
 * `hhn`  — two header fields with the same header name (the second `insert` overwrites the first);
 * `hvis` — **G19**: a header value with a byte that is not visible ASCII / space / tab
            (`HeaderValue::from_str` accepts bytes ≥ 128, `to_str` on the receiving side refuses);
 * `himp` — **G17**: an `Option` header field that is `None` while the generated code sets that
            header itself (`Content-Type: application/json` whenever there is a body,
            `Authorization` when a token is sent): it is read back as `Some(..)`.
Finding **G18** lives one level below (`QueryFieldTypesStatement`): `Some("")` in an
`Option<String>` query field is not the wire form of a value, so `Canon` does not hold for it. -/
theorem request_roundtrip_partial (F : FormCodec) (J : JsonCodec) (H : HttpLib) (d : ReqDesc)
    (v : ReqVal) (base : Str) (sat : SendAccessToken) (vs : List Version) (m : HttpRequest)
    (hF : F.Lawful) (hJ : J.Lawful)
    (hnew : newOk d.history = true)
    (hsafe : ∀ p ∈ allPaths d.history, ∀ b ∈ p, b = 47 ∨ segmentUnsafe b = false)
    (_hmodel : d.inModel = true)
    (hmacro : d.macroAccepts = true) (htests : d.testsPass = true)
    (hcanon : v.Canon d) (htext : v.Text F d)
    (hhn : (d.headerFields.map (·.header)).Nodup)
    (hvis : ∀ s, some s ∈ v.header → headerToStrOk s = true)
    (himp : ∀ f, (f, none) ∈ d.headerFields.zip v.header → f.header ∉ implicitHeaders d sat)
    (henc : tryIntoHttpRequest F J H d v base sat vs = .ok m) :
    ∃ tmpl a, selectPath d.history vs = .ok tmpl ∧ deliver base tmpl m = some a
      ∧ tryFromHttpRequest F J d a = .ok v
      ∧ ∀ v', tryFromHttpRequest F J d a = .ok v' →
          tryIntoHttpRequest F J H d v' base sat vs = .ok m := by
  obtain ⟨tmpl, a, h1, h2, h3⟩ :=
    request_roundtrip' F hF J hJ H d v base sat vs m hnew hsafe hmacro htests hhn hcanon htext hvis himp henc
  refine ⟨tmpl, a, h1, h2, h3, ?_⟩
  intro v' hv'
  rw [h3] at hv'
  cases hv'
  exact henc

/-- No modelled panic site of the generated code is reachable: for a description within the model
whose generated tests pass, a history `VersionHistory::new` accepted with paths starting in `/`, and any value of
the struct, `try_into_http_request` ends in a message or in an `IntoHttpError` — never in one of
the `expect`/`assert!`/`unreachable!` of `make_endpoint_url` / `select_path`. (The receiving side
and both response conversions contain no `unwrap`/`expect`/index at all: their models have no
`panic` outcome.) -/
theorem glue_no_panic (F : FormCodec) (J : JsonCodec) (H : HttpLib) (d : ReqDesc) (v : ReqVal)
    (base : Str) (sat : SendAccessToken) (vs : List Version)
    (hnew : newOk d.history = true) (hslash : ∀ p ∈ allPaths d.history, p.head? = some 47)
    (_hmodel : d.inModel = true)
    (htests : d.testsPass = true) (hshape : v.shapeOk d = true) :
    tryIntoHttpRequest F J H d v base sat vs ≠ .panic
    ∧ tryIntoHttpRequest F J H d v base sat vs ≠ .illTyped := by
  obtain ⟨⟨r, hr, hrlen⟩, _⟩ := testsPass_inv d htests
  have hl := (shapeOk_inv d v hshape).1
  refine tryInto_typed F J H d v base sat vs (fun q => ?_) hshape
  exact makeEndpointUrl_no_panic' d.history vs base q v.path hnew hslash
    (fun r' hr' => by rw [hr] at hr'; cases hr'; omega)

/-- The receiving side's method rule: a `HEAD` request is accepted for a `GET` endpoint; any other
method than the endpoint's is `MethodMismatch`, before anything else is looked at. -/
theorem method_rule (F : FormCodec) (J : JsonCodec) (d : ReqDesc) (a : Arrived) :
    (a.method ≠ d.method → ¬(a.method = mHEAD ∧ d.method = mGET) →
      tryFromHttpRequest F J d a = .methodMismatch)
    ∧ (d.method = mGET → tryFromHttpRequest F J d { a with method := mHEAD }
        = tryFromHttpRequest F J d { a with method := mGET }) := by
  constructor
  · intro h1 h2
    unfold tryFromHttpRequest
    have : (decide (a.method = d.method) || (decide (a.method = mHEAD) && decide (d.method = mGET))) = false := by
      simp only [Bool.or_eq_false_iff, decide_eq_false_iff_not, Bool.and_eq_false_imp,
        decide_eq_true_eq]
      exact ⟨h1, fun h3 h4 => h2 ⟨h3, h4⟩⟩
    simp [this]
  · intro hg
    unfold tryFromHttpRequest
    simp [hg]

/-- The empty-body rule: by an endpoint WITHOUT a raw body field (`hraw`; with one, the body bytes
are the field's value and nothing is substituted), a request without any body bytes is read
exactly like the body `{}`. -/
theorem empty_body_is_empty_object (F : FormCodec) (J : JsonCodec) (d : ReqDesc) (a : Arrived)
    (_hmodel : d.inModel = true) (hraw : d.hasRawBody = false) :
    tryFromHttpRequest F J d { a with body := [] }
      = tryFromHttpRequest F J d { a with body := bs "{}" } := by
  unfold tryFromHttpRequest decodeJsonBody bodyOrEmptyObject
  simp [hraw]

/-! ### Witnesses: the model reproduces the recorded defects -/

/-- A `JsonCodec` that refuses to write anything (lawful, trivially): enough for the witnesses
below, none of which has a JSON body. -/
def noJson : JsonCodec where
  ser := fun _ => none
  parse := fun b => if b = bs "{}" then some (.obj []) else none

theorem noJson_lawful : noJson.Lawful where
  law := by intro v b h; cases h
  ser_ne := by intro v b h; cases h
  empty_obj := by simp [noJson]

def anyUri : HttpLib := ⟨fun _ => true⟩

/-- `media::create_content`-like: raw body and an optional `Content-Type` header field. -/
def dG17 : ReqDesc :=
  ⟨bs "POST", .none, ⟨[bs "/_synthetic/upload"], [], none, none⟩,
   [⟨bs "content_type", .header contentType true Ty.str⟩, ⟨bs "file", .rawBody⟩]⟩

/-- **G17 on the model.** `content_type: None` is sent with the macros' own
`Content-Type: application/json` and read back as `Some("application/json")`. -/
theorem g17_witness :
    let v : ReqVal := { header := [none], raw := [[1, 2, 3]] }
    let m : HttpRequest := ⟨bs "POST", bs "https://h/_synthetic/upload",
      [(contentType, applicationJson)], [1, 2, 3]⟩
    dG17.macroAccepts = true ∧ dG17.testsPass = true ∧ newOk dG17.history = true
    ∧ tryIntoHttpRequest refForm noJson anyUri dG17 v (bs "https://h") .none [] = .ok m
    ∧ deliver (bs "https://h") (bs "/_synthetic/upload") m = some ⟨bs "POST", [], m.headers, m.body, []⟩
    ∧ tryFromHttpRequest refForm noJson dG17 ⟨bs "POST", [], m.headers, m.body, []⟩
        = .ok { header := [some applicationJson], raw := [[1, 2, 3]] } := by
  rw [dG17]
  repeat rw [bs_ofList]
  refine ⟨by decide +kernel, by decide +kernel, by decide +kernel, by decide +kernel, by decide +kernel, by rfl⟩

/-- A mandatory `String` header field. -/
def dG19 : ReqDesc :=
  ⟨bs "GET", .none, ⟨[bs "/_synthetic/h"], [], none, none⟩,
   [⟨bs "h", .header (bs "if-match") false Ty.str⟩]⟩

/-- **G19 on the model.** The header value `é` (bytes C3 A9) is accepted when sending and is a
deserialization error when receiving. -/
theorem g19_witness :
    let v : ReqVal := { header := [some [195, 169]] }
    let m : HttpRequest := ⟨bs "GET", bs "https://h/_synthetic/h", [(bs "if-match", [195, 169])], []⟩
    tryIntoHttpRequest refForm noJson anyUri dG19 v (bs "https://h") .none [] = .ok m
    ∧ deliver (bs "https://h") (bs "/_synthetic/h") m = some ⟨bs "GET", [], m.headers, [], []⟩
    ∧ (match tryFromHttpRequest refForm noJson dG19 ⟨bs "GET", [], m.headers, [], []⟩ with
       | .deser => true | _ => false) = true := by
  rw [dG19]
  repeat rw [bs_ofList]
  decide +kernel

/-- The full-strength statement is false: the G17 description and value satisfy all its
hypotheses, and the receiving side reads a different value. -/
theorem request_statement_false : ¬ RequestRoundtripStatement := by
  intro h
  obtain ⟨hm, ht, hn, henc, hdel, hdec⟩ := g17_witness
  have hcanon : ReqVal.Canon dG17 { header := [none], raw := [[1, 2, 3]] } :=
    ⟨trivial, trivial, trivial, ⟨rfl, trivial⟩, trivial, trivial⟩
  have htext : ReqVal.Text refForm dG17 { header := [none], raw := [[1, 2, 3]] } :=
    ⟨fun _ h => (nomatch h), fun _ h => (nomatch h), fun _ h => (nomatch h), fun _ h => (nomatch h)⟩
  obtain ⟨tmpl, a, hsel, hd, hdec'⟩ := h refForm noJson anyUri dG17 _ (bs "https://h") .none [] _
    refForm_lawful noJson_lawful hn
    (by decide) (by decide) hm ht hcanon htext henc
  have : selectPath dG17.history [] = .ok (bs "/_synthetic/upload") := by decide
  rw [this] at hsel
  cases hsel
  rw [hdel] at hd
  cases hd
  -- `hdec` and `hdec'` disagree on the header field
  rw [hdec] at hdec'
  cases hdec'

/-! ### G18: one level below, the field types -/

/-- Typed contents of a query field, for the string types the check's endpoints use. -/
inductive QVal where
  | str (s : Str)                  -- `String`
  | optStr (o : Option Str)        -- `Option<String>`
  | vecStr (l : List Str)          -- `Vec<String>` (`default`, `skip_serializing_if = "Vec::is_empty"`)

/-- What `serde_html_form` writes under the field's key. -/
def QVal.wire : QVal → List Str
  | .str s => [s]
  | .optStr none => []
  | .optStr (some s) => [s]
  | .vecStr l => l

def QVal.codec : QVal → Codec (List Str)
  | .str _ => Ty.qStr
  | .optStr _ => Ty.qOptStr
  | .vecStr _ => Ty.qVecStr

/-- Full strength: whatever a query field holds, what is written for it is read back as the same
content. **False**: G18. -/
def QueryFieldTypesStatement : Prop := ∀ a : QVal, a.codec.Canon a.wire

/-- All contents of `String`, `Option<String>` and `Vec<String>` query fields — every string, the
empty string, any number of values — are read back unchanged, **except** `Some("")` in an
`Option<String>` field. -/
theorem query_field_types_partial (a : QVal) (h : a ≠ .optStr (some [])) : a.codec.Canon a.wire := by
  cases a with
  | str s => rfl
  | vecStr l => rfl
  | optStr o =>
    cases o with
    | none => rfl
    | some s =>
      have hs : s ≠ [] := fun e => h (by rw [e])
      simp [QVal.codec, QVal.wire, Codec.Canon, Ty.qOptStr, hs]

/-- **G18 on the model.** `Some("")` is written as `name=` and read back as `None`. -/
theorem g18_witness :
    (QVal.optStr (some [])).codec.norm (QVal.optStr (some [])).wire = some (QVal.optStr none).wire
    ∧ ¬ QueryFieldTypesStatement := by
  refine ⟨rfl, fun h => ?_⟩
  have := h (.optStr (some []))
  simp [QVal.codec, QVal.wire, Codec.Canon, Ty.qOptStr] at this

/-- …and end to end: an endpoint with one `Option<String>` query field sends `?oq=` for
`Some("")`, and the receiving side obtains `None`. -/
example :
    let d : ReqDesc := ⟨bs "GET", .none, ⟨[bs "/_synthetic/q"], [], none, none⟩,
      [⟨bs "oq", .query Ty.qOptStr⟩]⟩
    let m : HttpRequest := ⟨bs "GET", bs "https://h/_synthetic/q?oq=", [], []⟩
    tryIntoHttpRequest refForm noJson anyUri d { query := [[[]]] } (bs "https://h") .none [] = .ok m
    ∧ deliver (bs "https://h") (bs "/_synthetic/q") m = some ⟨bs "GET", bs "oq=", [], [], []⟩
    ∧ tryFromHttpRequest refForm noJson d ⟨bs "GET", bs "oq=", [], [], []⟩ = .ok { query := [[]] } := by
  repeat rw [bs_ofList]
  refine ⟨by decide +kernel, by decide +kernel, by rfl⟩

/-! ### Responses -/

/-- The property for responses at full strength (false for the same two reasons as for requests:
G19, and G17's response-side twin — an `Option` header field named `Content-Type` that is `None`). -/
def ResponseRoundtripStatement : Prop :=
  ∀ (J : JsonCodec) (d : RespDesc) (v : RespVal) (r : HttpResponse),
    J.Lawful → d.inModel = true → d.macroAccepts = true → d.supported = true → d.status < 400 →
    v.Canon d →
    tryIntoHttpResponse J d v = .ok r → tryFromHttpResponse J d r = .ok v

/-- For EVERY lawful JSON library, EVERY response description within the model (`hmodel`: header,
body, newtype-body, raw-body fields; `status = ..`; `manual_body_serde`; NO body field with
`#[serde(flatten)]`) that `#[response]` accepts (`hmacro`), that carries a value (`hsup`: distinct
field names, and not `manual_body_serde` without any body field) and has a success status
(`hstatus`), and EVERY value made of wire forms of values: what `try_into_http_response` produces
is read back by `try_from_http_response` as the same value (and so, the encoder being a function,
re-encoding that gives the identical response: status, headers, body bytes — the second conjunct
adds nothing beyond determinism). Excluded, spelled out: two header fields of one name (`hhn`),
header values that are not visible ASCII (`hvis`, **G19**), and an `Option` header field named
`Content-Type` holding `None` (`himp`, the response-side form of **G17**: the builder always sets
`Content-Type: application/json`). -/
theorem response_roundtrip_partial (J : JsonCodec) (d : RespDesc) (v : RespVal) (r : HttpResponse)
    (hJ : J.Lawful) (_hmodel : d.inModel = true) (hmacro : d.macroAccepts = true)
    (hsup : d.supported = true) (hstatus : d.status < 400)
    (hcanon : v.Canon d)
    (hhn : (d.headerFields.map (·.header)).Nodup)
    (hvis : ∀ s, some s ∈ v.header → headerToStrOk s = true)
    (himp : ∀ f, (f, none) ∈ d.headerFields.zip v.header → f.header ≠ contentType)
    (henc : tryIntoHttpResponse J d v = .ok r) :
    tryFromHttpResponse J d r = .ok v
    ∧ ∀ v', tryFromHttpResponse J d r = .ok v' → tryIntoHttpResponse J d v' = .ok r := by
  have h := response_roundtrip' J hJ d v r hmacro hsup hstatus hhn hcanon hvis himp henc
  refine ⟨h, ?_⟩
  intro v' hv'
  rw [h] at hv'
  cases hv'
  exact henc

/-- The error path: a status of 400 or above is never read as a value of the endpoint — it goes to
the endpoint's error type (`FromHttpResponseError::Server`), whatever headers and body it has; and
a status below 400 is never taken for a server error. -/
theorem response_error_path (J : JsonCodec) (d : RespDesc) (r : HttpResponse) :
    (400 ≤ r.status → tryFromHttpResponse J d r = .server)
    ∧ (r.status < 400 → tryFromHttpResponse J d r ≠ .server) := by
  constructor
  · intro h
    unfold tryFromHttpResponse
    simp [Nat.not_lt.2 h]
  · intro h
    unfold tryFromHttpResponse
    simp only [h, if_true]
    cases decodeRespBody J d r.body with
    | methodMismatch => simp
    | deser => simp
    | outside => simp
    | ok p =>
      obtain ⟨b, w⟩ := p
      simp only
      cases decodeRespHeaders r.headers d.headerFields <;> simp

/-- The response-side witness: `Content-Type` as an optional header field holding `None`. -/
theorem response_statement_false : ¬ ResponseRoundtripStatement := by
  intro h
  let d : RespDesc := ⟨200, none, [⟨bs "content_type", .header contentType true Ty.str⟩, ⟨bs "file", .rawBody⟩]⟩
  let v : RespVal := { header := [none], raw := [[7]] }
  have henc : tryIntoHttpResponse noJson d v = .ok ⟨200, [(contentType, applicationJson)], [7]⟩ := by
    decide +kernel
  have hdec : (match tryFromHttpResponse noJson d ⟨200, [(contentType, applicationJson)], [7]⟩ with
      | .ok w => w.header | _ => []) = [some applicationJson] := by decide +kernel
  have := h noJson d v _ noJson_lawful (by decide +kernel) (by decide +kernel) (by decide +kernel)
    (by decide +kernel) ⟨⟨rfl, trivial⟩, trivial⟩ henc
  -- the statement says the header field is read back as `v.header = [none]`
  rw [this] at hdec
  cases hdec

/-! ### The hypotheses are satisfiable: a description with every kind of field -/

/-- `PUT /_synthetic/v1/all/:a/x/:b?q=..&oq=..&mq=..&mq=..` with two path fields, three query fields,
a mandatory and an optional header, three body fields. -/
def dAll : ReqDesc :=
  ⟨bs "PUT", .accessToken,
   ⟨[bs "/_synthetic/unstable/all/:a/x/:b"], [(1, bs "/_synthetic/v1/all/:a/x/:b")], none, none⟩,
   [⟨bs "a", .path Ty.str⟩, ⟨bs "q", .query Ty.qStr⟩, ⟨bs "lang", .header (bs "content-language") false Ty.str⟩,
    ⟨bs "s", .body Ty.bStr⟩, ⟨bs "b", .path Ty.str⟩, ⟨bs "oq", .query Ty.qOptStr⟩,
    ⟨bs "o", .body Ty.bOptStr⟩, ⟨bs "mq", .query Ty.qVecStr⟩, ⟨bs "h", .header (bs "if-match") true Ty.str⟩,
    ⟨bs "v", .body Ty.bVecStr⟩]⟩

def vAll : ReqVal :=
  { path := [bs "a%41/b", bs "?#+ " ++ [195, 169]], query := [[bs "x&y=z"], [], [bs "", bs "1 2"]],
    header := [some (bs "en, fr"), none],
    body := [some (.str (bs "s\"")), none, some (.arr [.str (bs "1")])] }

/-- The hypotheses of `request_roundtrip_partial` and `glue_no_panic`, discharged for `dAll` / `vAll`
(a fact about one description, not a property theorem). -/
theorem dAll_hypotheses :
    dAll.macroAccepts = true ∧ dAll.testsPass = true ∧ newOk dAll.history = true
    ∧ (∀ p ∈ allPaths dAll.history, ∀ b ∈ p, b = 47 ∨ segmentUnsafe b = false)
    ∧ (∀ p ∈ allPaths dAll.history, p.head? = some 47)
    ∧ (dAll.headerFields.map (·.header)).Nodup ∧ vAll.shapeOk dAll = true
    ∧ vAll.Canon dAll ∧ vAll.Text refForm dAll
    ∧ (∀ s, some s ∈ vAll.header → headerToStrOk s = true)
    ∧ (∀ f, (f, none) ∈ dAll.headerFields.zip vAll.header →
        f.header ∉ implicitHeaders dAll (.ifRequired (bs "tok"))) := by
  rw [dAll]
  repeat rw [bs_ofList]
  refine ⟨by decide +kernel, by decide +kernel, by decide +kernel, by decide +kernel, by decide +kernel,
    by decide +kernel, by decide +kernel, ?_, ?_, ?_, ?_⟩
  · exact ⟨⟨rfl, rfl, trivial⟩, ⟨rfl, rfl, rfl, trivial⟩, trivial, ⟨rfl, rfl, trivial⟩,
      ⟨rfl, rfl, rfl, trivial⟩, trivial⟩
  · exact {
      path := (by decide +kernel : ∀ a ∈ vAll.path, ∀ b ∈ a, b < 256)
      keys := (by decide +kernel : ∀ f ∈ ReqDesc.queryFields _, utf8Valid f.1 = true)
      query := (by decide +kernel : ∀ vs ∈ vAll.query, ∀ s ∈ vs, utf8Valid s = true)
      queryAll := fun _ h => nomatch h }
  · exact fun s hs => (by decide +kernel : ∀ o ∈ vAll.header, o.all headerToStrOk = true) _ hs
  · exact fun f hf => (by decide +kernel :
      ∀ x ∈ List.zip (ReqDesc.headerFields _) vAll.header, x.2 = none → x.1.header ∉ implicitHeaders _ _)
      (f, none) hf rfl

/-- A non-trivial lawful JSON library exists: C01's canonical encoder (refusing what is not
canonical) with the decoder of the canonical grammar — lawful by `Props/C01.decode_encode`. -/
theorem canon_json_lawful : canonJson.Lawful := canonJson_lawful

/-- What `try_into_http_request` writes for `vAll` through that JSON library. -/
def mAll : HttpRequest :=
  ⟨bs "PUT", bs "https://h/_synthetic/v1/all/a%2541%2Fb/x/%3F%23+%20%C3%A9?q=x%26y%3Dz&mq=&mq=1+2",
   [(contentType, applicationJson), (bs "content-language", bs "en, fr"), (authorization, bs "Bearer tok")],
   bs "{\"s\":\"s\\\"\",\"v\":[\"1\"]}"⟩

/-- ALL hypotheses of `request_roundtrip_partial` at once, on a description with every kind of
field and a JSON body: the form library `refForm` (lawful), the JSON library `canonJson` (lawful),
`dAll`, `vAll`, and `henc` — the encoder does produce a message, `mAll`, computed by the kernel —,
and hence the theorem's conclusion for them. -/
example :
    tryIntoHttpRequest refForm canonJson anyUri dAll vAll (bs "https://h") (.ifRequired (bs "tok")) [3]
      = .ok mAll
    ∧ ∃ tmpl a, selectPath dAll.history [3] = .ok tmpl ∧ deliver (bs "https://h") tmpl mAll = some a
        ∧ tryFromHttpRequest refForm canonJson dAll a = .ok vAll := by
  have henc : tryIntoHttpRequest refForm canonJson anyUri dAll vAll (bs "https://h")
      (.ifRequired (bs "tok")) [3] = .ok mAll := by
    rw [dAll, mAll]
    repeat rw [bs_ofList]
    decide +kernel
  obtain ⟨hm, ht, hn, hsafe, _, hhn, _, hcanon, htext, hvis, himp⟩ := dAll_hypotheses
  obtain ⟨tmpl, a, h1, h2, h3, _⟩ :=
    request_roundtrip_partial refForm canonJson anyUri dAll vAll (bs "https://h") (.ifRequired (bs "tok"))
      [3] mAll refForm_lawful canon_json_lawful hn hsafe (by decide) hm ht hcanon htext hhn hvis himp henc
  exact ⟨henc, tmpl, a, h1, h2, h3⟩

/-- The same kinds of values through an endpoint without a JSON body, computed: the message the
sender writes, what arrives after routing, what the receiver reads. -/
example :
    let d : ReqDesc := ⟨bs "POST", .accessTokenOptional,
      ⟨[bs "/_synthetic/unstable/raw/:name/upload"], [], none, none⟩,
      [⟨bs "name", .path Ty.str⟩, ⟨bs "q", .query Ty.qStr⟩, ⟨bs "mq", .query Ty.qVecStr⟩,
       ⟨bs "content_type", .header contentType false Ty.str⟩, ⟨bs "file", .rawBody⟩]⟩
    let v : ReqVal := { path := [bs "a%41/b ?"], query := [[bs "x&y=z"], [bs "", bs "1 2"]],
                        header := [some (bs "image/png")], raw := [[0, 255]] }
    let m : HttpRequest := ⟨bs "POST",
      bs "https://h/_synthetic/unstable/raw/a%2541%2Fb%20%3F/upload?q=x%26y%3Dz&mq=&mq=1+2",
      [(contentType, bs "image/png"), (authorization, bs "Bearer tok")], [0, 255]⟩
    tryIntoHttpRequest refForm noJson anyUri d v (bs "https://h/") (.ifRequired (bs "tok")) [3] = .ok m
    ∧ deliver (bs "https://h/") (bs "/_synthetic/unstable/raw/:name/upload") m
        = some ⟨bs "POST", bs "q=x%26y%3Dz&mq=&mq=1+2", m.headers, [0, 255], [bs "a%41/b ?"]⟩
    ∧ (match tryFromHttpRequest refForm noJson d
          ⟨bs "POST", bs "q=x%26y%3Dz&mq=&mq=1+2", m.headers, [0, 255], [bs "a%41/b ?"]⟩ with
       | .ok v' => (v'.path, v'.query, v'.queryAll, v'.header, v'.raw, v'.body.length, v'.newtype.length)
                    == (v.path, v.query, v.queryAll, v.header, v.raw, 0, 0)
       | _ => false) = true := by
  repeat rw [bs_ofList]
  decide +kernel

/-- A response description with every kind of field, and a value. -/
example :
    let d : RespDesc := ⟨201, none, [⟨bs "etag", .header (bs "etag") true Ty.str⟩, ⟨bs "s", .body Ty.bStr⟩,
      ⟨bs "loc", .header (bs "location") false Ty.str⟩, ⟨bs "o", .body Ty.bOptStr⟩]⟩
    let v : RespVal := { header := [none, some (bs "/x")], body := [some (.str (bs "s")), none] }
    d.macroAccepts = true ∧ d.supported = true ∧ d.status < 400 ∧ v.Canon d ∧ v.shapeOk d = true
    ∧ (d.headerFields.map (·.header)).Nodup := by
  refine ⟨by decide, by decide, by decide, ⟨⟨rfl, rfl, trivial⟩, ⟨rfl, rfl, trivial⟩⟩, by decide, by decide⟩

/-! ### The synthetic endpoints of the differential check satisfy the hypotheses -/

/-- T1 for the harness' OWN seven endpoints `glue::g_*` (not ruma's — those are
`real_endpoints_under_model` below): every request and response description the harness extracted
from the stringified input of the real `#[request]` / `#[response]` macros is within the model, one the macro accepts, passes
the generated tests, has a history `VersionHistory::new` accepts with URI-safe paths starting in
`/`, and distinct header names — so `request_roundtrip_partial`, `response_roundtrip_partial` and
`glue_no_panic` apply to each of them. -/
theorem generated_glue_descriptors_accepted :
    Generated.C16.glueReq.all (fun d =>
      d.inModel && d.macroAccepts && d.testsPass && newOk d.history
      && (allPaths d.history).all (fun p => p.head? == some 47 && p.all (fun b => b == 47 || !segmentUnsafe b))
      && decide (d.headerFields.map (·.header)).Nodup) = true
    ∧ Generated.C16.glueResp.all (fun d =>
      d.inModel && d.macroAccepts && d.supported && decide (d.status < 400)
      && decide (d.headerFields.map (·.header)).Nodup) = true := by
  constructor <;> decide +kernel

/-! ### The real endpoints

`Generated.C16.realReq` / `realResp`: one entry per endpoint module of the five API crates, in the
order of `Generated.C16.endpoints`; `some d` — the description read from the source text of the
`#[request]` / `#[response]` struct (field order, `#[ruma_api(..)]` kind, header constant,
`Option`-ness, serde name, `flatten`; method, authentication and history from the `METADATA`
constant), with the identity codecs —, or `none` when the endpoint has no macro-generated
conversions or the parser does not understand its definition (`Generated.C16.realOutside`; nothing
is claimed for those). None of the predicates decided below looks at a codec
(`real_endpoint_codecs_irrelevant`). -/

/-- Every real endpoint with a description: `#[request]` / `#[response]` accept it
(`macroAccepts`), the generated `#[test]`s pass (`testsPass`: path fields are the placeholders in
order, no body on `GET`, distinct names), its history is one `VersionHistory::new` accepts with
paths made of `/` and URI-safe bytes, no two header fields share a header name (`hhn`), the
response carries a value and has a success status — i.e. the hypotheses `hmacro`, `htests`, `hnew`,
`hsafe`/`hslash`, `hhn`, `hsup`, `hstatus` of `request_roundtrip_partial`,
`response_roundtrip_partial` and `glue_no_panic` hold for each of them, for whatever codecs their
field types have. (`hmodel` is `real_flatten_endpoints`, `himp` is `real_g17_endpoints`.) -/
theorem real_endpoints_under_model :
    (Generated.C16.realReq.filterMap id).all (fun d =>
      d.macroAccepts && d.testsPass && newOk d.history
      && (allPaths d.history).all (fun p => p.head? == some 47 && p.all (fun b => b == 47 || !segmentUnsafe b))
      && decide (d.headerFields.map (·.header)).Nodup) = true
    ∧ (Generated.C16.realResp.filterMap id).all (fun d =>
      d.macroAccepts && d.supported && decide (d.status < 400)
      && decide (d.headerFields.map (·.header)).Nodup) = true := by
  have key : (Generated.C16.realReq.filterMap id).all (fun d =>
      d.macroAccepts && d.testsPass && historyOk d.history
      && decide (d.headerFields.map (·.header)).Nodup) = true := by decide +kernel
  refine ⟨?_, by decide +kernel⟩
  rw [List.all_eq_true] at key ⊢
  intro d hd
  have hk := key d hd
  simp only [Bool.and_eq_true] at hk ⊢
  obtain ⟨h1, h2⟩ := historyOk_sound _ hk.1.2
  exact ⟨⟨⟨hk.1.1, h1⟩, List.all_eq_true.2 h2⟩, hk.2⟩

/-- The position of every entry of a list satisfying `p`. -/
def indicesWhere {α} (p : α → Bool) (l : List α) : List Nat :=
  (l.zipIdx.filter (fun x => p x.1)).map (·.2)

/-- Which real endpoints are outside the model: those without a description are exactly
`Generated.C16.realOutside`, and those whose request or response has a flattened body field
(`inModel = false`) are exactly `Generated.C16.realFlatten` — for all others `hmodel` holds. -/
theorem real_flatten_endpoints :
    Generated.C16.realReq.length = Generated.C16.realResp.length
    ∧ indicesWhere (fun d : Option ReqDesc => d.isNone) Generated.C16.realReq = Generated.C16.realOutside
    ∧ indicesWhere (fun d : Option RespDesc => d.isNone) Generated.C16.realResp = Generated.C16.realOutside
    ∧ indicesWhere (fun x : Option ReqDesc × Option RespDesc =>
          x.1.any (fun d => !d.inModel) || x.2.any (fun d => !d.inModel))
        (Generated.C16.realReq.zip Generated.C16.realResp) = Generated.C16.realFlatten := by
  refine ⟨by decide +kernel, by decide +kernel, by decide +kernel, by decide +kernel⟩

/-- Which real endpoints have the shape of finding G17 — an `Option` header field whose header the
generated code sets by itself: exactly the requests listed in `Generated.C16.realReqG17` and the
responses listed in `Generated.C16.realRespG17` (the call sites `findings/C16.json` names). -/
theorem real_g17_endpoints :
    indicesWhere (fun d : Option ReqDesc => d.any (fun d => !d.g17Fields.isEmpty)) Generated.C16.realReq
      = Generated.C16.realReqG17
    ∧ indicesWhere (fun d : Option RespDesc => d.any (fun d => !d.g17Fields.isEmpty)) Generated.C16.realResp
      = Generated.C16.realRespG17 := by
  constructor <;> decide +kernel

/-- …and for every description WITHOUT that shape (any codecs, any value made of wire forms of
values, any token) the exclusion `himp` of `request_roundtrip_partial` /
`response_roundtrip_partial` is met: finding G17 concerns the listed endpoints only. -/
theorem g17_free_himp (d : ReqDesc) (v : ReqVal) (sat : SendAccessToken) (p : RespDesc) (w : RespVal) :
    (d.g17Fields = [] → v.Canon d →
      ∀ f, (f, none) ∈ d.headerFields.zip v.header → f.header ∉ implicitHeaders d sat)
    ∧ (p.g17Fields = [] → w.Canon p →
      ∀ f, (f, none) ∈ p.headerFields.zip w.header → f.header ≠ contentType) := by
  constructor
  · intro hg hc f hf hmem
    have hopt := ((headerCanon_zip _ _ hc.header).2 f none hf).2 rfl
    have hin : f.header ∈ d.g17Fields := by
      unfold ReqDesc.g17Fields
      refine List.mem_map.2 ⟨f, List.mem_filter.2 ⟨(List.of_mem_zip hf).1, ?_⟩, rfl⟩
      unfold implicitHeaders at hmem
      rw [List.mem_append] at hmem
      rw [hopt, Bool.true_and]
      rcases hmem with h | h
      · by_cases hb : (d.hasRawBody || d.hasBodyFields) = true
        · rw [if_pos hb] at h
          simp only [List.mem_cons, List.mem_nil_iff, or_false] at h
          simp [h, hb]
        · rw [if_neg hb] at h
          cases h
      · have hss : d.auth ≠ .serverSignatures := by
          intro hs
          rw [hs] at h
          cases sat <;> simp [authorizationHeader] at h
        cases ha : authorizationHeader d.auth sat with
        | header x =>
          rw [ha] at h
          simp only [List.mem_cons, List.mem_nil_iff, or_false] at h
          simp [h, hss]
        | noHeader => rw [ha] at h; cases h
        | errNeedsAuth => rw [ha] at h; cases h
        | errHeaderValue => rw [ha] at h; cases h
    rw [hg] at hin
    cases hin
  · intro hg hc f hf hct
    have hopt := ((headerCanon_zip _ _ hc.header).2 f none hf).2 rfl
    have hin : f.header ∈ p.g17Fields := by
      unfold RespDesc.g17Fields
      refine List.mem_map.2 ⟨f, List.mem_filter.2 ⟨(List.of_mem_zip hf).1, ?_⟩, rfl⟩
      simp [hopt, hct]
    rw [hg] at hin
    cases hin

/-- None of these predicates looks at a codec: they are functions of the ERASED description (every
codec replaced by the one that rejects everything — what is left is what the macro sees). So a
description `d` of a real endpoint with the true codecs of its field types, whatever they are,
satisfies `macroAccepts`, `testsPass`, `inModel`, the header-name `Nodup` and has the G17 shape
exactly when the extracted description `g` with the identity codecs does (`d.erase = g.erase`:
same method, authentication, history, and field by field the same name, kind, header constant and
`Option`-ness). The same for response descriptions (`macroAccepts`, `supported`, `inModel`, the
G17 shape, header names, status). -/
theorem real_endpoint_codecs_irrelevant :
    (∀ d g : ReqDesc, d.erase = g.erase →
      d.macroAccepts = g.macroAccepts ∧ d.testsPass = g.testsPass ∧ d.inModel = g.inModel
      ∧ d.g17Fields = g.g17Fields
      ∧ d.headerFields.map (·.header) = g.headerFields.map (·.header) ∧ d.history = g.history)
    ∧ (∀ d g : RespDesc, d.erase = g.erase →
      d.macroAccepts = g.macroAccepts ∧ d.supported = g.supported ∧ d.inModel = g.inModel
      ∧ d.g17Fields = g.g17Fields
      ∧ d.headerFields.map (·.header) = g.headerFields.map (·.header) ∧ d.status = g.status) := by
  constructor
  · intro d g h
    obtain ⟨a1, a2, a3, a4, a5, a6⟩ := erase_invariant d
    obtain ⟨b1, b2, b3, b4, b5, b6⟩ := erase_invariant g
    rw [h] at a1 a2 a3 a4 a5 a6
    exact ⟨a1.trans b1.symm, a2.trans b2.symm, a3.trans b3.symm, a4.trans b4.symm, a5.trans b5.symm,
      a6.trans b6.symm⟩
  · intro d g h
    obtain ⟨a1, a2, a3, a4, a5, a6⟩ := resp_erase_invariant d
    obtain ⟨b1, b2, b3, b4, b5, b6⟩ := resp_erase_invariant g
    rw [h] at a1 a2 a3 a4 a5 a6
    exact ⟨a1.trans b1.symm, a2.trans b2.symm, a3.trans b3.symm, a4.trans b4.symm, a5.trans b5.symm,
      a6.trans b6.symm⟩

#print axioms generated_histories_valid
#print axioms selectPath_spec
#print axioms spec_select_is_the_rule
#print axioms selectPath_eq_spec_select
#print axioms selectPath_removed_version
#print axioms stable_decision_has_path
#print axioms selectPath_no_panic
#print axioms percent_roundtrip_iff
#print axioms path_args_roundtrip
#print axioms substPath_no_panic
#print axioms makeEndpointUrl_shape
#print axioms makeEndpointUrl_no_panic
#print axioms url_no_stray_delims
#print axioms authorization_header_table
#print axioms bearer_header
#print axioms xmatrix_roundtrip
#print axioms query_roundtrip_all_bytes
#print axioms form_codec_lawful
#print axioms request_roundtrip_partial
#print axioms glue_no_panic
#print axioms method_rule
#print axioms empty_body_is_empty_object
#print axioms g17_witness
#print axioms g19_witness
#print axioms request_statement_false
#print axioms query_field_types_partial
#print axioms g18_witness
#print axioms response_roundtrip_partial
#print axioms response_error_path
#print axioms response_statement_false

#print axioms generated_glue_descriptors_accepted
#print axioms canon_json_lawful
#print axioms real_endpoints_under_model
#print axioms real_flatten_endpoints
#print axioms real_g17_endpoints
#print axioms g17_free_himp
#print axioms real_endpoint_codecs_irrelevant

end Ruma.Props.C16
