/-
  C17 — Entry points for untrusted wire data never panic, abort or hang.

  What Lean decides here: for the entry points whose logic is ruma's own hand-written scanning code
  and is modelled in this project, the model is a total function whose panic outcomes (where the
  Rust has `assert!`/index/`expect`) are proven unreachable, and whose loops terminate by a proven
  measure. This file holds the theorems for the `Content-Disposition` parser with its RFC 8187
  decoder and for the ring-compat DER fix-up; the other modelled entry points have their no-panic
  theorems in their own property files (C10 identifiers, C11 URIs, C13 ruleset edits, C12 pattern
  matching, C02–C05 signing/hashing/redaction, C14 HTML tree walk). Stack exhaustion, allocator
  aborts and hangs inside dependencies cannot be exhibited by a model; they are explored by the
  mutation stream of the harness (T3) only.

  Part 2 ("More hand-written scanners") holds the theorems for: the `multipart/mixed` splitter of the
  federation media responses, `CallMemberStateKey::from_str`, the `language-` class scan of
  `CodeData::parse`, `TagName::display_name`, `remove_plain_reply_fallback`, the byte-level index
  arithmetic of `matches_word_impl`/`char_at`/`find_prev_char`, and an index-faithful model of the
  `Content-Disposition` parser that is proven equal to the suffix-passing one of part 1. In these
  models every index, slice, `unwrap`/`expect`, subtraction and loop of the Rust code is an explicit
  `panic` / `hang` (fuel exhausted) outcome; `Returns` = the outcome is a value or an error.
-/
import RumaModel.Lemmas.HttpHeaders
import RumaModel.Lemmas.RingCompat
import RumaModel.Props.C10
import RumaModel.Props.C11
import RumaModel.Props.C13
import RumaModel.Lemmas.EndpointNoPanic
import RumaModel.Lemmas.EventSign
import RumaModel.Props.C12
import RumaModel.Lemmas.ScanMultipart
import RumaModel.Lemmas.ScanCallMember
import RumaModel.Lemmas.ScanLang
import RumaModel.Lemmas.ScanTag
import RumaModel.Lemmas.ScanPlainReply
import RumaModel.Lemmas.ScanWordBytes
import RumaModel.Lemmas.ScanCdEquiv
namespace Ruma.Props.C17
open Ruma Ruma.HttpHeaders Ruma.RingCompat

/-- **The `Content-Disposition` parameter loop cannot hang**: every iteration of
`while pos != value.len() { RawParam::parse_next(value, &mut pos) … }` strictly shortens the
remaining input (it advances `pos` or sets it to `len`), for every byte string. This is the measure
by which `paramsLoop` is accepted as a total function. -/
theorem cd_param_loop_progress (s : List Nat) (h : s ≠ []) :
    (parseNext s).2.length < s.length := parseNext_lt s h

/-- The sub-scanners never run backwards. -/
theorem cd_scanners_monotone (s : List Nat) :
    (skipWs s).length ≤ s.length ∧ (parseParamValue s).2.length ≤ s.length ∧
    (∀ q esc, (scanValue q esc s).2.length ≤ s.length) :=
  ⟨skipWs_le s, parseParamValue_le s, fun q esc => scanValue_le q esc s⟩

/-- **Parsing a `Content-Disposition` value fails exactly** when it has no disposition type
(only whitespace) or the type is neither `inline`/`attachment` nor a non-empty RFC 7230 token;
no parameter, however malformed, makes it fail. (Phrased with the model's scanning helpers; the
statement without them is `cd_parse_error_iff_token` in part 2.) -/
theorem cd_parse_error_iff (s : List Nat) :
    (∃ e, parse s = .error e) ↔
      skipWs s = [] ∨
      (∃ e, parseType (spanP (fun b => !(isWs b || b = 59)) (skipWs s)).1 = .error e) := by
  rw [ScanCd.parse_error_iff_type]
  refine ⟨Or.inr, fun h => h.elim (fun h0 => ?_) id⟩
  rw [h0]
  exact ⟨_, ScanCd.parseType_nil⟩

/-- `slice::split` always yields at least one part, so the `charset` part of an RFC 8187 value
always exists (the first `ok_or(WrongPartsCount)` cannot fire) and the model's extra match arm is
dead. -/
theorem rfc8187_split_nonempty (s : List Nat) : splitQuote s ≠ [] := splitQuote_ne_nil s

/-- The model of `from_utf8_lossy` is not cut short by its fuel: more fuel than the input length
gives the same result, for every byte string. -/
theorem utf8Lossy_fuel_sufficient (s : List Nat) (k : Nat) :
    utf8LossyAux (s.length + k) s = utf8Lossy s :=
  utf8LossyAux_fuel _ _ s (Nat.le_add_right _ _) (Nat.le_refl _)

/-- Unescaping a quoted string never grows it. -/
theorem unescape_no_growth (s : List Nat) : (unescape s).length ≤ s.length :=
  unescapeAux_length_le false s

/-- **`Ed25519KeyPair::from_der` cannot panic in the ring-compat fix-up**, for every byte string:
when the document is taken for a ring document, none of `fix_ring_doc`'s assertions, the `expect`,
the `&suffix[4..]` slice, the `doc[1]` store or the `as u8 - 2` subtraction can fail. -/
theorem ring_compat_no_panic (bytes : List Nat) (hbytes : ∀ b ∈ bytes, b < 256) :
    fromBytes bytes ≠ .panic := by
  unfold fromBytes
  split
  · rename_i hr
    unfold isRing at hr
    split at hr
    · rename_i b0 b1 t
      simp only [Bool.and_eq_true, decide_eq_true_eq, List.length_cons] at hr
      obtain ⟨⟨h0, h1⟩, hf⟩ := hr
      obtain ⟨idx, hidx⟩ := Option.isSome_iff_exists.mp hf
      have h1' : b1 = t.length := by omega
      have hb1 : b1 < 256 := hbytes b1 (by simp)
      subst h1' h0
      obtain ⟨d, hd⟩ := fixRingDoc_ok t idx hb1 hidx
      rw [hd]
      simp
    · cases hr
  · simp

/-- A document that does not have ring's outer shape is passed through untouched to the PKCS#8
parser (which rejects it), e.g. the former panic witness `[0xA1, 0x23, 0x03, 0x21]`. -/
theorem ring_compat_passthrough (bytes : List Nat) (h : isRing bytes = false) :
    fromBytes bytes = .ok (.wellFormed bytes) := by
  simp [fromBytes, h]

example : fromBytes [0xA1, 0x23, 0x03, 0x21] = .ok (.wellFormed [0xA1, 0x23, 0x03, 0x21]) := by decide +kernel

/-- Non-vacuity: a real ring-shaped document goes through the fix-up path and comes out two bytes
shorter with the corrected length byte. -/
example : fromBytes [0x30, 8, 1, 2, 0xA1, 0x23, 0x03, 0x21, 7, 9]
    = .ok (.cleanedFromRing [0x30, 6, 1, 2, 0x81, 0x21, 7, 9]) := by decide +kernel

-- Executable sanity test of the parser model (a test, not a theorem): quoted filename with an
-- escaped quote, then an RFC 8187 `filename*` that takes precedence.
#guard (match parse (bs "attachment; filename=\"a\\\"b\"; filename*=utf-8''%e2%82%ac") with
  | .ok ⟨.attachment, some [0xe2, 0x82, 0xac]⟩ => true
  | _ => false)
#guard (match parse (bs "inline; filename=\"a\\\"b\"") with
  | .ok ⟨.inline, some [97, 34, 98]⟩ => true
  | _ => false)

/-! ## Entry points modelled under other properties

The models of C10, C11, C13, C16 and C03 have explicit panic outcomes at every index, slice, `unwrap`,
`expect`, `assert!` and `unreachable!` of the code they mirror; their unreachability theorems are
obligations of this property too (restated here so that they are re-checked with it). -/

/-- Identifier entry points (C10's model): no identifier validator panics on any string. -/
theorem identifiers_never_panic (x : Ids.Ext) (k : Spec.IdGrammar.Kind) (s : Str) (h : Ids.utf8Valid s = true) :
    Ids.validate x k s ≠ .panic ∧ Ids.userIdValidateStrict x s ≠ .panic :=
  ⟨C10.validate_never_panics x k s h, C10.validate_strict_never_panics x s h⟩

/-- Matrix URI entry points (C11's model): parsing any byte string never panics. -/
theorem matrix_uris_never_panic (U : MatrixUri.UrlParser) (V : MatrixUri.Validators) (s : Str) :
    MatrixUri.parseTo V s ≠ .panic ∧ MatrixUri.parseUri U V s ≠ .panic :=
  ⟨(C11.parse_never_panics U V s).1, (C11.parse_never_panics U V s).2.1⟩

/-- Push ruleset edits (C13's model): no operation sequence from either start state panics. -/
theorem ruleset_edits_never_panic (st : C13.Start) (ops : List Ruleset.Op) :
    Ruleset.Outcome.panic ∉ (Ruleset.run st.state ops).2 := C13.trace_no_panic st ops

/-- Endpoint URL construction (C16's model). -/
theorem endpoint_url_never_panics (h : Endpoint.VersionHistory) (vs : List Spec.Endpoint.Version) (base query : Str)
    (args : List Str) (hnew : Endpoint.newOk h = true)
    (hslash : ∀ p ∈ Endpoint.allPaths h, p.head? = some 47)
    (hlen : ∀ r, Endpoint.refPath h = some r → (Endpoint.pathArgNames r).length ≤ args.length) :
    Endpoint.makeEndpointUrl h vs base args query ≠ .panic :=
  Endpoint.makeEndpointUrl_no_panic' h vs base query args hnew hslash hlen

/-- Event hashing and signing (C03's model): the `unwrap()` of `hash_and_sign_event` is unreachable. -/
theorem hash_and_sign_never_panics (S : Sign.SigScheme) (sha256 : List Nat → List Nat) (entity : Str)
    (kp : Sign.KeyPair) (e : Obj) (rr : Redact.Rules) :
    (EventSign.hashAndSignEvent S sha256 entity kp e rr).1 ≠ .error .panic :=
  EventSign.hashAndSign_no_panic S sha256 entity kp e rr

/-! # Part 2 — more hand-written scanners -/

section Scanners
open Ruma.Scan

/-! ## Federation media: `multipart/mixed` body splitter -/

/-- **The `multipart/mixed` splitter of the federation media responses returns for every body**:
for every boundary without a CR (it went through `HeaderValue::to_str`, which only lets visible
ASCII, space and tab through), every body of any length and every behaviour of the external stages
(`serde_json` on the metadata, `httparse` and the header loop on the content headers), none of the
slices `bytes[a..b]` is out of range, the `unwrap` cannot fail and the empty-line loop ends within its
fuel `end − headers_start + 1`. -/
theorem multipart_split_returns (E : ScanMultipart.Ext) (boundary body : Str) (hcr : 13 ∉ boundary) :
    (ScanMultipart.split E boundary body).Returns :=
  ScanMultipart.split_returns E boundary body hcr

/-- `parse_multipart_body_part` itself returns whenever it is called with `start ≤ end ≤ len`
(and panics in its first slice otherwise: `ScanMultipart.parsePart_panics_of_gt`). -/
theorem multipart_part_returns (bytes : Str) (start end_ : Nat) (h1 : start ≤ end_) (h2 : end_ ≤ bytes.length) :
    (ScanMultipart.parsePart bytes start end_).Returns :=
  ScanMultipart.parsePart_returns bytes start end_ h1 h2

/-- The hypothesis on the boundary is needed: with a CR in the boundary the metadata part would be
sliced with `start > end` (not reachable through `HeaderValue::to_str`). -/
example : ScanMultipart.split ⟨fun _ => true, fun _ => .file⟩ [13, 10, 45, 45]
    [45, 45, 13, 10, 45, 45, 13, 10, 45, 45, 13, 10, 45, 45] = .panic := by decide +kernel

/-- Non-vacuity: a well-formed response is split into metadata and file. -/
example : ScanMultipart.split ⟨fun m => m == bs "{}", fun _ => .file⟩ (bs "abc")
    (bs "\r\n--abc\r\nContent-Type: application/json\r\n\r\n{}\r\n--abc\r\nContent-Type: text/plain\r\n\r\nsome text\r\n--abc--")
    = .ok (.file (bs "some text")) := by
  -- every literal becomes a map over its characters first (`bs_ofList`): the kernel would decode it anew per byte
  repeat rw [bs_ofList]
  decide +kernel

/-- The code before the fix (`memchr(b'\n', &bytes[start..end]).expect(..)`): the first scan of a part
without any newline panicked. Kept as the machine-checked witness of finding F17. -/
def parsePartBeforeFix (bytes : Str) (start end_ : Nat) : ScanMultipart.Res (Str × Str) :=
  match bytesSlice bytes start end_ with
  | none => .panic
  | some sl =>
    match findByte 10 sl with
    | none => .panic
    | some k =>
      ScanMultipart.lineLoop bytes end_ (k + start + 1) (end_ - (k + start + 1) + 1) (k + start + 1)

/-- F17 on the model: two adjacent boundaries (`\r\n--abc\r\n--abc…`) — the metadata part is
`bytes[7..7]`. -/
example : parsePartBeforeFix (bs "\r\n--abc\r\n--abc\r\n\r\nx\r\n--abc--") 7 7 = .panic := by
  repeat rw [bs_ofList]
  decide +kernel
example : ScanMultipart.parsePart (bs "\r\n--abc\r\n--abc\r\n\r\nx\r\n--abc--") 7 7 = .err .sep := by
  repeat rw [bs_ofList]
  decide +kernel

/-! ## `m.call.member` state keys -/

/-- **`CallMemberStateKey::from_str` returns for every string**: the three slices around the first
colon and the first underscore behind it are in range and on char boundaries, and `UserId::parse` on
the pieces does not panic (C10's model, for every behaviour of the IP-literal parsers). -/
theorem call_member_key_returns (x : Ids.Ext) (s : Str) (h : Ids.utf8Valid s = true) :
    (ScanCallMember.fromStr x s).Returns :=
  ScanCallMember.fromStr_returns x s (Ids.sep_of_utf8Valid s h)

/-- What it accepts formats back to the input (`Display` of the parsed enum is the raw string that
`CallMemberStateKey` stores beside it). -/
theorem call_member_key_display (x : Ids.Ext) (s : Str) (h : Ids.utf8Valid s = true)
    {k : ScanCallMember.Key} (hk : ScanCallMember.fromStr x s = .ok k) : k.display = s :=
  ScanCallMember.fromStr_display x s (Ids.sep_of_utf8Valid s h) hk

/-- Non-vacuity: the three accepted forms (with C10's reference parsers standing in for the external
IP-literal parsers). -/
example : ScanCallMember.fromStr ⟨fun _ => false, fun _ => false, fun _ => true⟩ (bs "_@a:h_DEV") =
    .ok (.underscoreUserDevice (bs "@a:h") (bs "DEV")) := by
  repeat rw [bs_ofList]
  decide +kernel
example : ScanCallMember.fromStr ⟨fun _ => false, fun _ => false, fun _ => true⟩ (bs "@a:h") =
    .ok (.user (bs "@a:h")) := by
  repeat rw [bs_ofList]
  decide +kernel
example : ScanCallMember.fromStr ⟨fun _ => false, fun _ => false, fun _ => true⟩ (bs "_@a:h") = .err := by
  repeat rw [bs_ofList]
  decide +kernel

/-! ## `<code class="language-…">` -/

/-- **The `language-` scan of `CodeData::parse` returns for every attribute value**: the byte before a
match exists, the slice behind the prefix and the sub-tendril `[language_start, language_end)` are in
range and on char boundaries, and `language_end − language_start` cannot underflow. -/
theorem code_language_scan_returns (v : Str) (h : Ids.utf8Valid v = true) :
    (ScanLang.scanClass v).Returns :=
  ScanLang.scanClass_returns v (Ids.sep_of_utf8Valid v h)

/-- **What the scan finds is a class of the attribute**: the returned language follows an occurrence
of `language-` that is at the start of the value or behind an ASCII whitespace, is not empty, contains
no ASCII whitespace and ends at the next ASCII whitespace or at the end of the value; and the whole
attribute is dropped from the remaining attributes exactly when that class is the whole value
(`ScanLang.IsLanguageClass`). -/
theorem code_language_scan_finds_class (v : Str) {lang : Str} {keep : Bool}
    (h : ScanLang.scanClass v = .ok ⟨some lang, keep⟩) : ScanLang.IsLanguageClass v lang keep :=
  ScanLang.scanClass_language v h

example : ScanLang.scanClass (bs "hljs language-rust x") = .ok ⟨some (bs "rust"), true⟩ := by
  repeat rw [bs_ofList]
  decide +kernel
example : ScanLang.scanClass (bs "language-rust") = .ok ⟨some (bs "rust"), false⟩ := by
  repeat rw [bs_ofList]
  decide +kernel
example : ScanLang.scanClass (bs "xlanguage-a language- b") = .ok ⟨none, true⟩ := by
  repeat rw [bs_ofList]
  decide +kernel

/-! ## `m.tag` tag names -/

/-- **`TagName::display_name` returns for every tag name**, and what it returns is a suffix of the
name. -/
theorem tag_display_name_returns (s : Str) (h : Ids.utf8Valid s = true) :
    (ScanTag.displayNameOf s).Returns ∧ ∀ r, ScanTag.displayNameOf s = .ok r → r <:+ s :=
  ⟨ScanTag.displayNameOf_returns s (Ids.sep_of_utf8Valid s h),
   fun _ hr => ScanTag.displayNameOf_suffix s hr⟩

example : ScanTag.displayNameOf (bs "org.example.work") = .ok (bs "work") := by
  repeat rw [bs_ofList]
  decide +kernel
example : ScanTag.displayNameOf (bs "u.") = .ok [] := by
  repeat rw [bs_ofList]
  decide +kernel

/-! ## Plain-text reply fallback -/

/-- **`remove_plain_reply_fallback` terminates on every string** (the `while s.starts_with("> ")` loop
ends within `len + 1` iterations) and returns a suffix of its argument. -/
theorem plain_reply_fallback_terminates (s : Str) :
    ∃ r, ScanPlainReply.removeFallback s = .ok r ∧ r <:+ s :=
  ScanPlainReply.removeFallback_ok s

example : ScanPlainReply.removeFallback (bs "> <@a:h> one\n> two\n\n\nreply") = .ok (bs "\nreply") := by
  repeat rw [bs_ofList]
  decide +kernel

/-! ## Push rules: word matching on `content.body`, at byte level -/

/-- **The literal branch of `matches_word_impl` returns for every text and pattern** (well-formed
UTF-8 of any length): `char_len`'s loop ends (it is only ever called on an index inside the text),
`char_at`'s slice is exactly one character so that `char::from_str` cannot fail, `find_prev_char`
cannot run below index 0, `find_prev_char(end).unwrap()` has a character, the three slices of "find
next word" are on char boundaries, and the recursion on the rest of the text ends within `len + 1`
calls. This is the byte-index side of what C12's code-point model takes for granted. -/
theorem word_match_bytes_returns (s p : Str) (hs : Ids.utf8Valid s = true) (hp : Ids.utf8Valid p = true) :
    ∃ r, ScanWordBytes.matchesWord s p = .ok r :=
  ScanWordBytes.matchesWord_ok s p hs hp

/-- `char_at` on a char boundary inside a well-formed text returns one character. -/
theorem char_at_returns (s : Str) (hs : Ids.utf8Valid s = true) (i : Nat)
    (hb : Ids.isBoundary s i = true) (hi : i < s.length) : ∃ cs, ScanWordBytes.charAt s i = .ok cs :=
  ScanWordBytes.charAt_ok hs hb hi

example : ScanWordBytes.charAt [97, 0xc3, 0xa9, 98] 1 = .ok [0xc3, 0xa9] := by decide +kernel

/-- `char_len(index)` with `index = len` does not terminate (the site the callers must and do avoid:
`word_boundary_end` tests `end == self.len()` first). -/
example : ScanWordBytes.charLen (bs "ab") 2 = .hang := by
  repeat rw [bs_ofList]
  decide +kernel

example : ScanWordBytes.matchesWord (bs "hi me, you") (bs "me") = .ok true := by
  repeat rw [bs_ofList]
  decide +kernel
example : ScanWordBytes.matchesWord (bs "home_me") (bs "me") = .ok false := by
  repeat rw [bs_ofList]
  decide +kernel
example : ScanWordBytes.matchesWord [0xc3, 0xa9, 109, 101] (bs "me") = .ok true := by
  repeat rw [bs_ofList]
  decide +kernel

/-! ## `Content-Disposition`, index-faithful -/

/-- **`ContentDisposition::try_from(&[u8])` returns for every byte string**, in the model that keeps
the Rust cursor `pos: &mut usize`: none of the four `bytes[*pos]` and three `&bytes[a..b]` can fail
(the cursor stays inside `[0, len]`), the four scanning loops end within `len − pos + 1` steps, and
the parameter loop makes progress on every iteration. -/
theorem cd_index_model_returns (bytes : Str) : (ScanCd.parseI bytes).Returns :=
  ScanCd.parseI_returns bytes

/-- **The index-faithful model and the suffix-passing model of part 1 are the same function**, so
every statement of part 1 about `HttpHeaders.parse` (e.g. `cd_parse_error_iff`) is a statement about
the code with its cursor arithmetic. -/
theorem cd_index_model_eq_suffix_model (bytes : Str) :
    ScanCd.parseI bytes = ScanCd.liftRes (HttpHeaders.parse bytes) :=
  ScanCd.parseI_eq_parse bytes

/-- What `parse_multipart_body_part` returns: `bytes[start..end]` is a rest of the boundary line
without newline, a newline, the headers, an empty line (`\r\n` or `\n`) and the content. -/
theorem multipart_part_shape (bytes : Str) (start end_ : Nat) (h1 : start ≤ end_) (h2 : end_ ≤ bytes.length)
    {h c : Str} (hr : ScanMultipart.parsePart bytes start end_ = .ok (h, c)) :
    ∃ pre nl, 10 ∉ pre ∧ (nl = [13, 10] ∨ nl = [10]) ∧
      bytesSlice bytes start end_ = some (pre ++ [10] ++ h ++ nl ++ c) :=
  ScanMultipart.parsePart_ok_shape bytes start end_ h1 h2 hr

/-- **When parsing a `Content-Disposition` value fails**, stated without any helper of the model: let
`t` be the value's type token — skip leading ASCII whitespace, then take the longest run of bytes that
are neither ASCII whitespace nor `;` (`ScanCd.typeToken`, two standard list functions). Parsing fails
iff `t` is neither `inline` nor `attachment` (ASCII case-insensitively) nor a non-empty RFC 7230
token; nothing behind the type token can make it fail. Holds for the index-faithful model as well
(`cd_index_model_eq_suffix_model`). -/
theorem cd_parse_error_iff_token (s : Str) :
    (∃ e, HttpHeaders.parse s = .error e) ↔
      ¬ (HttpHeaders.eqIgnoreCase (ScanCd.typeToken s) (bs "inline") = true ∨
         HttpHeaders.eqIgnoreCase (ScanCd.typeToken s) (bs "attachment") = true ∨
         (ScanCd.typeToken s ≠ [] ∧ ∀ b ∈ ScanCd.typeToken s, HttpHeaders.isTchar b = true)) :=
  ScanCd.parse_error_iff_token s

example : ScanCd.typeToken (bs "  form-data ; name=x") = bs "form-data" := by
  repeat rw [bs_ofList]
  decide +kernel

example : ScanMultipart.parsePart (bs "--B \r\nA: b\r\n\r\nfile") 3 18 = .ok (bs "A: b\r\n", bs "file") := by
  repeat rw [bs_ofList]
  decide +kernel

/-! ## Push rule evaluation (C12's code-point model) -/

/-- `Ruleset::get_match` never panics (C12's model: `char_at` beyond the end and
`find_prev_char(..).unwrap()` are its panic outcomes), given C12's assumptions about `regex` and
`wildmatch`. The byte-level counterpart for the literal word matcher is `word_match_bytes_returns`. -/
theorem push_rule_evaluation_never_panics (E : Push.Ext) (hE : Push.ExtOk E) (rs : Push.Ruleset)
    (ev : Push.PJ) (ctx : Push.Ctx) : ∃ r, Push.getMatch E rs ev ctx = .ok r :=
  ⟨_, C12.getMatch_first_enabled E hE rs ev ctx⟩

end Scanners

#print axioms cd_param_loop_progress
#print axioms cd_scanners_monotone
#print axioms cd_parse_error_iff
#print axioms rfc8187_split_nonempty
#print axioms utf8Lossy_fuel_sufficient
#print axioms unescape_no_growth
#print axioms ring_compat_no_panic
#print axioms ring_compat_passthrough
#print axioms identifiers_never_panic
#print axioms matrix_uris_never_panic
#print axioms ruleset_edits_never_panic
#print axioms endpoint_url_never_panics
#print axioms hash_and_sign_never_panics
#print axioms multipart_split_returns
#print axioms multipart_part_returns
#print axioms call_member_key_returns
#print axioms call_member_key_display
#print axioms code_language_scan_returns
#print axioms code_language_scan_finds_class
#print axioms tag_display_name_returns
#print axioms plain_reply_fallback_terminates
#print axioms word_match_bytes_returns
#print axioms char_at_returns
#print axioms cd_index_model_returns
#print axioms cd_index_model_eq_suffix_model
#print axioms multipart_part_shape
#print axioms cd_parse_error_iff_token
#print axioms push_rule_evaluation_never_panics
end Ruma.Props.C17
