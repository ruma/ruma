/-
  C18 — Typed event (de)serialization dispatches by type and is a stable fixpoint.
  Property theorems only (helper lemmas: `Lemmas/EventDispatch.lean`).

  What is proven here, for every input of the model: the type dispatch of the event enums
  (`dispatch`, generated `match` of `event_enum!`), redaction detection, the state/message-like
  split of the timeline enums, `Raw::get_field` against a full parse, `Raw`'s text. What is NOT
  here but in `Props/C18Schema.lean` (imported; its theorems are listed at the end of this file): the
  per-type field code that runs after the dispatch, as a schema-driven model of serde's derive
  (`Model/ContentSchema.lean`) — fixpoint, no duplicate keys, value preservation, key-order and
  unknown-field independence for every well-formed schema and every JSON value; tied to the content
  types whose (de)serialisation is derived by the `c18.schema` correspondence. At the end of THIS file:
  the schemas extracted from the running code (`Generated.C18.schemas`, closed Lean terms) are
  well-formed (`generated_schemas_wf`, by kernel evaluation of the total check `wfb`), and the
  fixpoint / idempotence / duplicate-key theorems instantiated at them. Content types with hand-written
  (de)serialisation stay under the T3 oracles only, see `props/C18.json`.

  Reading guide. `dispatch tbl e o`: the model of `serde_json::from_str::<e>` up to the choice of
  the variant, for the event object `o` (entry list in text order, duplicates possible).
  `Spec.EventTypes.table`: the dispatch table the Matrix specification's type list implies.
  `Generated.C18.observed`: what the running code selected on every cell of the probe universe,
  regenerated on every run.
-/
import RumaModel.Lemmas.EventDispatch
import RumaModel.Spec.EventTypes
import RumaModel.Generated.C18
import RumaModel.Props.C18Schema
namespace Ruma.Props.C18
open Ruma Ruma.EventDispatch Ruma.Spec.EventTypes

/-! ## T1 -/

/-- **T1.** On the whole probe universe (13 enums × every type string and alias of the specification,
`.*` instances, near misses, foreign and unknown types × with/without `state_key` × original and
redacted form) the running code selected exactly what the model with the specification's table
selects: same kind, same variant name (or custom), same `Redacted`/`Original`, same reported
`event_type()`. -/
theorem dispatch_table_eq_spec : Generated.C18.observed = expectedCells := by
  -- lay open where the type strings are turned into bytes, and read them as `asciiBytes` does
  delta expectedCells cellsOf probeTypes table rowOf
  rw [bs_eq_asciiBytes]
  decide +kernel

/-- The specification's tables are well-formed: no string is accepted by two arms, so the order of
the arms (the order of declarations in `enums.rs`) cannot matter. -/
theorem spec_table_wf (k : Kind) : Table.wf (table k) = true := by
  -- the kind's rows with their strings as character lists (`bs_ofList`), then evaluation
  cases k <;>
    simp -index only [table, types, messageLike, state, ephemeralRoom, globalAccountData, roomAccountData,
      toDevice, List.map, rowOf, bs_ofList] <;>
    decide +kernel

/-! ## Envelope: when dispatch succeeds -/

def count (o : Obj) (k : Str) : Nat := (o.filter (fun e => e.1 == k)).length

/-- What `UnsignedDeHelper` accepts for the value of `unsigned` (besides `null`): an object with at
most one `redacted_because`, or — serde's positional form of a one-field struct — a one-element
array. -/
def UnsignedOk : JVal → Prop
  | .null => True
  | .obj u => count u (bs "redacted_because") ≤ 1
  | .arr [_] => True
  | _ => False

/-- The dispatch-relevant part of the envelope is well-formed: exactly one `type`, a string; for
the timeline enums at most one `state_key`; for enums with a redacted form at most one `unsigned`
of an acceptable shape. Nothing is asked of the type string itself, of `content`, or of any other
key. -/
def EnvelopeWF (e : Enum) (o : Obj) : Prop :=
  (∃ s, o.filter (fun x => x.1 == bs "type") = [(bs "type", .str s)]) ∧
  (e.isTimeline = true → count o (bs "state_key") ≤ 1) ∧
  (e.maybeRedacted = true →
    count o (bs "unsigned") ≤ 1 ∧ ∀ u, (bs "unsigned", u) ∈ o → UnsignedOk u)

theorem field1_ok_iff (o : Obj) (k : Str) : (∃ v, field1 o k = .ok v) ↔ count o k ≤ 1 := by
  rw [field1_eq]; unfold count
  generalize o.filter (fun e => e.1 == k) = l
  match l with
  | [] => simp [pick1]
  | [_] => simp [pick1]
  | _ :: _ :: _ => simp [pick1]

theorem typeHelper_ok_iff (o : Obj) (s : Str) :
    typeHelper o = .ok s ↔ o.filter (fun x => x.1 == bs "type") = [(bs "type", .str s)] := by
  unfold typeHelper; rw [field1_eq]
  have hkey : ∀ e ∈ o.filter (fun x => x.1 == bs "type"), e.1 = bs "type" := by
    intro e he; simpa using (List.mem_filter.mp he).2
  generalize o.filter (fun x => x.1 == bs "type") = l at hkey
  match l with
  | [] => simp [pick1]
  | [(k, v)] =>
    have hk : k = bs "type" := hkey (k, v) (by simp)
    subst hk
    cases v <;> simp [pick1]
  | _ :: _ :: _ => simp [pick1]

/-- `unsigned` carries a `redacted_because` that is not `null`. -/
def RedactedBecausePresent : JVal → Prop
  | .obj u => ∃ v, (bs "redacted_because", v) ∈ u ∧ isNull v = false
  | .arr [x] => isNull x = false
  | _ => False

/-- What `UnsignedDeHelper` makes of the value of `unsigned`. -/
theorem unsigned_ok (u : JVal) (b : Bool) :
    (if isNull u then .ok false else unsignedHelper u) = .ok b ↔
      UnsignedOk u ∧ (b = true ↔ RedactedBecausePresent u) := by
  cases u with
  | obj kvs =>
    have hn : isNull (JVal.obj kvs) = false := rfl
    simp only [hn, Bool.false_eq_true, if_false, unsignedHelper, UnsignedOk, RedactedBecausePresent,
      ← field1_ok_iff]
    cases hf : field1 kvs (bs "redacted_because") with
    | error e => simp
    | ok rb =>
      rw [← optSome_field1 hf]
      simp only [Except.ok.injEq, exists_eq', true_and]
      cases b <;> cases optSome rb <;> simp
  | arr xs =>
    match xs with
    | [] => simp [isNull, unsignedHelper, UnsignedOk]
    | [x] => cases b <;> cases isNull x <;> simp [isNull, unsignedHelper, UnsignedOk, RedactedBecausePresent]
    | _ :: _ :: _ => simp [isNull, unsignedHelper, UnsignedOk]
  | null => cases b <;> simp [isNull, UnsignedOk, RedactedBecausePresent]
  | _ => simp [isNull, unsignedHelper, UnsignedOk]

/-- When `RedactionDeHelper` succeeds, and with what. -/
theorem redactionHelper_ok (o : Obj) (b : Bool) :
    redactionHelper o = .ok b ↔
      count o (bs "unsigned") ≤ 1 ∧ (∀ u, (bs "unsigned", u) ∈ o → UnsignedOk u) ∧
        (b = true ↔ ∃ u, (bs "unsigned", u) ∈ o ∧ RedactedBecausePresent u) := by
  unfold redactionHelper
  rw [← field1_ok_iff]
  cases hf : field1 o (bs "unsigned") with
  | error e => simp
  | ok v =>
    cases v with
    | none =>
      have := field1_none_not_mem hf
      have h1 : ∀ u, (bs "unsigned", u) ∈ o → UnsignedOk u := fun u hu => absurd hu (this u)
      have h2 : ¬ ∃ u, (bs "unsigned", u) ∈ o ∧ RedactedBecausePresent u := fun ⟨u, hu, _⟩ => this u hu
      simp only [Except.ok.injEq, exists_eq', true_and, h2, iff_false]
      exact ⟨fun hb => ⟨h1, by simp [← hb]⟩, fun h => by cases b <;> simp_all⟩
    | some u =>
      obtain ⟨hmem, huniq⟩ := field1_some_mem hf
      have h1 : (∀ u', (bs "unsigned", u') ∈ o → UnsignedOk u') ↔ UnsignedOk u :=
        ⟨fun h => h u hmem, fun h u' hu' => huniq u' hu' ▸ h⟩
      have h2 : (∃ u', (bs "unsigned", u') ∈ o ∧ RedactedBecausePresent u') ↔ RedactedBecausePresent u :=
        ⟨fun ⟨u', hu', hp⟩ => huniq u' hu' ▸ hp, fun hp => ⟨u, hmem, hp⟩⟩
      simp only [unsigned_ok, h1, h2, Except.ok.injEq, exists_eq', true_and]
theorem redactionHelper_ok_iff (o : Obj) :
    (∃ b, redactionHelper o = .ok b) ↔
      count o (bs "unsigned") ≤ 1 ∧ ∀ u, (bs "unsigned", u) ∈ o → UnsignedOk u := by
  constructor
  · rintro ⟨b, hb⟩
    exact ⟨((redactionHelper_ok o b).mp hb).1, ((redactionHelper_ok o b).mp hb).2.1⟩
  · rintro ⟨h1, h2⟩
    by_cases hp : ∃ u, (bs "unsigned", u) ∈ o ∧ RedactedBecausePresent u
    · exact ⟨true, (redactionHelper_ok o true).mpr ⟨h1, h2, by simp [hp]⟩⟩
    · exact ⟨false, (redactionHelper_ok o false).mpr ⟨h1, h2, by simp [hp]⟩⟩

theorem dispatchKind_ok_iff (tbl : Kind → Table) (k : Kind) (mr : Bool) (o : Obj) :
    (∃ sel, dispatchKind tbl k mr o = .ok sel) ↔
      (∃ s, typeHelper o = .ok s) ∧ (mr = true → ∃ b, redactionHelper o = .ok b) := by
  unfold dispatchKind
  cases typeHelper o with
  | error e => simp
  | ok t =>
    cases mr with
    | false => simp
    | true =>
      cases redactionHelper o with
      | error e => simp
      | ok b => simp

/-- **Dispatch is total on well-formed envelopes, and only there.** For every table (hence every
set of known types), every enum and every event object: the typed deserialiser gets past the
dispatch stage — for *any* type string, known or not — exactly when the envelope is well-formed. In
particular an unknown `type`, unknown extra fields, duplicated unknown fields and any entry order
never make it fail. -/
theorem dispatch_total (tbl : Kind → Table) (e : Enum) (o : Obj) :
    (∃ sel, dispatch tbl e o = .ok sel) ↔ EnvelopeWF e o := by
  have hty : (∃ s, typeHelper o = .ok s) ↔
      ∃ s, o.filter (fun x => x.1 == bs "type") = [(bs "type", .str s)] := by
    constructor
    · rintro ⟨s, h⟩; exact ⟨s, (typeHelper_ok_iff o s).mp h⟩
    · rintro ⟨s, h⟩; exact ⟨s, (typeHelper_ok_iff o s).mpr h⟩
  unfold dispatch EnvelopeWF Enum.isTimeline Enum.maybeRedacted
  cases hs : e.shape with
  | single k mr =>
    simp only [Bool.false_eq_true, false_implies, true_and]
    rw [dispatchKind_ok_iff, hty, redactionHelper_ok_iff]
  | timeline =>
    simp only [true_implies]
    unfold dispatchTimeline
    cases hf : field1 o (bs "state_key") with
    | error err =>
      have : ¬ count o (bs "state_key") ≤ 1 := by
        rw [← field1_ok_iff]; rintro ⟨v, hv⟩; rw [hf] at hv; cases hv
      simp [this]
    | ok sk =>
      have hc : count o (bs "state_key") ≤ 1 := (field1_ok_iff _ _).mp ⟨sk, hf⟩
      simp only [hc, true_and]
      cases optSome sk <;>
        simp only [Bool.false_eq_true, if_false, if_true] <;>
        rw [dispatchKind_ok_iff, hty, redactionHelper_ok_iff] <;> simp

/-! ## Which variant -/

/-- What the generated `Deserialize` of one kind returns when it succeeds. -/
theorem dispatchKind_ok {tbl : Kind → Table} {k : Kind} {mr : Bool} {o : Obj} {sel : Sel}
    (h : dispatchKind tbl k mr o = .ok sel) :
    ∃ t, typeHelper o = .ok t ∧ sel.kind = k ∧ (sel.variant, sel.ty) = contentDispatch tbl k t ∧
      if mr then redactionHelper o = .ok sel.redacted else sel.redacted = false := by
  unfold dispatchKind at h
  cases ht : typeHelper o with
  | error e => rw [ht] at h; cases h
  | ok t =>
    rw [ht] at h
    refine ⟨t, rfl, ?_⟩
    cases mr with
    | false =>
      simp only [Bool.false_eq_true, if_false] at h ⊢
      cases h; exact ⟨rfl, rfl, rfl⟩
    | true =>
      simp only [if_true] at h ⊢
      cases hr : redactionHelper o with
      | error e => rw [hr] at h; cases h
      | ok b => rw [hr] at h; cases h; exact ⟨rfl, rfl, rfl⟩

/-- A successful dispatch is that of one kind: the enum's, or for the timeline enums the one a non-null
`state_key` decides. -/
theorem dispatch_ok {tbl : Kind → Table} {e : Enum} {o : Obj} {sel : Sel} (h : dispatch tbl e o = .ok sel) :
    ∃ k, dispatchKind tbl k e.maybeRedacted o = .ok sel ∧
      (e.isTimeline = true → ∃ sk, field1 o (bs "state_key") = .ok sk ∧
        k = if optSome sk then .state else .messageLike) := by
  unfold dispatch at h
  unfold Enum.maybeRedacted Enum.isTimeline
  cases hs : e.shape with
  | single k mr => rw [hs] at h; exact ⟨k, h, nofun⟩
  | timeline =>
    simp only [hs, dispatchTimeline] at h
    cases hf : field1 o (bs "state_key") with
    | error err => simp only [hf] at h; cases h
    | ok sk =>
      simp only [hf] at h
      exact ⟨_, by cases ho : optSome sk <;> simpa [ho] using h, fun _ => ⟨sk, rfl, rfl⟩⟩

/-- What a successful dispatch returns, in terms of the generated `match` alone: the kind is the
enum's kind (or, for the timeline enums, decided by a non-null `state_key`), and variant and
reported type are those the `match` gives for the value of `type`. -/
theorem dispatch_sel (tbl : Kind → Table) (e : Enum) (o : Obj) (sel : Sel)
    (h : dispatch tbl e o = .ok sel) :
    ∃ t, typeHelper o = .ok t ∧ (sel.variant, sel.ty) = contentDispatch tbl sel.kind t := by
  obtain ⟨k, hk, _⟩ := dispatch_ok h
  obtain ⟨t, ht, rfl, hsel, _⟩ := dispatchKind_ok hk
  exact ⟨t, ht, hsel⟩

/-- In a well-formed table, the arm that accepts the event's type is the one selected. -/
theorem dispatch_row {tbl : Kind → Table} {e : Enum} {o : Obj} {sel : Sel} {r : Row} {t rt : Str}
    (h : dispatch tbl e o = .ok sel) (hwf : Table.wf (tbl sel.kind) = true) (hr : r ∈ tbl sel.kind)
    (ht : typeHelper o = .ok t) (hs : r.select t = some rt) :
    sel.variant = some r.variant ∧ sel.ty = rt := by
  obtain ⟨t', ht', hsel⟩ := dispatch_sel tbl e o sel h
  rw [ht] at ht'; cases ht'
  unfold contentDispatch at hsel
  rw [selectRow_of_wf hwf hr hs] at hsel
  exact Prod.mk.inj hsel

/-- **Known type → its variant.** In a well-formed table, an event whose `type` is the declared
type of an arm without fragment gets that arm's variant and reports that type — wherever the arm
stands in the table. -/
theorem dispatch_known (tbl : Kind → Table) (e : Enum) (o : Obj) (sel : Sel) (r : Row)
    (h : dispatch tbl e o = .ok sel) (hwf : Table.wf (tbl sel.kind) = true)
    (hr : r ∈ tbl sel.kind) (hfrag : r.hasFragment = false) (ht : typeHelper o = .ok r.ty) :
    sel.variant = some r.variant ∧ sel.ty = r.ty :=
  dispatch_row h hwf hr ht (by unfold Row.select; simp [hfrag, Row.patterns])

/-- **Alias → the same variant, reported under the stable type.** -/
theorem dispatch_alias (tbl : Kind → Table) (e : Enum) (o : Obj) (sel : Sel) (r : Row) (a : Str)
    (h : dispatch tbl e o = .ok sel) (hwf : Table.wf (tbl sel.kind) = true)
    (hr : r ∈ tbl sel.kind) (hfrag : r.hasFragment = false) (ha : a ∈ r.aliases)
    (ht : typeHelper o = .ok a) :
    sel.variant = some r.variant ∧ sel.ty = r.ty :=
  dispatch_row h hwf hr ht (by unfold Row.select; simp [hfrag, Row.patterns, ha])

/-- **Wildcard type keeps its suffix.** For an arm `prefix.*` (no aliases), every type
`prefix.` ++ suffix — any suffix, the empty one included — gets that arm's variant and
`event_type()` reports the full type, suffix included. -/
theorem dispatch_prefix (tbl : Kind → Table) (e : Enum) (o : Obj) (sel : Sel) (r : Row) (sfx : Str)
    (h : dispatch tbl e o = .ok sel) (hwf : Table.wf (tbl sel.kind) = true)
    (hr : r ∈ tbl sel.kind) (hfrag : r.hasFragment = true) (hal : r.aliases = [])
    (ht : typeHelper o = .ok (stripStar r.ty ++ sfx)) :
    sel.variant = some r.variant ∧ sel.ty = stripStar r.ty ++ sfx := by
  have hp : (stripStar r.ty).isPrefixOf (stripStar r.ty ++ sfx) = true :=
    List.isPrefixOf_iff_prefix.mpr (List.prefix_append _ _)
  refine dispatch_row h hwf hr ht ?_
  unfold Row.select
  simp only [hfrag, if_true, Row.patterns, hal, List.nil_append, List.find?_cons, hp,
    Option.map_some, List.drop_left]

/-- **Unknown type → custom, type kept.** If no arm of the kind's table accepts the type string,
the custom variant is selected and reports the type string unchanged. -/
theorem dispatch_unknown_custom (tbl : Kind → Table) (e : Enum) (o : Obj) (sel : Sel) (t : Str)
    (h : dispatch tbl e o = .ok sel) (ht : typeHelper o = .ok t)
    (hno : ∀ r ∈ tbl sel.kind, r.select t = none) :
    sel.variant = none ∧ sel.ty = t := by
  obtain ⟨t', ht', hsel⟩ := dispatch_sel tbl e o sel h
  rw [ht] at ht'; injection ht' with ht'; subst ht'
  unfold contentDispatch at hsel
  rw [selectRow_none.mpr hno] at hsel
  simp only [Prod.mk.injEq] at hsel
  exact hsel

/-! ### The specification's table against the declarative classification -/

/-- `P s t`: the spec type `s` is spelled by `t` (as in `classify`). -/
def spells (s : SpecType) (t : Str) : Bool :=
  let ty := bs s.ty
  if (bs ".*").isSuffixOf ty then (ty.dropLast).isPrefixOf t
  else ty == t || (s.aliases.map bs).contains t

theorem stripStar_of_suffix (ty : Str) (h : (bs ".*").isSuffixOf ty = true) : stripStar ty = ty.dropLast := by
  have hs : bs ".*" <:+ ty := List.isSuffixOf_iff_suffix.mp h
  obtain ⟨pre, rfl⟩ := hs
  have h42 : (bs ".*").getLast? = some 42 := by decide
  have : (pre ++ bs ".*").getLast? = some 42 := by
    rw [List.getLast?_append, h42]; rfl
  unfold stripStar; rw [if_pos this]

theorem select_rowOf (s : SpecType) (t : Str)
    (hal : (bs ".*").isSuffixOf (bs s.ty) = true → s.aliases = []) :
    (rowOf s).select t =
      if spells s t then some (if (bs ".*").isSuffixOf (bs s.ty) then t else bs s.ty) else none := by
  unfold Row.select spells rowOf Row.hasFragment Row.patterns
  simp only
  by_cases hf : (bs ".*").isSuffixOf (bs s.ty) = true
  · have hst := stripStar_of_suffix _ hf
    simp only [hf, if_true, hal hf, List.map_nil, List.nil_append, List.find?_cons, hst]
    by_cases hp : (bs s.ty).dropLast.isPrefixOf t = true
    · simp only [hp, Option.map_some, if_true]
      obtain ⟨r, rfl⟩ := List.isPrefixOf_iff_prefix.mp hp
      simp [hst]
    · simp [hp]
  · have hcontains : (List.map bs s.aliases ++ [bs s.ty]).contains t
        = (bs s.ty == t || (s.aliases.map bs).contains t) := by
      rw [Bool.eq_iff_iff]
      simp only [List.contains_eq_mem, List.mem_append, List.mem_singleton, decide_eq_true_eq,
        Bool.or_eq_true, beq_iff_eq]
      constructor
      · rintro (h | h)
        · exact Or.inr h
        · exact Or.inl h.symm
      · rintro (h | h)
        · exact Or.inr h.symm
        · exact Or.inl h
    simp only [hf, Bool.false_eq_true, if_false, hcontains]

theorem selectRow_map_rowOf (l : List SpecType) (t : Str)
    (hal : ∀ s ∈ l, (bs ".*").isSuffixOf (bs s.ty) = true → s.aliases = []) :
    selectRow (l.map rowOf) t =
      match l.filter (fun s => spells s t) with
      | s :: _ => some (rowOf s, if (bs ".*").isSuffixOf (bs s.ty) then t else bs s.ty)
      | [] => none := by
  induction l with
  | nil => rfl
  | cons s rest ih =>
    simp only [List.map_cons, selectRow, List.filter_cons]
    rw [select_rowOf s t (hal s List.mem_cons_self)]
    by_cases hp : spells s t = true
    · simp [hp]
    · simp only [hp, Bool.false_eq_true, if_false]
      exact ih (fun s' hs' => hal s' (List.mem_cons_of_mem _ hs'))

theorem spec_fragment_rows_have_no_aliases (k : Kind) :
    ∀ s ∈ types k, (bs ".*").isSuffixOf (bs s.ty) = true → s.aliases = [] := by
  -- read the other way round, only the types that have aliases need their strings looked at
  have h : ∀ s ∈ types k, s.aliases ≠ [] → (bs ".*").isSuffixOf (bs s.ty) = false := by
    rw [bs_eq_asciiBytes]
    cases k <;> decide +kernel
  intro s hs hf
  cases ha : s.aliases with
  | nil => rfl
  | cons a t => rw [h s hs (by rw [ha]; nofun)] at hf; cases hf

/-- **The table-driven dispatch is the specification's classification**, for every kind and every
type string whatsoever: a listed type, a declared alias or an instance of a `.*` type is `known`
with the variant named after the stable type (reported as the stable type, resp. with its suffix);
anything else is custom and keeps its string. -/
theorem dispatch_eq_classify (k : Kind) (t : Str) :
    contentDispatch table k t =
      match classify k t with
      | .known canon reported => (some (variantName canon), reported)
      | .custom => (none, t) := by
  unfold contentDispatch table classify
  rw [selectRow_map_rowOf _ _ (spec_fragment_rows_have_no_aliases k)]
  have : (fun s : SpecType => spells s t) = (fun s : SpecType =>
      let ty := bs s.ty
      if (bs ".*").isSuffixOf ty then (ty.dropLast).isPrefixOf t
      else ty == t || (s.aliases.map bs).contains t) := rfl
  rw [← this]
  cases (types k).filter (fun s => spells s t) with
  | nil => rfl
  | cons s _ =>
    simp only [rowOf]
    by_cases hf : (bs ".*").isSuffixOf (bs s.ty) = true <;> simp [hf]

/-! ## Key order -/

/-- **Dispatch ignores the order of the entries.** For every permutation of the event's top-level
entries — duplicates allowed, no distinctness assumption — the outcome (selection or failure) is
the same: it depends only on the value of `type`, on whether `state_key` is present (non-null) and
on `unsigned.redacted_because`. -/
theorem dispatch_ignores_key_order (tbl : Kind → Table) (e : Enum) (o o' : Obj) (h : o.Perm o') :
    dispatch tbl e o = dispatch tbl e o' := by
  unfold dispatch
  cases e.shape with
  | single k mr => exact dispatchKind_perm tbl k mr h
  | timeline => exact dispatchTimeline_perm tbl h

/-- … and the order of the entries inside `unsigned`. -/
theorem dispatch_ignores_unsigned_key_order (tbl : Kind → Table) (e : Enum) (pre post u u' : Obj)
    (h : u.Perm u') :
    dispatch tbl e (pre ++ (bs "unsigned", .obj u) :: post)
      = dispatch tbl e (pre ++ (bs "unsigned", .obj u') :: post) := by
  have hr := redactionHelper_mid pre post (.obj u) (.obj u') rfl (unsignedHelper_perm h)
  have hty : typeHelper (pre ++ (bs "unsigned", .obj u) :: post)
      = typeHelper (pre ++ (bs "unsigned", .obj u') :: post) := by
    unfold typeHelper; rw [field1_mid_ne _ _ _ _ _ (.obj u') (by decide)]
  have hsk : field1 (pre ++ (bs "unsigned", .obj u) :: post) (bs "state_key")
      = field1 (pre ++ (bs "unsigned", .obj u') :: post) (bs "state_key") :=
    field1_mid_ne _ _ _ _ _ _ (by decide)
  have hk : ∀ k mr, dispatchKind tbl k mr (pre ++ (bs "unsigned", .obj u) :: post)
      = dispatchKind tbl k mr (pre ++ (bs "unsigned", .obj u') :: post) := by
    intro k mr; unfold dispatchKind; rw [hty, hr]
  unfold dispatch
  cases e.shape with
  | single k mr => exact hk k mr
  | timeline => unfold dispatchTimeline; rw [hsk, hk, hk]

/-! ## Redaction detection, timeline split -/

theorem dispatch_redacted (tbl : Kind → Table) (e : Enum) (o : Obj) (sel : Sel)
    (h : dispatch tbl e o = .ok sel) :
    if e.maybeRedacted then redactionHelper o = .ok sel.redacted else sel.redacted = false := by
  obtain ⟨k, hk, _⟩ := dispatch_ok h
  exact (dispatchKind_ok hk).choose_spec.2.2.2

/-- **Redaction is detected exactly by `unsigned.redacted_because`.** For the enums that have a
redacted form, a successful dispatch chooses `Redacted` iff the event's `unsigned` carries a
non-null `redacted_because`; nothing else in the event (not `content`, not `redacts`, not
`unsigned.redacted_by`, not the type) takes part. Enums without a redacted form never choose it. -/
theorem redaction_detected_iff (tbl : Kind → Table) (e : Enum) (o : Obj) (sel : Sel)
    (h : dispatch tbl e o = .ok sel) :
    sel.redacted = true ↔
      e.maybeRedacted = true ∧ ∃ u, (bs "unsigned", u) ∈ o ∧ RedactedBecausePresent u := by
  have hd := dispatch_redacted tbl e o sel h
  cases hm : e.maybeRedacted with
  | false => rw [hm] at hd; simp at hd; simp [hd]
  | true =>
    rw [hm] at hd
    simpa using ((redactionHelper_ok o _).mp hd).2.2

/-- **Timeline split.** `AnyTimelineEvent` / `AnySyncTimelineEvent` choose the state enum iff the
event has a non-null `state_key`, the message-like enum otherwise. -/
theorem timeline_split (tbl : Kind → Table) (e : Enum) (o : Obj) (sel : Sel)
    (he : e.isTimeline = true) (h : dispatch tbl e o = .ok sel) :
    (sel.kind = .state ↔ ∃ v, (bs "state_key", v) ∈ o ∧ isNull v = false) ∧
    (sel.kind = .state ∨ sel.kind = .messageLike) := by
  obtain ⟨k, hk, hsk⟩ := dispatch_ok h
  obtain ⟨sk, hf, rfl⟩ := hsk he
  obtain ⟨_, _, hkind, _⟩ := dispatchKind_ok hk
  rw [hkind, ← optSome_field1 hf]
  cases optSome sk <;> simp

/-! ## `Raw<T>` -/

/-- **`Raw::get_field` agrees with a full parse**, for every entry list (duplicates, any order,
any nesting): parsing what `get_field` returns gives exactly what a full `serde_json::Value` parse
of the whole object has under that key — in particular both take the LAST of duplicate keys.
Stated on the entry list of the top-level object in text order: JSON text parsing (tokenising,
escapes, numbers) is serde_json's and a parameter here; the tie is `c18.getfield`. -/
theorem getField_eq_full_parse (o : Obj) (k : Str) :
    (getField o k).map fullParse = Obj.get (fullParseO [] o) k := by
  rw [fullParseO_get, getField_eq_from]
  have := getFieldFrom_map none o k fullParse
  simpa [Obj.get] using this.symm

/-- What `get_field` returns, without a fold: the value of the last entry with that key … -/
theorem getField_last (a b : Obj) (k : Str) (v : JVal) (h : ∀ e ∈ b, e.1 ≠ k) :
    getField (a ++ (k, v) :: b) k = some v := by
  rw [getField_eq_from, getFieldFrom_append]
  simp only [getFieldFrom, List.foldl_cons, beq_self_eq_true, if_true]
  exact getFieldFrom_no_key (some v) b k h

/-- … and `None` exactly when no entry has that key. -/
theorem getField_none_iff (o : Obj) (k : Str) : getField o k = none ↔ ∀ e ∈ o, e.1 ≠ k := by
  rw [getField_eq_from, getFieldFrom_eq_none]; simp

/-- **`Raw` holds the text verbatim — as modelled.** `rawText` IS the model of what serde_json's
`RawValue` keeps (the input without the JSON whitespace around the value); this theorem only spells
that definition out (whitespace trimmed at both ends, every byte in between untouched, an input
without surrounding whitespace comes back byte-for-byte). That the real `Raw` does this rests on the
T2 correspondence `c18.raw`, not on a proof. -/
theorem raw_text_verbatim (text : Str) :
    (∃ pre post, text = pre ++ rawText text ++ post ∧
        (∀ b ∈ pre, isWs b = true) ∧ (∀ b ∈ post, isWs b = true)) ∧
    ((∀ a, text.head? = some a → isWs a = false) → (∀ a, text.getLast? = some a → isWs a = false) →
        rawText text = text) := by
  constructor
  · obtain ⟨pre, h1, h2⟩ := dropWhile_suffix isWs text
    obtain ⟨post, h3, h4⟩ := dropWhile_suffix isWs (text.dropWhile isWs).reverse
    refine ⟨pre, post.reverse, ?_, h2, ?_⟩
    · unfold rawText
      have : text.dropWhile isWs = ((text.dropWhile isWs).reverse.dropWhile isWs).reverse ++ post.reverse := by
        have := congrArg List.reverse h3
        simpa using this
      rw [List.append_assoc, ← this, ← h1]
    · intro b hb; exact h4 b (List.mem_reverse.mp hb)
  · intro hh hl
    unfold rawText
    rw [dropWhile_id_of_head isWs text hh]
    rw [dropWhile_id_of_head isWs text.reverse (by
      intro a ha; rw [List.head?_reverse] at ha; exact hl a ha)]
    simp

/-! ## Non-vacuity -/

/-- The hypotheses of the dispatch theorems are satisfiable: a redacted `m.room.member` sync event
with unknown extra keys is dispatched to `RoomMember`, `Redacted`, in the state enum. -/
example :
    dispatch table .anySyncTimeline
      [(bs "zz.extra", .int 1), (bs "unsigned", .obj [(bs "age", .int 3),
          (bs "redacted_because", .obj [(bs "type", .str (bs "m.room.redaction"))])]),
       (bs "state_key", .str (bs "@a:b")), (bs "content", .obj [(bs "membership", .str (bs "join"))]),
       (bs "type", .str (bs "m.room.member")), (bs "zz.extra", .null)]
    = .ok ⟨.state, some (bs "RoomMember"), true, bs "m.room.member"⟩ := by
  unfold table rowOf; rw [bs_eq_asciiBytes]; decide +kernel

/-- The alias hypothesis is satisfiable on the specification's table. -/
example :
    dispatch table .anyMessageLike
      [(bs "type", .str (bs "org.matrix.call.sdp_stream_metadata_changed"))]
    = .ok ⟨.messageLike, some (bs "CallSdpStreamMetadataChanged"), false,
        bs "m.call.sdp_stream_metadata_changed"⟩ := by
  unfold table rowOf; rw [bs_eq_asciiBytes]; decide +kernel

/-- The wildcard hypothesis is satisfiable: `m.secret_storage.key.abc`. -/
example :
    dispatch table .anyGlobalAccountData [(bs "type", .str (bs "m.secret_storage.key.abc"))]
    = .ok ⟨.globalAccountData, some (bs "SecretStorageKey"), false, bs "m.secret_storage.key.abc"⟩ := by
  unfold table rowOf; rw [bs_eq_asciiBytes]; decide +kernel

/-- A duplicated `type` is rejected whatever the order; a `null` `state_key` is no state key; a
`null` `redacted_because` is no redaction. -/
example : dispatch table .anyTimeline
    [(bs "type", .str (bs "m.room.message")), (bs "type", .str (bs "m.room.message"))]
    = .error .duplicateField := by rw [bs_eq_asciiBytes]; decide +kernel
example : dispatch table .anyTimeline
    [(bs "type", .str (bs "m.room.name")), (bs "state_key", .null),
     (bs "unsigned", .obj [(bs "redacted_because", .null)])]
    = .ok ⟨.messageLike, none, false, bs "m.room.name"⟩ := by
  unfold table rowOf; rw [bs_eq_asciiBytes]; decide +kernel

/-- Last duplicate wins, in `get_field` and in the full parse alike. -/
example : getField [(bs "a", .int 1), (bs "b", .null), (bs "a", .int 2)] (bs "a") = some (.int 2) := by
  rfl

example : rawText (bs " \n{\"a\" : 1 }\t") = bs "{\"a\" : 1 }" := by
  rw [bs_eq_asciiBytes]; decide +kernel

/-! ## The schemas of the real content types -/

section Generated
open Ruma.ContentSchema Ruma.Generated.C18

/-- The total well-formedness check evaluates to `true` on every extracted description (kernel
evaluation; regenerated and re-checked on every run). -/
theorem generated_descs_wfb : descs.all (fun p => wfb p.2) = true := by decide +kernel

/-- **Every schema extracted from the running code is well-formed**: the side condition `WF` of the
fixpoint and duplicate-key theorems holds for each of the modelled content types' schemas, with the
per-field facts probed on this very tree. -/
theorem generated_schemas_wf : ∀ p ∈ schemas, WF p.2 := by
  intro p hp
  obtain ⟨q, hq, rfl⟩ := List.mem_map.mp hp
  exact wfb_sound q.2 (List.all_eq_true.mp generated_descs_wfb q hq)

/-- `roundtrip_fixpoint` at the real schemas: for every modelled content type and every JSON value,
what serialise-after-deserialise yields is read back and written again unchanged. -/
theorem generated_roundtrip_fixpoint : ∀ p ∈ schemas, ∀ j t : JVal,
    project p.2 j = some t → project p.2 t = some t :=
  fun p hp j t h => C18Schema.roundtrip_fixpoint p.2 (generated_schemas_wf p hp) j t h

/-- `ser_deser_idempotent` at the real schemas. -/
theorem generated_ser_deser_idempotent : ∀ p ∈ schemas, ∀ j : JVal,
    (project p.2 j).bind (project p.2) = project p.2 j :=
  fun p hp j => C18Schema.ser_deser_idempotent p.2 (generated_schemas_wf p hp) j

/-- `ser_no_duplicate_keys` at the real schemas. -/
theorem generated_ser_no_duplicate_keys : ∀ p ∈ schemas, ∀ j t : JVal,
    project p.2 j = some t → NoDupKeys t :=
  fun p hp j t h => C18Schema.ser_no_duplicate_keys p.2 (generated_schemas_wf p hp) j t h

/-- The list is not empty and has one entry per modelled content type, under distinct names. -/
example : schemas.length = schemaModelled ∧ 0 < schemaModelled := by decide +kernel
-- already the names' base-256 numerals are pairwise different
example : (descs.map (·.1)).Nodup :=
  List.Pairwise.of_map (S := (· ≠ ·)) (List.foldl (256 * · + ·) 0) (fun _ _ h e => h (e ▸ rfl)) (by decide +kernel)

end Generated

#print axioms dispatch_table_eq_spec
#print axioms spec_table_wf
#print axioms dispatch_total
#print axioms dispatch_sel
#print axioms dispatch_known
#print axioms dispatch_alias
#print axioms dispatch_prefix
#print axioms dispatch_unknown_custom
#print axioms dispatch_eq_classify
#print axioms dispatch_ignores_key_order
#print axioms dispatch_ignores_unsigned_key_order
#print axioms redaction_detected_iff
#print axioms timeline_split
#print axioms getField_eq_full_parse
#print axioms getField_last
#print axioms getField_none_iff
#print axioms raw_text_verbatim
#print axioms field1_ok_iff
#print axioms typeHelper_ok_iff
#print axioms redactionHelper_ok_iff
#print axioms dispatchKind_ok_iff
#print axioms stripStar_of_suffix
#print axioms select_rowOf
#print axioms selectRow_map_rowOf
#print axioms spec_fragment_rows_have_no_aliases
#print axioms dispatch_redacted
#print axioms Ruma.Props.C18Schema.roundtrip_fixpoint
#print axioms Ruma.Props.C18Schema.ser_deser_idempotent
#print axioms Ruma.Props.C18Schema.ser_no_duplicate_keys
#print axioms Ruma.Props.C18Schema.present_values_preserved_partial
#print axioms Ruma.Props.C18Schema.present_leaf_verbatim
#print axioms Ruma.Props.C18Schema.str_verbatim_of
#print axioms Ruma.Props.C18Schema.int_verbatim
#print axioms Ruma.Props.C18Schema.bool_verbatim
#print axioms Ruma.Props.C18Schema.leaves_verbatim
#print axioms Ruma.Props.C18Schema.leaves_well_formed
#print axioms Ruma.Props.C18Schema.wfb_decides_wf
#print axioms generated_descs_wfb
#print axioms generated_schemas_wf
#print axioms generated_roundtrip_fixpoint
#print axioms generated_ser_deser_idempotent
#print axioms generated_ser_no_duplicate_keys
#print axioms Ruma.Props.C18Schema.key_order_independent
#print axioms Ruma.Props.C18Schema.unknown_fields_never_fail
#print axioms Ruma.Props.C18Schema.unknown_fields_never_fail_catch_all
#print axioms Ruma.Props.C18Schema.catch_all_keeps_unknown
#print axioms Ruma.Props.C18Schema.Examples.presentValuesPreservedStatement_false
end Ruma.Props.C18
