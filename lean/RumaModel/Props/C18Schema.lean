/-
  C18, per-type part — the serde-derived content code, for every WELL-FORMED schema (`WF`) and EVERY
  JSON value. Property theorems only (helper lemmas: `Lemmas/ContentSchema*.lean`; model:
  `Model/ContentSchema.lean`, `Model/ContentSchemaLeaves.lean`; the predicates used in the statements:
  `Spec/ContentSchema.lean`).

  Reading guide. `project s j` is what `serde_json::to_string(&serde_json::from_str::<C>(j)?)` yields
  for a content type `C` described by schema `s` (`none`: rejected). A schema lists, per struct, the
  fields with the facts the harness extracts from the running code on every run (what is written
  when the field is absent, whether `null` / an ill-typed value is read as absent, which values the
  serialiser leaves out, which keys are serialise-only constants) — `h-c18 extract` writes them to
  `Generated/C18.lean` as Lean terms.

  `WF s` is a side condition ON THE MODEL's schema language, not part of the specification: field
  spellings are distinct, a written-back default is readable by the field, `skip_serializing_if` is
  only on fields that may be absent, scalar readers are idempotent and write `null` only for `null`,
  every case of a tagged choice writes its tag, a struct with a catch-all has no serialise-only
  constant. The fixpoint and duplicate-key theorems need it (non-`WF` schemas refute them: a
  required field with a skip predicate gives `{"a":"x"} ↦ {}` and then `{} ↦` rejected). It is
  DISCHARGED, by kernel evaluation of the total check `wfb` (`wfb_decides_wf`), for every schema
  extracted from the running code: `Props/C18.lean`, `generated_schemas_wf`. The key-order and
  unknown-field theorems hold for every schema, well-formed or not.
-/
import RumaModel.Lemmas.ContentSchemaThm2
import RumaModel.Lemmas.ContentSchemaWF
namespace Ruma.Props.C18Schema
open Ruma Ruma.Canonical Ruma.ContentSchema

/-! ## Fixpoint -/

/-- **Serialising the typed content and deserialising it again under the same type is a fixpoint.**
With the typed value identified with its normal form `t = project s j` (`deser := project`,
`ser := id` on normal forms, see the model's header): `deser s (ser s t) = some t` for every `t` in
the image of `deser s`. Every well-formed schema (`WF s`, a side condition on the model's schema,
discharged for the extracted schemas by `Props.C18.generated_schemas_wf`), every JSON value, any
nesting depth.
What this is and is not: it is idempotence of `project` on JSON — what was written is read back and
written again unchanged. The typed Rust value is not an object of the model, so information a type
might hold without writing it (a non-injective `Serialize`) is invisible to this theorem; on the
implementation that part is sampled by the T3 oracle of `c18.content`, which compares the `Debug`
rendering of the first and the re-read typed value. -/
theorem roundtrip_fixpoint (s : Schema) (hs : WF s) (j t : JVal) (h : project s j = some t) :
    project s t = some t :=
  (project_normal s hs j t h).idem

/-- Hence `ser ∘ deser` is idempotent on JSON: a second round trip changes nothing and fails never. -/
theorem ser_deser_idempotent (s : Schema) (hs : WF s) (j : JVal) :
    (project s j).bind (project s) = project s j := by
  cases h : project s j with
  | none => rfl
  | some t => exact (project_normal s hs j t h).idem

/-! ## Valid JSON without duplicate keys -/

/-- **Every object of the output, at every depth, has pairwise distinct keys** — whatever the input
was (duplicate keys in the input either fail the content or are resolved). For every well-formed
schema (`WF s`). -/
theorem ser_no_duplicate_keys (s : Schema) (hs : WF s) (j t : JVal) (h : project s j = some t) :
    NoDupKeys t :=
  (project_normal s hs j t h).noDup

/-! ## Values that were present -/

/-- Full-strength reading of "changes no value that was present", one struct level: a field the
struct knows, given once with a value `v` of the field's type, is in the output with the value
`nv` the field's type makes of `v`. FALSE as it stands, because a serialiser may leave a field out
when it holds its default (`skip_serializing_if`): see `present_values_preserved_partial` and the
witness below. -/
def PresentValuesPreservedStatement : Prop :=
  ∀ (fields : List Field) (keep : Bool) (o : Obj) (t : JVal) (f : Field) (v nv : JVal),
    Distinct fields → project (.obj fields keep) (.obj o) = some t → f ∈ fields → f.ghost = false →
    f.look o = .one v → (f.nullAbsent && isNull v) = false → project f.schema v = some nv →
    ∃ o', t = .obj o' ∧ (f.name, nv) ∈ o'

/-- **A known field that is present (once, not a `null` that the field reads as absence) with a value
of its type is either written with the value its type makes of it, or — exactly when the serialiser
skips that value — not written at all; it is never written with another value.** What "the value
its type makes of it" is: `present_leaf_verbatim` (scalars that are written back as read),
recursively this same theorem for structs, `roundtrip_fixpoint` in general (re-reading `nv` gives
`nv`). -/
theorem present_values_preserved_partial (fields : List Field) (keep : Bool) (o : Obj) (t : JVal)
    (f : Field) (v nv : JVal) (hd : Distinct fields)
    (h : project (.obj fields keep) (.obj o) = some t) (hf : f ∈ fields) (hg : f.ghost = false)
    (hl : f.look o = .one v) (hna : (f.nullAbsent && isNull v) = false)
    (hp : project f.schema v = some nv) :
    ∃ o', t = .obj o' ∧ (f.skip nv = false → (f.name, nv) ∈ o') ∧
      (f.skip nv = true → ∀ e ∈ o', e.1 ≠ f.name) := by
  obtain ⟨_, out, ho, rfl, hc⟩ := project_obj_some h
  cases ho
  have hout : outOf f (f.look o) = if f.skip nv = true then .nothing else .emit nv := by
    rw [hl, outOf_one hg, hna, hp]; rfl
  refine ⟨_, rfl, fun hs => ?_, fun hs e he hk => ?_⟩
  · apply List.mem_append_left
    rw [(collect_outs hc).1]
    exact List.mem_filterMap.mpr ⟨f, hf, by rw [written, hout, hs]; rfl⟩
  · rcases List.mem_append.mp he with he | he
    · -- among the written entries the field's spellings select what it wrote: nothing
      have hself := filter_out_self hd hc hf
      rw [written, hout, hs] at hself
      have : e ∈ out.filter (fun e => f.spelledBy e.1) :=
        List.mem_filter.mpr ⟨he, by rw [hk]; exact spelledBy_self f⟩
      rw [hself] at this; cases this
    · have h1 := (kept_unknown e he).1
      rw [hk, known_of_mem hf (spelledBy_self f)] at h1
      cases h1

/-- A scalar type that writes back what it read (`Verbatim`) leaves the value as it was. This only
spells out the definition of `Verbatim`; WHICH scalar types of the modelled content types are
`Verbatim` is `leaves_verbatim` below. -/
theorem present_leaf_verbatim (norm : JVal → Option JVal) (hv : Verbatim norm) (v nv : JVal)
    (h : project (.scalar norm) v = some nv) : nv = v :=
  hv v nv (project_scalar_some h).2.1

/-- **Every scalar type that occurs in a modelled content type** (`Leaf`: `String`, `Int`, `UInt`,
`bool`, `VoipVersionId`, the identifier types, string enums and constants) **except `Base64`
(re-encodes without padding), `f64` (an integer is written as a float) and the lenient power-level
reader (a decimal string is written as the number) writes back exactly the scalar it read.** -/
theorem leaves_verbatim (l : Leaf) (h1 : l ≠ .base64) (h2 : l ≠ .float) (h3 : l ≠ .intLax) (v nv : JVal)
    (h : project l.schema v = some nv) : nv = v := by
  obtain ⟨norm, hs, hv⟩ := leaf_verbatim l h1 h2 h3
  exact present_leaf_verbatim norm hv v nv (hs ▸ h)

/-- **Every scalar type that occurs meets the scalar clauses of `WF`**: what it writes back it reads
back unchanged, and it writes `null` only for `null` — `Base64` (decode, clear trailing bits, re-encode
unpadded) included, without a shape hypothesis; stated for the names the harness uses (`leafOf`). -/
theorem leaves_well_formed (n : String) (s : Schema) (h : leafOf n = some s) :
    WF s ∧ ∃ norm, s = .scalar norm ∧ (∀ a b, norm a = some b → norm b = some b) ∧
      (∀ a, norm a = some .null → a = .null) := by
  obtain ⟨l, _, rfl⟩ := Option.map_eq_some_iff.mp h
  have hw := leaf_wf l
  obtain ⟨norm, hn⟩ := leaf_scalar l
  rw [hn] at hw ⊢
  cases hw with
  | scalar h1 h2 => exact ⟨.scalar h1 h2, norm, rfl, h1, h2⟩

/-- **The total check `wfb` decides the side condition**: a description on which it evaluates to
`true` denotes a well-formed schema (all clauses of `WF`, `TagFixed` included). -/
theorem wfb_decides_wf (d : Desc) (h : wfb d = true) : WF d.toSchema :=
  wfb_sound d h

theorem str_verbatim_of (norm : Str → Option Str) (h : ∀ a b, norm a = some b → b = a) (v nv : JVal)
    (hp : project (Schema.str norm) v = some nv) : nv = v :=
  let ⟨n, hs, hv⟩ := verbatim_str h; present_leaf_verbatim n hv v nv (hs ▸ hp)

theorem int_verbatim (lo hi : Int) (v nv : JVal) (hp : project (Schema.int lo hi) v = some nv) : nv = v :=
  let ⟨n, hs, hv⟩ := verbatim_int lo hi; present_leaf_verbatim n hv v nv (hs ▸ hp)

theorem bool_verbatim (v nv : JVal) (hp : project Schema.bool v = some nv) : nv = v :=
  let ⟨n, hs, hv⟩ := verbatim_bool; present_leaf_verbatim n hv v nv (hs ▸ hp)

/-! ## Key order -/

/-- **The result does not depend on the input's key order**: reordering the entries of any objects
of the input, at any depth, changes neither acceptance nor the output — FOR INPUTS WHOSE REORDERED
OBJECTS HAVE DISTINCT KEYS (`Shuffled`, the relation of C01, carries `(Obj.keys kvs).Nodup` for every
object it reorders: with a duplicated key the order decides which duplicate is reported or kept).
No hypothesis on the schema. -/
theorem key_order_independent (s : Schema) (j j' : JVal) (h : Shuffled j j') :
    project s j = project s j' :=
  shuffled_project s j j' h

/-! ## Unknown extra fields -/

/-- **Unknown extra fields never cause failure and do not change the output**: if two inputs agree,
wherever the schema has a struct, on the entries whose keys spell a field of that struct (`Ext`;
at any depth, through arrays, maps, optional values and tagged choices), then both are accepted or
both rejected and the outputs are equal — however many other entries were added, removed, duplicated
or changed, and wherever they stand. (For a struct that KEEPS unknown keys the relation asks those
to be the same; adding some is `unknown_fields_never_fail_catch_all`.) No hypothesis on the schema. -/
theorem unknown_fields_never_fail (s : Schema) (j j' : JVal) (h : Ext s j j') :
    project s j = project s j' :=
  (ext_sameRead h).1

/-- A struct with a catch-all (`#[serde(flatten)]` map) accepts or rejects by its known entries alone:
adding unknown keys never turns success into failure. -/
theorem unknown_fields_never_fail_catch_all (fields : List Field) (keep : Bool) (o o' : Obj)
    (h : o.filter (fun e => known fields e.1) = o'.filter (fun e => known fields e.1)) :
    (project (.obj fields keep) (.obj o)).isSome = (project (.obj fields keep) (.obj o')).isSome := by
  have houts : outs fields o = outs fields o' := by
    apply List.map_congr_left
    intro f hf
    have : f.look o = f.look o' := by
      unfold Field.look look
      rw [← filter_known_spelled hf o, ← filter_known_spelled hf o', h]
    rw [this]
  rw [project_obj, project_obj, houts, Option.isSome_map, Option.isSome_map]

/-- **A struct with a catch-all keeps an unknown key as its `serde_json::Value`**: a key no field
claims, given once, is in the output with `serdeValue v` — the value given, with the entries of every
object inside it sorted by key and deduplicated (last wins), as `serde_json::Map` (a `BTreeMap`)
holds them; equal to `v` itself exactly when `v` is already in that form. -/
theorem catch_all_keeps_unknown (fields : List Field) (o : Obj) (t : JVal) (k : Str) (v : JVal)
    (h : project (.obj fields true) (.obj o) = some t) (hk : known fields k = false)
    (hone : o.filter (fun e => e.1 == k) = [(k, v)]) :
    ∃ o', t = .obj o' ∧ (k, serdeValue v) ∈ o' := by
  obtain ⟨_, out, ho, rfl, _⟩ := project_obj_some h
  cases ho
  refine ⟨_, rfl, List.mem_append_right _ ?_⟩
  -- the kept entries are a sorted object, in which `k` has the value of its last (here: only) occurrence
  show (k, serdeValue v) ∈ Obj.ofList _
  rw [← get_eq_some_iff _ (sorted_keys_nodup (ofList_sorted _)), get_ofList]
  apply getLast_of_unique
  rw [serdeValueO_eq_map, List.filter_map]
  have : (o.filter (fun e => !known fields e.1)).filter ((fun e : Str × JVal => e.1 == k) ∘ fun e => (e.1, serdeValue e.2))
      = [(k, v)] := by
    rw [List.filter_filter, ← hone]
    apply List.filter_congr
    intro e _
    by_cases he : e.1 = k
    · simp [he, hk]
    · simp [he]
  rw [this]; rfl

/-! ## Non-vacuity: realistic schemas -/

namespace Examples

def anyStr : Schema := Schema.str (fun s => some s)
def const (c : String) : Schema := Schema.str (fun s => if s = bs c then some s else none)
def js : Schema := Schema.int (-maxInt) maxInt
def noSkip : JVal → Bool := fun _ => false
/-- `Int` through `deserialize_v1_powerlevel`; strings are not needed for these examples. -/
def pl : Schema := Schema.intLax (-maxInt) maxInt (fun s => if s = bs "50" then some 50 else none)

def req (name : String) (s : Schema) : Field := .mk (bs name) [] s true none false false noSkip false
/-- `Option<T>` with `skip_serializing_if = "Option::is_none"`. -/
def opt (name : String) (s : Schema) : Field := .mk (bs name) [] s false none true false noSkip false
/-- `#[serde(default, skip_serializing_if = "is_default")]` with the given default. -/
def dfl (name : String) (s : Schema) (isDefault : JVal → Bool) : Field :=
  .mk (bs name) [] s false none false false isDefault false

def is50 : JVal → Bool
  | .int 50 => true
  | _ => false
def is0 : JVal → Bool
  | .int 0 => true
  | _ => false
def isEmptyObj : JVal → Bool
  | .obj [] => true
  | _ => false

/-- `m.room.message`, `msgtype: m.text` (`TextMessageEventContent` under its tag). -/
def text : Schema :=
  .obj [req "msgtype" (const "m.text"), req "body" anyStr, opt "format" anyStr, opt "formatted_body" anyStr] false

/-- `m.room.power_levels` (`RoomPowerLevelsEventContent`). -/
def powerLevels : Schema :=
  .obj [dfl "ban" pl is50, dfl "events" (.map (fun _ => true) pl) isEmptyObj, dfl "events_default" pl is0,
        dfl "invite" pl is0, dfl "kick" pl is50,
        dfl "notifications" (.obj [dfl "room" pl is50] false) isEmptyObj,
        dfl "redact" pl is50, dfl "state_default" pl is50,
        dfl "users" (.map (fun _ => true) pl) isEmptyObj, dfl "users_default" pl is0] false

/-- `m.room.member` (`RoomMemberEventContent`). -/
def member : Schema :=
  .obj [opt "avatar_url" anyStr, opt "displayname" anyStr, opt "is_direct" Schema.bool,
        req "membership" anyStr,
        opt "third_party_invite" (.obj [req "display_name" anyStr,
          req "signed" (.obj [req "mxid" anyStr, req "signatures" (.map (fun _ => true) (.map (fun _ => true) anyStr)),
                              req "token" anyStr] false)] false),
        opt "reason" anyStr, opt "join_authorised_via_users_server" anyStr] false

theorem wf_anyStr : WF anyStr := wf_str (fun _ _ _ => rfl)
theorem wf_const (c : String) : WF (const c) := wf_str (fun a b h => by
  by_cases hc : a = bs c
  · simp only [hc, if_true, Option.some.injEq] at h ⊢; subst h; simp
  · simp [hc] at h)
theorem wf_pl : WF pl := wf_intLax _ _ _

/-- The premises of `WF.obj` for a struct without catch-all, field by field (`fields_req`, `fields_opt`,
`fields_dfl` below follow the declaration of the struct). -/
def FieldsOk (fs : List Field) : Prop := ∀ f ∈ fs, WF f.schema ∧ f.Ok

theorem wf_struct {fs : List Field} (h : FieldsOk fs) (hd : Distinct fs) : WF (.obj fs false) :=
  .obj (fun f hf => (h f hf).1) (fun f hf => (h f hf).2) hd (fun h => by cases h)

theorem fields_nil : FieldsOk [] := fun _ h => nomatch h

/-- A field whose serialiser skips nothing and that writes nothing back when absent is in order. -/
theorem field_ok_plain {f : Field} (hs : ∀ v, f.skip v = false) (hd : f.dflt = none) : f.Ok :=
  ⟨fun _ v => hs v, fun d h => by rw [hd] at h; cases h⟩
theorem fields_req {n : String} {s : Schema} {fs : List Field} (hs : WF s) (h : FieldsOk fs) :
    FieldsOk (req n s :: fs) :=
  List.forall_mem_cons.2 ⟨⟨hs, field_ok_plain (fun _ => rfl) rfl⟩, h⟩
theorem fields_opt {n : String} {s : Schema} {fs : List Field} (hs : WF s) (h : FieldsOk fs) :
    FieldsOk (opt n s :: fs) :=
  List.forall_mem_cons.2 ⟨⟨hs, field_ok_plain (fun _ => rfl) rfl⟩, h⟩
theorem fields_dfl {n : String} {s : Schema} {d : JVal → Bool} {fs : List Field} (hs : WF s)
    (h : FieldsOk fs) : FieldsOk (dfl n s d :: fs) :=
  List.forall_mem_cons.2 ⟨⟨hs, fun h => by simp [dfl, Field.req, Field.dflt] at h,
    fun d h => by simp [dfl, Field.dflt] at h⟩, h⟩

theorem wf_text : WF text := by
  refine wf_struct (fields_req (wf_const _) <| fields_req wf_anyStr <| fields_opt wf_anyStr <|
    fields_opt wf_anyStr fields_nil) ?_
  simp -index only [req, opt, bs_ofList]; decide +kernel

theorem wf_powerLevels : WF powerLevels := by
  have hn : WF (.obj [dfl "room" pl is50] false) := wf_struct (fields_dfl wf_pl fields_nil) (by decide)
  refine wf_struct (fields_dfl wf_pl <| fields_dfl (.map wf_pl) <| fields_dfl wf_pl <| fields_dfl wf_pl <|
    fields_dfl wf_pl <| fields_dfl hn <| fields_dfl wf_pl <| fields_dfl wf_pl <| fields_dfl (.map wf_pl) <|
    fields_dfl wf_pl fields_nil) ?_
  simp -index only [dfl, bs_ofList]; decide +kernel

theorem wf_member : WF member := by
  have hsigned : WF (.obj [req "mxid" anyStr, req "signatures" (.map (fun _ => true) (.map (fun _ => true) anyStr)),
      req "token" anyStr] false) := by
    refine wf_struct (fields_req wf_anyStr <| fields_req (.map (.map wf_anyStr)) <|
      fields_req wf_anyStr fields_nil) ?_
    simp -index only [req, bs_ofList]; decide +kernel
  have htpi : WF (.obj [req "display_name" anyStr, req "signed" (.obj [req "mxid" anyStr,
      req "signatures" (.map (fun _ => true) (.map (fun _ => true) anyStr)), req "token" anyStr] false)] false) := by
    refine wf_struct (fields_req wf_anyStr <| fields_req hsigned fields_nil) ?_
    simp -index only [req, bs_ofList]; decide +kernel
  refine wf_struct (fields_opt wf_anyStr <| fields_opt wf_anyStr <| fields_opt wf_bool <|
    fields_req wf_anyStr <| fields_opt htpi <| fields_opt wf_anyStr <| fields_opt wf_anyStr fields_nil) ?_
  simp -index only [req, opt, bs_ofList]; decide +kernel

/-- A text message with an unknown key, keys out of declaration order: read, the unknown key dropped,
the fields written in declaration order; the output is its own fixpoint. -/
example : project text (.obj [(bs "zz.extra", .arr [.null]), (bs "body", .str (bs "hi")), (bs "msgtype", .str (bs "m.text"))])
    = some (.obj [(bs "msgtype", .str (bs "m.text")), (bs "body", .str (bs "hi"))]) := by
  simp -index only [text, req, opt, const, bs_ofList]; decide +kernel
example : project text (.obj [(bs "msgtype", .str (bs "m.text")), (bs "body", .str (bs "hi"))])
    = some (.obj [(bs "msgtype", .str (bs "m.text")), (bs "body", .str (bs "hi"))]) :=
  roundtrip_fixpoint text wf_text
    (.obj [(bs "zz.extra", .arr [.null]), (bs "body", .str (bs "hi")), (bs "msgtype", .str (bs "m.text"))]) _ (by
      simp -index only [text, req, opt, const, bs_ofList]; decide +kernel)
/-- A duplicated known key fails the content; a wrong `msgtype` fails it. -/
example : project text (.obj [(bs "body", .str (bs "a")), (bs "msgtype", .str (bs "m.text")), (bs "body", .str (bs "b"))]) = none := by
  simp -index only [text, req, opt, const, bs_ofList]; decide +kernel
example : project text (.obj [(bs "body", .str (bs "a")), (bs "msgtype", .str (bs "m.emote"))]) = none := by
  simp -index only [text, req, opt, const, bs_ofList]; decide +kernel

/-- Power levels: defaults are left out on output, non-defaults kept, the string `"50"` is read as 50,
the `users` map comes out in key order; a later duplicate inside the map wins. -/
example : project powerLevels (.obj [(bs "users", .obj [(bs "@b:x", .int 100), (bs "@a:x", .int 1), (bs "@b:x", .int 7)]),
      (bs "ban", .int 50), (bs "kick", .str (bs "50")), (bs "invite", .int 50), (bs "notifications", .obj [(bs "room", .int 50)])])
    = some (.obj [(bs "invite", .int 50), (bs "users", .obj [(bs "@a:x", .int 1), (bs "@b:x", .int 7)])]) := by
  simp -index only [powerLevels, dfl, pl, bs_ofList]; decide +kernel
example : NoDupKeys (.obj [(bs "invite", .int 50), (bs "users", .obj [(bs "@a:x", .int 1), (bs "@b:x", .int 7)])]) :=
  ser_no_duplicate_keys powerLevels wf_powerLevels
    (.obj [(bs "users", .obj [(bs "@b:x", .int 100), (bs "@a:x", .int 1), (bs "@b:x", .int 7)]), (bs "invite", .int 50)]) _ (by
      simp -index only [powerLevels, dfl, pl, bs_ofList]; decide +kernel)

/-- **Witness against `PresentValuesPreservedStatement`**: `{"ban": 50}` is a known field, present,
of the field's type — and the output is `{}` (the real `RoomPowerLevelsEventContent` does the same:
`skip_serializing_if = "is_default_power_level"`; replayed by `corpus/C18/schema-witnesses.req`). -/
example : project powerLevels (.obj [(bs "ban", .int 50)]) = some (.obj []) := by
  simp -index only [powerLevels, dfl, pl, bs_ofList]; decide +kernel

theorem presentValuesPreservedStatement_false : ¬ PresentValuesPreservedStatement := by
  intro h
  obtain ⟨o', h1, h2⟩ := h [dfl "ban" pl is50] false [(bs "ban", .int 50)] (.obj [])
    (dfl "ban" pl is50) (.int 50) (.int 50) (by decide) (by rfl) (List.mem_cons_self ..) rfl (by rfl) (by rfl) (by rfl)
  simp only [JVal.obj.injEq] at h1
  subst h1
  cases h2

/-- The leaf kinds that are not `Verbatim`: the lenient power-level reader writes the number. -/
example : project pl (.str (bs "50")) = some (.int 50) := by decide +kernel

/-- Member: `displayname: null` is read as absent (and left out), the nested struct keeps its fields,
unknown keys at both levels vanish. -/
example : project member (.obj [(bs "membership", .str (bs "invite")), (bs "displayname", .null), (bs "x", .int 1),
      (bs "third_party_invite", .obj [(bs "signed", .obj [(bs "token", .str (bs "t")), (bs "mxid", .str (bs "@a:b")),
          (bs "signatures", .obj [(bs "b", .obj [(bs "ed25519:1", .str (bs "sig"))])]), (bs "y", .null)]),
        (bs "display_name", .str (bs "A"))])])
    = some (.obj [(bs "membership", .str (bs "invite")),
      (bs "third_party_invite", .obj [(bs "display_name", .str (bs "A")),
        (bs "signed", .obj [(bs "mxid", .str (bs "@a:b")), (bs "signatures", .obj [(bs "b", .obj [(bs "ed25519:1", .str (bs "sig"))])]),
          (bs "token", .str (bs "t"))])])]) := by
  simp -index only [member, req, opt, bs_ofList]; decide +kernel

/-- A struct with a catch-all (`CustomEventContent`-like): the unknown key is kept, as a map. -/
example : project (.obj [req "body" anyStr] true)
      (.obj [(bs "x", .obj [(bs "b", .int 1), (bs "a", .null), (bs "b", .int 2)]), (bs "body", .str (bs "hi"))])
    = some (.obj [(bs "body", .str (bs "hi")), (bs "x", .obj [(bs "a", .null), (bs "b", .int 2)])]) := by decide +kernel

/-- Key order, two levels deep (the hypothesis of `key_order_independent` is satisfiable). -/
example : Shuffled
    (.obj [(bs "membership", .str (bs "join")), (bs "third_party_invite", .obj [(bs "a", .null), (bs "b", .null)])])
    (.obj [(bs "third_party_invite", .obj [(bs "b", .null), (bs "a", .null)]), (bs "membership", .str (bs "join"))]) := by
  refine .obj (mid := [(bs "membership", .str (bs "join")), (bs "third_party_invite", .obj [(bs "b", .null), (bs "a", .null)])])
    (.cons (.atom _) (.cons (.obj (mid := [(bs "a", .null), (bs "b", .null)])
      (.cons (.atom _) (.cons (.atom _) .nil)) (List.Perm.swap ..) (by decide +kernel)) .nil)) (List.Perm.swap ..)
    (by decide +kernel)

/-- Unknown fields, two levels deep (the hypothesis of `unknown_fields_never_fail` is satisfiable):
an unknown key at the top and one inside `third_party_invite.signed`. -/
example : Ext member
    (.obj [(bs "membership", .str (bs "join")), (bs "reason", .str (bs "r"))])
    (.obj [(bs "zz", .int 1), (bs "membership", .str (bs "join")), (bs "zz", .null), (bs "reason", .str (bs "r"))]) :=
  .obj (extO_of_eq (by simp -index only [req, opt, bs_ofList]; decide +kernel)) (fun h => by cases h)

/-- `wfb` is not vacuous: it accepts a realistic struct and rejects each kind of ill-formed one —
a required field with a skip predicate (the counterexample to the fixpoint), two fields with one
spelling, a default the field cannot read, a tagged case that does not write its tag, a
serialise-only constant next to a catch-all. -/
example : wfb (.obj [.mk (bs "a") [] (.leaf .str) true none false false [] false,
    .mk (bs "b") [bs "bb"] (.leaf .uint) false (some (.int 0)) false false [] false] false) = true := by decide +kernel
example : wfb (.obj [.mk (bs "a") [] (.leaf .str) true none false false [.str (bs "x")] false] false) = false := by decide +kernel
example : wfb (.obj [.mk (bs "a") [] (.leaf .str) true none false false [] false,
    .mk (bs "b") [bs "a"] (.leaf .str) true none false false [] false] false) = false := by decide +kernel
example : wfb (.obj [.mk (bs "b") [] (.leaf .uint) false (some (.int (-1))) false false [] false] false) = false := by decide +kernel
example : wfb (.tagged (bs "t") [.mk (bs "x") (.obj [.mk (bs "t") [] (.leaf (.const (bs "x"))) true none false false [] false] false)]) = true := by decide +kernel
example : wfb (.tagged (bs "t") [.mk (bs "x") (.obj [.mk (bs "t") [] (.leaf .str) true none false false [] false] false)]) = false := by decide +kernel
example : wfb (.obj [.mk (bs "rel_type") [] (.leaf .str) false (some (.str (bs "m.x"))) true true [] true] true) = false := by decide +kernel
/-- The model is tidier than serde on that last combination, which is why `WF` excludes it: the model
drops the input's `rel_type`, serde would also collect it into the flatten map and write the key twice. -/
example : project (Desc.toSchema (.obj [.mk (bs "rel_type") [] (.leaf .str) false (some (.str (bs "m.x"))) true true [] true] true))
    (.obj [(bs "rel_type", .str (bs "zzz")), (bs "u", .int 1)])
    = some (.obj [(bs "rel_type", .str (bs "m.x")), (bs "u", .int 1)]) := by decide +kernel
/-- `Base64`: padding and trailing bits are dropped, and the result is read back unchanged. -/
example : base64Norm (bs "YWJ=") = some (bs "YWI") := by decide +kernel
example : base64Norm (bs "YWI") = some (bs "YWI") := by decide +kernel

end Examples

#print axioms roundtrip_fixpoint
#print axioms ser_deser_idempotent
#print axioms ser_no_duplicate_keys
#print axioms present_values_preserved_partial
#print axioms present_leaf_verbatim
#print axioms key_order_independent
#print axioms unknown_fields_never_fail
#print axioms unknown_fields_never_fail_catch_all
#print axioms catch_all_keeps_unknown
#print axioms Examples.presentValuesPreservedStatement_false
#print axioms Examples.wf_powerLevels
#print axioms Examples.wf_member

end Ruma.Props.C18Schema
