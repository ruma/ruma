/-
  C19 — String-valued protocol enums are lossless and forward compatible.
  Property theorems only; helper lemmas live in `Lemmas/StringEnum.lean`.

  Reading guide. A `Table` is the list of known variants of one enum (spelling, declared aliases,
  wildcard flag). `fromStr tbl s` is the model of `From<&str>` (first matching arm, else the hidden
  custom variant), `asStr` of `as_str`/`Display`, `cmpVal` of the string-based `Ord`, `serialize` /
  `deserialize` of the serde impls (`Model/StringEnum.lean`). `Denotes`, `written`, `canon`,
  `Aliased`, `strLt` are the specification (`Spec/StringEnum.lean`, part 1); `all` lists the
  specified spellings of the 80 covered enums (part 2). `Generated.C19.tables` are the tables
  extracted from the running implementation on this run (T1). `WF tbl`: spellings pairwise distinct,
  aliases disjoint from spellings and from each other, wildcard prefixes not prefixes of fixed
  strings or of each other.
-/
import RumaModel.Lemmas.StringEnum
import RumaModel.Generated.C19
namespace Ruma.Props.C19
open Ruma Ruma.StringEnum Ruma.Spec.StringEnum

/-! ### The generic derive semantics, for every well-formed table -/

/-- The conversion never rejects and returns a value the specification says the string denotes:
a specified spelling or alias gives its dedicated variant, a wildcard prefix gives the wildcard
variant with the suffix, anything else is kept verbatim in the custom variant. (No hypothesis.) -/
theorem fromStr_denotes (tbl : Table) (s : Str) : Denotes tbl s (fromStr tbl s) := by
  simpa using denotes_append_fromStr tbl [] s (by simp)

/-- On a well-formed table the order of the match arms is irrelevant: the conversion is the unique
value the string denotes. -/
theorem fromStr_unique {tbl : Table} (h : WF tbl) {s : Str} {v : Val} (hv : Denotes tbl s v) :
    fromStr tbl s = v :=
  denotes_unique h (fromStr_denotes tbl s) hv

/-- `as_str` is the specification's written form. -/
theorem asStr_eq_written (v : Val) : asStr v = written v := by cases v <;> rfl

/-- What `canon` computes: an alias goes to the spelling of its variant, an alias prefix of a
wildcard type to the canonical prefix with the suffix kept, and a string that is not aliased is
left alone. (No hypothesis.) -/
theorem canon_spec (tbl : Table) (s : Str) :
    (∃ r ∈ tbl, r.wildcard = false ∧ s ∈ r.aliases ∧ canon tbl s = r.spelling) ∨
    (∃ r ∈ tbl, r.wildcard = true ∧ ∃ p ∈ r.aliases, ∃ suf, s = p ++ suf ∧
        canon tbl s = r.spelling ++ suf) ∨
    (¬ Aliased tbl s ∧ canon tbl s = s) := by
  induction tbl with
  | nil => exact Or.inr (Or.inr ⟨by simp [Aliased], rfl⟩)
  | cons r t ih =>
    by_cases hf : r.wildcard = false ∧ s ∈ r.aliases
    · exact Or.inl ⟨r, List.mem_cons_self, hf.1, hf.2, by
        rw [canon, if_neg (hf.1 ▸ Bool.false_ne_true), if_pos (List.contains_iff_mem.mpr hf.2)]⟩
    by_cases hw : r.wildcard = true ∧ ∃ p ∈ r.aliases, p <+: s
    · obtain ⟨hw, p, hp, hpre⟩ := hw
      cases hfd : r.aliases.find? (fun p => p.isPrefixOf s) with
      | none =>
        exact absurd (List.isPrefixOf_iff_prefix.mpr hpre) (List.find?_eq_none.mp hfd p hp)
      | some q =>
        have hq := List.find?_some hfd
        exact Or.inr (Or.inl ⟨r, List.mem_cons_self, hw, q, List.mem_of_find?_eq_some hfd,
          s.drop q.length, (List.prefix_iff_eq_append.mp (List.isPrefixOf_iff_prefix.mp hq)).symm,
          by rw [canon, if_pos hw, hfd]⟩)
    -- the head row does not alias `s`: it is skipped, and the claim for `t` carries over
    have hc : canon (r :: t) s = canon t s := by
      rw [canon]
      by_cases hwc : r.wildcard = true
      · rw [if_pos hwc, List.find?_eq_none.mpr fun p hp hpre =>
          hw ⟨hwc, p, hp, List.isPrefixOf_iff_prefix.mp hpre⟩]
      · rw [if_neg hwc, if_neg fun hcn => hf ⟨Bool.eq_false_iff.mpr hwc, List.contains_iff_mem.mp hcn⟩]
    rw [hc]
    rcases ih with ⟨r', hr', h⟩ | ⟨r', hr', h⟩ | ⟨hna, hcn⟩
    · exact Or.inl ⟨r', List.mem_cons_of_mem _ hr', h⟩
    · exact Or.inr (Or.inl ⟨r', List.mem_cons_of_mem _ hr', h⟩)
    · refine Or.inr (Or.inr ⟨?_, hcn⟩)
      rintro (⟨r', hm, h⟩ | ⟨r', hm, h⟩) <;> rcases List.mem_cons.mp hm with rfl | hm
      · exact hf h
      · exact hna (Or.inl ⟨r', hm, h⟩)
      · exact hw h
      · exact hna (Or.inr ⟨r', hm, h⟩)

/-- **Lossless.** String → enum → string returns the canonical form of the string: a declared
alias becomes the canonical spelling, every other string comes back unchanged. -/
theorem asStr_fromStr_eq_canon {tbl : Table} (h : WF tbl) (s : Str) :
    asStr (fromStr tbl s) = canon tbl s := by
  rcases canon_spec tbl s with ⟨r, hr, hf, hs, hc⟩ | ⟨r, hr, hw, p, hp, suf, e, hc⟩ | ⟨hna, hc⟩
  · rw [fromStr_unique h (Denotes.unit r hr hf (Or.inr hs)), hc]; rfl
  · rw [fromStr_unique h (Denotes.frag r p suf hr hw (Or.inr hp) e), hc]; rfl
  · rw [hc]
    have hd := fromStr_denotes tbl s
    generalize fromStr tbl s = v at hd
    cases hd with
    | unit r hr hf hs =>
      rcases hs with hs | hs
      · exact hs.symm
      · exact absurd (Or.inl ⟨r, hr, hf, hs⟩) hna
    | frag r p suf hr hw hp e =>
      rcases hp with hp | hp
      · rw [e, hp]; rfl
      · exact absurd (Or.inr ⟨r, hr, hw, p, hp, e ▸ List.prefix_append p suf⟩) hna
    | custom => rfl

/-- **Forward compatible.** A string that is not a declared alias — in particular every string the
specification does not know yet — survives the round trip exactly. -/
theorem roundtrip_identity {tbl : Table} (h : WF tbl) {s : Str} (hs : ¬ Aliased tbl s) :
    asStr (fromStr tbl s) = s := by
  rw [asStr_fromStr_eq_canon h]
  rcases canon_spec tbl s with ⟨r, hr, hf, hm, _⟩ | ⟨r, hr, hw, p, hp, suf, e, _⟩ | ⟨_, hc⟩
  · exact absurd (Or.inl ⟨r, hr, hf, hm⟩) hs
  · exact absurd (Or.inr ⟨r, hr, hw, p, hp, e ▸ List.prefix_append p suf⟩) hs
  · exact hc

/-- **Dedicated variants.** Each specified spelling, and each declared alias, converts to the
variant of its own row — never to the custom variant, never to another row's variant — and two
different rows' spellings give different values. -/
theorem fromStr_spelling_dedicated {tbl : Table} (h : WF tbl) {r : Row} (hr : r ∈ tbl)
    (hf : r.wildcard = false) :
    fromStr tbl r.spelling = .unit r ∧ (∀ a ∈ r.aliases, fromStr tbl a = .unit r) ∧
    (∀ r' ∈ tbl, r'.wildcard = false → fromStr tbl r'.spelling = fromStr tbl r.spelling → r' = r) := by
  refine ⟨fromStr_unique h (Denotes.unit r hr hf (Or.inl rfl)),
    fun a ha => fromStr_unique h (Denotes.unit r hr hf (Or.inr ha)), fun r' hr' hf' e => ?_⟩
  rw [fromStr_unique h (Denotes.unit r hr hf (Or.inl rfl)),
    fromStr_unique h (Denotes.unit r' hr' hf' (Or.inl rfl))] at e
  injection e

/-- **Idempotent.** Converting the string form of a converted value gives the same value. -/
theorem fromStr_idempotent {tbl : Table} (h : WF tbl) (s : Str) :
    fromStr tbl (asStr (fromStr tbl s)) = fromStr tbl s := by
  have hd := fromStr_denotes tbl s
  generalize fromStr tbl s = v at hd
  cases hd with
  | unit r hr hf => exact fromStr_unique h (Denotes.unit r hr hf (Or.inl rfl))
  | frag r p suf hr hw => exact fromStr_unique h (Denotes.frag r r.spelling suf hr hw (Or.inl rfl) rfl)
  | custom h1 h2 => exact fromStr_unique h (Denotes.custom h1 h2)

/-- **Equality agrees with the string form.** For converted values, structural equality (the std
`PartialEq` derive), string equality (`PartialEqAsRefStr`) and equality of the written strings are
the same relation. -/
theorem eq_iff_str_eq {tbl : Table} (h : WF tbl) (s t : Str) :
    (fromStr tbl s = fromStr tbl t ↔ asStr (fromStr tbl s) = asStr (fromStr tbl t)) ∧
    (eqAsRef (fromStr tbl s) (fromStr tbl t) = true ↔ fromStr tbl s = fromStr tbl t) := by
  have key : asStr (fromStr tbl s) = asStr (fromStr tbl t) → fromStr tbl s = fromStr tbl t := by
    intro e
    rw [← fromStr_idempotent h s, ← fromStr_idempotent h t, e]
  refine ⟨⟨fun e => by rw [e], key⟩, ?_⟩
  simp only [eqAsRef, beq_iff_eq]
  exact ⟨key, fun e => by rw [e]⟩

/-- **Ordering agrees with the string form** (the `PartialOrdAsRefStr`/`OrdAsRefStr` derives and the
event-type enums): `cmp` is `Less`/`Greater`/`Equal` exactly when the written strings are in byte
order / reverse order / equal; on converted values `Equal` coincides with equality of the values,
so `Ord` is consistent with `Eq`.
Reading note: the model's `cmpVal v w` is DEFINED as `cmpBytes (asStr v) (asStr w)` (the derive
expands to `self.as_ref().cmp(other.as_ref())`), so this theorem is a statement about `cmpBytes`
against the specification's `strLt`; that the real `Ord` impls order values like their strings is
carried by the T1 table `ord_agrees_with_strings` and the T2 comparison. -/
theorem ord_iff_str_ord (v w : Val) :
    (cmpVal v w = .lt ↔ strLt (asStr v) (asStr w)) ∧
    (cmpVal v w = .gt ↔ strLt (asStr w) (asStr v)) ∧
    (cmpVal v w = .eq ↔ asStr v = asStr w) ∧
    cmpVal w v = (cmpVal v w).swap :=
  ⟨(cmpBytes_spec _ _).1, cmpBytes_gt, (cmpBytes_spec _ _).2.1, (cmpBytes_spec _ _).2.2⟩

/-- `Ord` is consistent with `Eq` on converted values. -/
theorem ord_eq_iff_eq {tbl : Table} (h : WF tbl) (s t : Str) :
    cmpVal (fromStr tbl s) (fromStr tbl t) = .eq ↔ fromStr tbl s = fromStr tbl t := by
  rw [(ord_iff_str_ord _ _).2.2.1, (eq_iff_str_eq h s t).1]

/-- **Wildcard types keep their suffix**: `prefix ++ suffix` converts to the wildcard variant
carrying exactly `suffix` (also through an alias prefix), and is written back as the canonical
prefix followed by the same suffix — for every suffix, the empty one included. -/
theorem wildcard_keeps_suffix {tbl : Table} (h : WF tbl) {r : Row} (hr : r ∈ tbl)
    (hw : r.wildcard = true) (suf : Str) :
    fromStr tbl (r.spelling ++ suf) = .frag r suf ∧
    asStr (fromStr tbl (r.spelling ++ suf)) = r.spelling ++ suf ∧
    (∀ p ∈ r.aliases, fromStr tbl (p ++ suf) = .frag r suf) := by
  have h1 := fromStr_unique h (Denotes.frag r r.spelling suf hr hw (Or.inl rfl) rfl)
  exact ⟨h1, by rw [h1]; rfl,
    fun p hp => fromStr_unique h (Denotes.frag r p suf hr hw (Or.inr hp) rfl)⟩

/-- **JSON agrees with string conversion** (as modelled: serde_json's string escaping and parsing
are outside the model): serialization is the JSON string of `as_str`; deserializing a JSON string
is `From`; anything but a string is an error; deserialize ∘ serialize is the identity on converted
values and serialize ∘ deserialize returns the canonical form. -/
theorem serde_agrees {tbl : Table} (h : WF tbl) (s : Str) :
    serialize (fromStr tbl s) = .str (canon tbl s) ∧
    deserialize tbl (.str s) = some (fromStr tbl s) ∧
    deserialize tbl (serialize (fromStr tbl s)) = some (fromStr tbl s) ∧
    (∀ j, (∀ x, j ≠ .str x) → deserialize tbl j = none) := by
  refine ⟨by rw [serialize, asStr_fromStr_eq_canon h], rfl, ?_, ?_⟩
  · simp only [serialize, deserialize, fromStr_idempotent h]
  · intro j hj
    cases j with
    | str x => exact absurd rfl (hj x)
    | _ => rfl

/-- **The custom variant never collides with a known one**: it holds exactly the input string, and
that string is neither a spelling nor an alias of any fixed row nor does it start with a wildcard
prefix — so no custom value is written like a known variant. (No hypothesis.) -/
theorem custom_never_collides (tbl : Table) (s s' : Str) (hc : fromStr tbl s = .custom s') :
    s' = s ∧
    (∀ r ∈ tbl, r.wildcard = false → s' ≠ r.spelling ∧ s' ∉ r.aliases) ∧
    (∀ r ∈ tbl, r.wildcard = true → ¬ r.spelling <+: s' ∧ ∀ p ∈ r.aliases, ¬ p <+: s') := by
  have hd := fromStr_denotes tbl s
  rw [hc] at hd
  cases hd with
  | custom h1 h2 =>
    exact ⟨rfl, fun r hr hf => ⟨fun e => h1 r hr hf (Or.inl e), fun e => h1 r hr hf (Or.inr e)⟩,
      fun r hr hw => ⟨h2 r hr hw _ (Or.inl rfl), fun p hp => h2 r hr hw p (Or.inr hp)⟩⟩

/-! ### The real enums (T1) -/

/-- The spec lists are well-formed (aliases name listed variants, wildcard patterns end in `.*`,
no variant listed twice). -/
theorem spec_entries_ok : ∀ e ∈ all, entriesOk e.entries [] = true := by decide +kernel

/-- The specification's entry lists are, enum by enum and line by line, the tables extracted from the
running implementation written out as lines. By unfolding `linesOf`: what is then compared are
literals, and two equal string literals are equal on sight, whereas evaluating `decide (s = t)`
decodes both. -/
theorem spec_eq_lines :
    all = Generated.C19.tables.map (fun g => ⟨g.name, linesOf g.tbl⟩) := by rfl

/-- T1: the table of every covered enum, as extracted from the running implementation on this run
(every specified spelling, every declared alias, every near-miss through the real `From<&str>`),
is exactly the table the specification describes: each specified spelling lands in its dedicated
variant, each declared alias in the variant it belongs to, each wildcard prefix in its wildcard
variant, and nothing else (no near-miss, no other rename-rule result) lands in a known variant. -/
theorem tables_eq_spec :
    Generated.C19.tables.map (fun e => (e.name, e.tbl)) = all.map (fun e => (e.name, e.table)) := by
  rw [spec_eq_lines, List.map_map]
  -- enum by enum: the specified table is the lines of `g.tbl` read back, which is `g.tbl`
  refine List.map_congr_left fun g hg => ?_
  have hok := spec_entries_ok ⟨g.name, linesOf g.tbl⟩ (spec_eq_lines ▸ List.mem_map_of_mem hg)
  exact congrArg (Prod.mk g.name) (toTable_linesOf hok).symm

/-- Every specified spelling is in the implementation's table with its dedicated variant
(the containment half of `tables_eq_spec`, stated entry by entry). -/
theorem tbl_has_spec_spellings :
    ∀ e ∈ all, ∃ g ∈ Generated.C19.tables, g.name = e.name ∧ ∀ ent ∈ e.entries, EntryIn g.tbl ent := by
  intro e he
  rw [spec_eq_lines] at he
  obtain ⟨g, hg, rfl⟩ := List.mem_map.mp he
  exact ⟨g, hg, rfl, fun _ => entryIn_of_mem_linesOf⟩

/-- Every extracted table is well-formed, so all theorems above apply to every covered enum. -/
theorem tbl_wf : ∀ e ∈ Generated.C19.tables, WF e.tbl := by
  have h : ∀ e ∈ Generated.C19.tables, distinct ((fixedKeys e.tbl).map code) = true ∧
      (∀ p ∈ wildKeys e.tbl, ∀ k ∈ fixedKeys e.tbl, ¬ p <+: k) ∧
      (wildKeys e.tbl).Pairwise (fun p q => ¬ p <+: q ∧ ¬ q <+: p) := by decide +kernel
  exact fun e he => WF.of_codes (h e he)

/-- No covered enum orders its values differently from their string form: the harness compared
every pair of specified strings (and custom probes) both ways through the real `Ord`. -/
theorem ord_agrees_with_strings : ∀ e ∈ Generated.C19.tables, e.ord ≠ .structural := by
  decide +kernel

/-! ### Hypotheses are satisfiable; they are needed -/

/-- A non-trivial well-formed table: fixed rows, aliases and a wildcard row. -/
example : WF Generated.C19.tbl_GlobalAccountDataEventType ∧
    fromStr Generated.C19.tbl_GlobalAccountDataEventType (bs "m.image_pack") ≠ .custom (bs "m.image_pack") ∧
    asStr (fromStr Generated.C19.tbl_GlobalAccountDataEventType (bs "m.secret_storage.key.abc")) =
      bs "m.secret_storage.key.abc" := by
  repeat rw [bs_ofList]
  decide +kernel

/-- Without well-formedness the conversion need not be idempotent: an alias of one row that is the
spelling of a later row. -/
example : ∃ tbl s, fromStr tbl (asStr (fromStr tbl s)) ≠ fromStr tbl s :=
  ⟨[⟨"A", bs "x", [bs "y"], false⟩, ⟨"B", bs "y", [bs "w"], false⟩], bs "w", by decide⟩

#print axioms fromStr_denotes
#print axioms fromStr_unique
#print axioms asStr_eq_written
#print axioms canon_spec
#print axioms asStr_fromStr_eq_canon
#print axioms roundtrip_identity
#print axioms fromStr_spelling_dedicated
#print axioms fromStr_idempotent
#print axioms eq_iff_str_eq
#print axioms ord_iff_str_ord
#print axioms ord_eq_iff_eq
#print axioms wildcard_keeps_suffix
#print axioms serde_agrees
#print axioms custom_never_collides
#print axioms spec_entries_ok
#print axioms tables_eq_spec
#print axioms tbl_has_spec_spellings
#print axioms tbl_wf
#print axioms ord_agrees_with_strings

end Ruma.Props.C19
