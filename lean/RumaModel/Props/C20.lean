/-
  C20 — the power-level helper predicates of `RoomPowerLevels` (ruma-events) agree with the
  authorization rules (ruma-state-res `auth_check`, model `Ruma.Auth.authCheck` of C08).

  Every `_iff_auth` theorem is stated for ALL rule sets (the nine `AuthorizationRules` flags
  arbitrary — in particular every room version 1–11), all states `f`, all candidate events `ev`
  and therefore all power-level contents (every field absent or present, integer or — where the
  rules of the version read them — string levels, arbitrary `users` / `events` maps), under a
  Boolean domain predicate `dom… rules f ev` of `Model/PowerLevels.lean` that says, and only says:

    * `settingOk`: the state has a create event which `ev` cites, which admits the sender's
      server and names a creator; the sender is a joined member; there is a power-levels event whose
      content the helper can deserialize (`ofContent`) and the rules of that version can read in full
      (`authWF`: it passes the parsing stage of `check_room_power_levels`, i.e. it can itself have
      been authorized in that room);
    * `ev` is the event that corresponds to the helper: a ban of a user id; a `leave` of another
      user who is not banned (kick) / is banned (unban); a plain invite of a user who is neither
      joined nor banned; a message-like event; a state event whose state key is not another user's
      id; …

  `p` is the helper's `RoomPowerLevels` for the room (`roomLevels f = some p`), the helper's user is
  the event's sender, its target the event's state key. The driver evaluates the same predicates on
  every request, and the harness evaluates its own copy of them next to the real helper and the real
  `auth_check` (T3), so the hypotheses are exercised on every run.
-/
import RumaModel.Lemmas.PowerLevelsChange
import RumaModel.Lemmas.PowerLevelsPush
import RumaModel.Lemmas.PowerLevelsRedacted
import RumaModel.Spec.RedactionRules
import RumaModel.Generated.C20
namespace Ruma.Props.C20
open Ruma Ruma.Auth Ruma.Ident Ruma.PowerLevels

/-! ## Part 1 — levels: the helper holds what the rules read -/

/-- Every room version 3–11 (indeed 1–11) has a rule set, so each theorem below, stated for all rule
sets, holds in particular in every room version of the property's quantifier. -/
example : ∀ v ∈ [3, 4, 5, 6, 7, 8, 9, 10, 11], (AuthRules.ofVersion? v).isSome = true := by decide

/-- Outside the property (it speaks of a room *with* a power-levels event): without one the rules
give the room's creator level 100, whereas the helper built from the default content gives every
user level 0. -/
example (rules : AuthRules) (creator : Str) :
    plUserLevel rules none creator creator = .ok 100 ∧
    (ofContent []).map (fun p => p.forUser creator) = some 0 := by
  constructor
  · simp [plUserLevel, defaultCreatorPowerLevel]
  · rfl


/-- **The helper can read whatever the rules can.** A power-levels content that the rules of some
version read in full (`authWF`) is deserialized by the helper — so in the setting of the theorems
below the requirement "the helper can deserialize the content" costs nothing beyond `authWF`. (The
converse is false: the helper also accepts string levels in room version 10+ and the sequence form of
`notifications`; such contents cannot have been authorized in the room.) -/
theorem helper_reads_what_rules_read (rules : AuthRules) (c : Obj) (hwf : authWF rules c = true) :
    (ofContent c).isSome = true :=
  ofContent_isSome_of_authWF hwf

/-- **Effective level.** For every rule set and every power-levels event whose content the rules of
that version can read and the helper can deserialize: `for_user(u)` is the power level the
authorization rules compute for `u` (`user_power_level`; with a power-levels event present the
creator plays no role), for every user id `u`. -/
theorem forUser_eq_auth_power (rules : AuthRules) (pl : Event) (p : Levels)
    (hwf : authWF rules pl.content = true) (hp : ofContent pl.content = some p) (u creator : Str) :
    plUserLevel rules (some pl) u creator = .ok (p.forUser u) :=
  (agree_of_wf hwf hp).user u creator

/-- **Required levels.** Under the same hypotheses `for_action` returns, for every action, the level
the authorization rules require: ban, kick and invite levels; `events[type]` with fallback
`events_default` (message-like) / `state_default` (state); unban = max(ban, kick) (a `leave` of a
banned user must pass both tests); redacting another user's event = max(redact, level of
`m.room.redaction`). -/
theorem requiredLevels_eq_auth (rules : AuthRules) (pl : Event) (p : Levels)
    (hwf : authWF rules pl.content = true) (hp : ofContent pl.content = some p) :
    plIntOrDefault rules (some pl) .ban = .ok (p.forAction .ban) ∧
    plIntOrDefault rules (some pl) .kick = .ok (p.forAction .kick) ∧
    plIntOrDefault rules (some pl) .invite = .ok (p.forAction .invite) ∧
    (∀ t, plEventLevel rules (some pl) t false = .ok (p.forAction (.sendMessage t))) ∧
    (∀ t, plEventLevel rules (some pl) t true = .ok (p.forAction (.sendState t))) ∧
    plEventLevel rules (some pl) tRedaction false = .ok (p.forAction .redactOwn) ∧
    (∃ b k, plIntOrDefault rules (some pl) .ban = .ok b ∧ plIntOrDefault rules (some pl) .kick = .ok k ∧
      p.forAction .unban = max b k) ∧
    (∃ r e, plIntOrDefault rules (some pl) .redact = .ok r ∧
      plEventLevel rules (some pl) tRedaction false = .ok e ∧ p.forAction .redactOther = max r e) := by
  have ha := agree_of_wf hwf hp
  exact ⟨ha.ban, ha.kick, ha.invite, ha.message, ha.state, ha.message _,
    ⟨_, _, ha.ban, ha.kick, rfl⟩, ⟨_, _, ha.redact, ha.message _, rfl⟩⟩

theorem decide_ge_max (x a b : Int) : decide (x ≥ max a b) = (decide (x ≥ a) && decide (x ≥ b)) := by
  rw [← Bool.decide_and]
  exact decide_eq_decide.mpr Int.max_le

/-- **`user_can_do` is "level ≥ required level".** For all levels, users and actions. -/
theorem userCanDo_iff_level (p : Levels) (u : Str) (a : Action) :
    p.userCanDo u a = decide (p.forUser u ≥ p.forAction a) := by
  cases a with
  | unban => exact (decide_ge_max ..).symm
  | redactOther => exact (Bool.and_comm ..).trans (decide_ge_max ..).symm
  | _ => rfl

/-- The defaults of the two models, keyed like the generated tables. -/
def modelHelperDefaults : List (Str × Int) := PLField.all.map fun fld => (fld.key, helperDefault fld)
def modelAuthDefaults : List (Str × Int) := PLField.all.map fun fld => (fld.key, fld.default)
def keyed (t : List (String × Int)) : List (Str × Int) := t.map fun kv => (bs kv.1, kv.2)

/-- **T1 — defaults agree.** The helper's defaults (`RoomPowerLevelsEventContent::default()` through
`From`, and the content `{}` through serde; extracted from the running code on every run) are the
defaults of the authorization rules (`RoomPowerLevelsIntField::default_value`, extracted likewise);
both are the defaults the two Lean models use; and the model's `ofContent {}` is the extracted
value field by field. -/
theorem defaults_agree :
    Generated.C20.helperDefaults = Generated.C20.authDefaults ∧
    Generated.C20.serdeDefaults = Generated.C20.authDefaults ∧
    keyed Generated.C20.authDefaults = modelAuthDefaults ∧
    keyed Generated.C20.helperDefaults = modelHelperDefaults ∧
    Generated.C20.helperRest = Generated.C20.serdeRest ∧
    (∃ p, ofContent [] = some p ∧
      keyed Generated.C20.serdeDefaults =
        [(bs "users_default", p.usersDefault), (bs "events_default", p.eventsDefault),
         (bs "state_default", p.stateDefault), (bs "ban", p.ban), (bs "redact", p.redact),
         (bs "kick", p.kick), (bs "invite", p.invite)] ∧
      Generated.C20.serdeRest =
        [("notifications.room", p.notificationsRoom), ("events.len", p.events.length),
         ("users.len", p.users.length)]) :=
  -- each equation holds by unfolding alone: the two sides are the same list, no key `bs "…"` is evaluated
  ⟨rfl, rfl, rfl, rfl, rfl, ⟨50, [], 0, 0, 50, 50, 50, [], 0, 50⟩, rfl, rfl, rfl⟩

/-! ## Part 2 — membership actions -/

/-- **Ban.** `user_can_ban_user(sender, target)` = `auth_check` accepts the sender's ban of `target`
(whatever the target's current membership; also when target = sender: both say no). -/
theorem userCanBanUser_iff_auth (rules : AuthRules) (f : Fetch) (ev : Event) (p : Levels) (target : Str)
    (hdom : domBan rules f ev = true) (hp : roomLevels f = some p)
    (ht : memberTarget ev mBan = some target) :
    p.userCanBanUser ev.sender target = authCheck rules ev f := by
  simp only [domBan, Bool.and_eq_true] at hdom
  exact (authCheck_ban hdom.1 hp ht).symm

/-- **Kick.** `user_can_kick_user(sender, target)` = `auth_check` accepts the sender's `leave` event
for another user `target` who is not banned (joined, invited, knocking, left, or without a member
event). -/
theorem userCanKickUser_iff_auth (rules : AuthRules) (f : Fetch) (ev : Event) (p : Levels) (target : Str)
    (hdom : domKick rules f ev = true) (hp : roomLevels f = some p)
    (ht : memberTarget ev mLeave = some target) :
    p.userCanKickUser ev.sender target = authCheck rules ev f := by
  simp only [domKick, ht, Bool.and_eq_true] at hdom
  obtain ⟨hs, hne, hm⟩ := hdom
  cases htm : membershipOf f target with
  | none => rw [htm] at hm; cases hm
  | some tm =>
    rw [htm] at hm
    rw [authCheck_leave hs hp ht (bne_iff_ne.mp hne) htm, beq_eq_false_iff_ne.mpr (bne_iff_ne.mp hm)]
    rfl

/-- **Unban.** `user_can_unban_user(sender, target)` = `auth_check` accepts the sender's `leave`
event for another user `target` who is banned. -/
theorem userCanUnbanUser_iff_auth (rules : AuthRules) (f : Fetch) (ev : Event) (p : Levels) (target : Str)
    (hdom : domUnban rules f ev = true) (hp : roomLevels f = some p)
    (ht : memberTarget ev mLeave = some target) :
    p.userCanUnbanUser ev.sender target = authCheck rules ev f := by
  simp only [domUnban, ht, Bool.and_eq_true, bne_iff_ne, ne_eq, beq_iff_eq] at hdom
  obtain ⟨hs, hne, hm⟩ := hdom
  rw [authCheck_leave hs hp ht hne hm]
  simp only [Levels.userCanUnbanUser, beq_self_eq_true, Bool.true_and, ← decide_not, Int.not_lt, Bool.and_assoc]

/-- **Invite.** `user_can_invite(sender)` = `auth_check` accepts the sender's plain invite (no
`third_party_invite`) of a user `target` who is neither joined nor banned. -/
theorem userCanInvite_iff_auth (rules : AuthRules) (f : Fetch) (ev : Event) (p : Levels) (target : Str)
    (hdom : domInvite rules f ev = true) (hp : roomLevels f = some p)
    (ht : memberTarget ev mInvite = some target) :
    p.userCanInvite ev.sender = authCheck rules ev f := by
  simp only [domInvite, ht, Bool.and_eq_true] at hdom
  obtain ⟨hs, htpi, hm⟩ := hdom
  cases htm : membershipOf f target with
  | none => simp [htm] at hm
  | some tm =>
    rw [htm] at hm
    have htpi' : contentThirdPartyInvite ev.content = .ok none := by
      split at htpi
      · assumption
      · cases htpi
    rw [authCheck_invite hs hp ht htpi' htm, Bool.not_or, show (!(tm == mJoin) && !(tm == mBan)) = true from hm,
      Bool.true_and]

/-! ## Part 3 — sending events -/

/-- **Message-like events.** `user_can_send_message(sender, type)` = `auth_check` accepts the
sender's event of that type without a state key — for every type string except the state event
types that have an authorization rule of their own (`msgOwnRule`: `m.room.create`,
`m.room.member`, `m.room.power_levels`, `m.room.third_party_invite` — state-only types, none of
them a message-like event type — and, while the room version special-cases them,
`m.room.aliases` (room versions 1–5; also a state-only type) and `m.room.redaction` (room versions
1–2). `m.room.redaction` IS a message-like event type (`MessageLikeEventType::RoomRedaction`): in
room versions 1–2 this theorem does not cover it; there the redaction rule decides, see
`userCanRedactOwn_iff_auth` / `userCanRedact_iff_auth_v1`. -/
theorem userCanSendMessage_iff_auth (rules : AuthRules) (f : Fetch) (ev : Event) (p : Levels)
    (hdom : domMsg rules f ev = true) (hp : roomLevels f = some p) :
    p.userCanSendMessage ev.sender ev.type = authCheck rules ev f := by
  simp only [domMsg, Bool.and_eq_true, Bool.not_eq_true', Option.isNone_iff_eq_none] at hdom
  obtain ⟨⟨hs, hsk⟩, hown⟩ := hdom
  rw [authCheck_levelOnly hs hp hown (foreignUserStateKey_none hsk), hsk]
  rfl

/-- The FULL statement about `user_can_send_state`: every state event type other than create, member
and power_levels (and redaction while special-cased), with a state key that is not another user's
id. It is FALSE of the code (`userCanSendStateStatement_false`); the proved part is
`userCanSendState_iff_auth_partial`. -/
def UserCanSendStateStatement : Prop :=
  ∀ (rules : AuthRules) (f : Fetch) (ev : Event) (p : Levels),
    domState rules f ev = true → roomLevels f = some p →
    p.userCanSendState ev.sender ev.type = authCheck rules ev f

/-- **State events (partial).** `user_can_send_state(sender, type)` = `auth_check` accepts the
sender's state event of that type (state key not another user's id) — for every type except the two
that have an authorization rule of their own which ignores `events` / `state_default`
(`stateOwnRule`): `m.room.third_party_invite` (the rules use the invite level, see
`thirdPartyInvite_auth_is_invite_level`) and `m.room.aliases` in room versions 1–5 (the rules look at
no level). Missing for the full statement: exactly these two, and for them it is false. -/
theorem userCanSendState_iff_auth_partial (rules : AuthRules) (f : Fetch) (ev : Event) (p : Levels)
    (hdom : domState rules f ev = true) (hp : roomLevels f = some p)
    (hown : stateOwnRule rules ev.type = false) :
    p.userCanSendState ev.sender ev.type = authCheck rules ev f := by
  simp only [domState, Bool.and_eq_true, Bool.not_eq_true'] at hdom
  obtain ⟨⟨⟨hs, hsk⟩, hfk⟩, hout⟩ := hdom
  have hmsg : msgOwnRule rules ev.type = false := by
    simp only [stateOutside, stateOwnRule, Bool.or_eq_false_iff] at hout hown
    simp only [msgOwnRule, hout, hown, Bool.or_self]
  rw [authCheck_levelOnly hs hp hmsg hfk, if_pos hsk]
  rfl

/-- **Third-party invites are governed by the invite level.** `auth_check` accepts the sender's
`m.room.third_party_invite` event iff `user_can_invite(sender)` — not iff
`user_can_send_state(sender, RoomThirdPartyInvite)`. -/
theorem thirdPartyInvite_auth_is_invite_level (rules : AuthRules) (f : Fetch) (ev : Event) (p : Levels)
    (hdom : domTpi rules f ev = true) (hp : roomLevels f = some p) :
    p.userCanInvite ev.sender = authCheck rules ev f := by
  simp only [domTpi, Bool.and_eq_true, beq_iff_eq] at hdom
  exact (authCheck_thirdPartyInvite hdom.1 hp hdom.2).symm

/-- **Redacting (own kind).** `user_can_redact_own_event(sender)` = `auth_check` accepts the sender's
`m.room.redaction` event: any redaction from room version 3 on, a redaction of an event of the
sender's own server in room versions 1–2. -/
theorem userCanRedactOwn_iff_auth (rules : AuthRules) (f : Fetch) (ev : Event) (p : Levels)
    (hdom : domRedactOwn rules f ev = true) (hp : roomLevels f = some p) :
    p.userCanRedactOwnEvent ev.sender = authCheck rules ev f := by
  simp only [domRedactOwn, Bool.and_eq_true, beq_iff_eq, Option.isNone_iff_eq_none] at hdom
  obtain ⟨⟨⟨hs, hty⟩, hsk⟩, hcase⟩ := hdom
  rw [authCheck_redaction hs hp hty hsk, hcase, Bool.true_or, Bool.and_true]

/-- **Redacting another server's event, room versions 1–2.** `user_can_redact_event_of_other(sender)` =
`auth_check` accepts the sender's redaction of an event from another server. -/
theorem userCanRedact_iff_auth_v1 (rules : AuthRules) (f : Fetch) (ev : Event) (p : Levels)
    (hdom : domRedactOther rules f ev = true) (hp : roomLevels f = some p) :
    p.userCanRedactEventOfOther ev.sender = authCheck rules ev f := by
  simp only [domRedactOther, Bool.and_eq_true, beq_iff_eq, Option.isNone_iff_eq_none,
    Bool.not_eq_true'] at hdom
  obtain ⟨⟨⟨⟨hs, hty⟩, hsk⟩, hsp⟩, hdiff⟩ := hdom
  rw [authCheck_redaction hs hp hty hsk, hsp, hdiff]
  rfl

/-! ## Part 4 — power-levels events and notifications -/

/-- **Sending `m.room.power_levels`.** `user_can_send_state(sender, RoomPowerLevels)` = `auth_check`
accepts the sender's power-levels event that re-sends the current content unchanged (the minimal
such event: every further requirement of the rules is about what the event changes). -/
theorem userCanSendState_powerLevels_iff_auth (rules : AuthRules) (f : Fetch) (ev : Event) (p : Levels)
    (hdom : domPl rules f ev = true) (hp : roomLevels f = some p) :
    p.userCanSendState ev.sender tPowerLevels = authCheck rules ev f := by
  simp only [domPl, Bool.and_eq_true, beq_iff_eq] at hdom
  obtain ⟨⟨⟨hs, hty⟩, hsk⟩, hcont⟩ := hdom
  obtain ⟨pl, hplc, hwf, -, h⟩ := authCheck_powerLevels hs hp hty hsk
  simp only [hplc] at hcont
  rw [h, checkRoomPowerLevels_same (JVal.obj.inj (jval_eq_of_beq _ _ hcont)).symm hwf]
  exact (Bool.and_true _).symm

/-- **Changing one user's level.** `user_can_change_user_power_level(sender, target)` = `auth_check`
accepts the sender's power-levels event whose content is the current content with the canonical
change of `target`'s level (`canonicalChange`: an existing `users` entry removed — the change that
needs the least power; a missing one added at the sender's own level) and nothing else. Includes
target = sender. -/
theorem userCanChangeUserPowerLevel_iff_auth (rules : AuthRules) (f : Fetch) (ev : Event) (p : Levels)
    (target : Str) (hdom : domChpl rules f ev target = true) (hp : roomLevels f = some p) :
    p.userCanChangeUserPowerLevel ev.sender target = authCheck rules ev f := by
  simp only [domChpl, Bool.and_eq_true, beq_iff_eq] at hdom
  obtain ⟨⟨⟨⟨hs, hty⟩, hsk⟩, hv⟩, hcont⟩ := hdom
  obtain ⟨pl, hplc, hwf, hof, h⟩ := authCheck_powerLevels hs hp hty hsk
  simp only [hplc, hp] at hcont
  have hcc : canonicalChange pl.content target (p.forUser ev.sender) = some ev.content := by
    cases hc : canonicalChange pl.content target (p.forUser ev.sender) with
    | none => rw [hc] at hcont; cases hcont
    | some c' => rw [hc] at hcont; rw [JVal.obj.inj (jval_eq_of_beq _ _ hcont)]
  rw [h, checkRoomPowerLevels_canonical hwf hof hv hcc, okB_require]
  unfold Levels.userCanChangeUserPowerLevel
  cases p.userCanSendState ev.sender tPowerLevels <;> cases ev.sender == target <;> rfl

/-- **`@room` notifications.** `user_can_trigger_room_notification(u)` = the push condition
`sender_notification_permission` with key `room` (C12 model, `PushCondition::applies`) for an event
sent by `u`, in a room context whose power levels are `From<RoomPowerLevels>` of the same levels —
for every interpretation `E` of the external functions under which `u` is a user id, and every
encoding of user ids as text that does not identify `u` with another key of `users`. -/
theorem notification_iff_push_condition (E : Push.Ext) (enc : Str → Push.Text) (p : Levels) (u : Str)
    (ev : Push.FMap) (ctx : Push.Ctx)
    (henc : ∀ k ∈ p.users.map (·.1), enc k = enc u → k = u)
    (hsender : ev.getStr Push.kSender = some (enc u)) (hid : E.isUserId (enc u) = true)
    (hctx : ctx.powerLevels = some (toPushCtx enc p)) :
    p.userCanTriggerRoomNotification u = Push.senderMayNotify E ev ctx Push.kRoom ∧
    (Push.selfSent ev ctx = false →
      Push.Cond.applies E (.senderNotificationPermission Push.kRoom) ev ctx =
        .ok (p.userCanTriggerRoomNotification u)) := by
  have h : p.userCanTriggerRoomNotification u = Push.senderMayNotify E ev ctx Push.kRoom := by
    simp only [Push.senderMayNotify, hctx, hsender, hid, Bool.not_true, Bool.false_eq_true, if_false,
      Push.notificationsGet, if_true, userLevel_toPushCtx enc p u henc, Levels.userCanTriggerRoomNotification]
    rfl
  refine ⟨h, fun hself => ?_⟩
  simp only [Push.Cond.applies, hself, Bool.false_eq_true, if_false, h]

/-! ## Concrete rooms: the hypotheses are satisfiable, and the refutation witnesses -/

namespace Ex

def alice : Str := bs "@alice:s1"
def bob : Str := bs "@bob:s1"
def creator : Str := bs "@creator:s1"

def mk (id : String) (sender ty : Str) (sk : Option Str) (content : Obj) : Event :=
  { eventId := bs id, roomId := bs "!room:s1", sender, type := ty, stateKey := sk, content,
    prevEvents := [bs "$prev"], authEvents := [bs "$create"] }

def createEv : Event :=
  { mk "$create" creator tCreate (some []) [(bs "creator", .str creator), (bs "room_version", .str (bs "9"))] with
    prevEvents := [], authEvents := [] }

def joinOf (id : String) (u : Str) : Event :=
  mk id u tMember (some u) [(bs "membership", .str mJoin)]

/-- A room: create event, power-levels event with content `pl`, creator and alice joined, plus `more`. -/
def room (pl : Obj) (more : List Event) : Fetch :=
  let st := [createEv, mk "$pl" creator tPowerLevels (some []) pl, joinOf "$m0" creator, joinOf "$m1" alice] ++ more
  fun t k => st.find? (fun e => e.type == t && e.stateKey == some k)

/-- `{"ban": "60", "kick": 40, "users": {"@alice:s1": 60, "@bob:s1": 10}, "events": {"m.room.topic": 60}}`
(a string level: readable before room version 10). -/
def pl1 : Obj :=
  [(bs "ban", .str (bs "60")), (bs "events", .obj [(bs "m.room.topic", .int 60)]), (bs "kick", .int 40),
   (bs "users", .obj [(alice, .int 60), (bob, .int 10)])]

def memberEv (target membership : Str) : Event :=
  mk "$ev" alice tMember (some target) [(bs "membership", .str membership)]

end Ex

open Ex in
/-- The closed facts of this file about concrete rooms, evaluated by the kernel in one declaration: the
kernel decodes every string literal of the model (`bs "…"`) anew in each declaration it checks, and that
decoding is most of the work. The examples and the two witnesses below are its components. -/
theorem concrete_rooms :
    (domBan AuthRules.v8 (room pl1 [joinOf "$m2" bob]) (memberEv bob mBan) = true ∧
     domKick AuthRules.v8 (room pl1 [joinOf "$m2" bob]) (memberEv bob mLeave) = true ∧
     domUnban AuthRules.v8 (room pl1 [mk "$m2" alice tMember (some bob) [(bs "membership", .str mBan)]])
       (memberEv bob mLeave) = true ∧
     domInvite AuthRules.v8 (room pl1 []) (memberEv bob mInvite) = true ∧
     (roomLevels (room pl1 [])).map (fun p => p.userCanBanUser alice bob) = some true) ∧
    (domMsg AuthRules.v8 (room pl1 []) (mk "$ev" alice (bs "m.room.message") none []) = true ∧
     domState AuthRules.v8 (room pl1 []) (mk "$ev" alice (bs "m.room.topic") (some []) []) = true ∧
     stateOwnRule AuthRules.v8 (bs "m.room.topic") = false ∧
     domTpi AuthRules.v8 (room pl1 []) (mk "$ev" alice tThirdPartyInvite (some (bs "tok")) []) = true ∧
     domRedactOwn AuthRules.v8 (room pl1 []) (mk "$ev" alice tRedaction none []) = true ∧
     domRedactOwn AuthRules.v1 (room pl1 [])
       { mk "$ev:s1" alice tRedaction none [] with redacts := some (bs "$x:s1") } = true ∧
     domRedactOther AuthRules.v1 (room pl1 [])
       { mk "$ev:s1" alice tRedaction none [] with redacts := some (bs "$x:s2") } = true) ∧
    (domPl AuthRules.v8 (room pl1 []) (mk "$ev" alice tPowerLevels (some []) pl1) = true ∧
     domChpl AuthRules.v8 (room pl1 []) (mk "$ev" alice tPowerLevels (some [])
       [(bs "ban", .str (bs "60")), (bs "events", .obj [(bs "m.room.topic", .int 60)]), (bs "kick", .int 40),
        (bs "users", .obj [(alice, .int 60)])]) bob = true ∧
     domChpl AuthRules.v8 (room pl1 []) (mk "$ev" alice tPowerLevels (some [])
       [(bs "ban", .str (bs "60")), (bs "events", .obj [(bs "m.room.topic", .int 60)]), (bs "kick", .int 40),
        (bs "users", .obj [(alice, .int 60), (bob, .int 10), (bs "@carol:s2", .int 60)])]) (bs "@carol:s2") = true) ∧
    (let f := room [] []
     let ev := mk "$ev" alice tThirdPartyInvite (some (bs "tok")) []
     domState AuthRules.v11 f ev = true ∧
     (roomLevels f).map (fun p => p.userCanSendState ev.sender ev.type) = some false ∧
     authCheck AuthRules.v11 ev f = true) ∧
    (let f := room [] []
     let ev := mk "$ev" alice tAliases (some (bs "s1")) []
     domState AuthRules.v3 f ev = true ∧
     (roomLevels f).map (fun p => p.userCanSendState ev.sender ev.type) = some false ∧
     authCheck AuthRules.v3 ev f = true) ∧
    (let c : Obj := [(bs "ban", .int 40), (bs "invite", .int 60),
                     (bs "notifications", .obj [(bs "room", .int 70)]), (bs "users_default", .int 5)]
     ((ofRedactedContent (redactedPL (Spec.Redaction.rulesOf 10) c)).map
         (fun l => (l.ban, l.invite, l.notificationsRoom, l.usersDefault)) = some (40, 0, 50, 5))
     ∧ ((ofRedactedContent (redactedPL (Spec.Redaction.rulesOf 11) c)).map
         (fun l => (l.ban, l.invite, l.notificationsRoom, l.usersDefault)) = some (40, 60, 50, 5))
     ∧ ((ofContent c).map (fun l => (l.invite, l.notificationsRoom)) = some (60, 70))) := by
  decide +kernel

open Ex in
/-- The hypotheses of the membership theorems hold on concrete rooms (room version 9 rules; bob
joined / banned / absent), and the helper says yes. -/
example :
    domBan AuthRules.v8 (room pl1 [joinOf "$m2" bob]) (memberEv bob mBan) = true ∧
    domKick AuthRules.v8 (room pl1 [joinOf "$m2" bob]) (memberEv bob mLeave) = true ∧
    domUnban AuthRules.v8 (room pl1 [mk "$m2" alice tMember (some bob) [(bs "membership", .str mBan)]])
      (memberEv bob mLeave) = true ∧
    domInvite AuthRules.v8 (room pl1 []) (memberEv bob mInvite) = true ∧
    (roomLevels (room pl1 [])).map (fun p => p.userCanBanUser alice bob) = some true :=
  concrete_rooms.1

open Ex in
/-- The hypotheses of the sending theorems hold on concrete events (a message, a topic change, a
third-party invite, a redaction under the rules of room version 9 and — same server / other server
— of room version 1). -/
example :
    domMsg AuthRules.v8 (room pl1 []) (mk "$ev" alice (bs "m.room.message") none []) = true ∧
    domState AuthRules.v8 (room pl1 []) (mk "$ev" alice (bs "m.room.topic") (some []) []) = true ∧
    stateOwnRule AuthRules.v8 (bs "m.room.topic") = false ∧
    domTpi AuthRules.v8 (room pl1 []) (mk "$ev" alice tThirdPartyInvite (some (bs "tok")) []) = true ∧
    domRedactOwn AuthRules.v8 (room pl1 []) (mk "$ev" alice tRedaction none []) = true ∧
    domRedactOwn AuthRules.v1 (room pl1 [])
      { mk "$ev:s1" alice tRedaction none [] with redacts := some (bs "$x:s1") } = true ∧
    domRedactOther AuthRules.v1 (room pl1 [])
      { mk "$ev:s1" alice tRedaction none [] with redacts := some (bs "$x:s2") } = true :=
  concrete_rooms.2.1

open Ex in
/-- The hypotheses of the power-levels theorems hold on concrete events: the unchanged content; bob's
entry removed; carol (no entry) added at alice's level 60. -/
example :
    domPl AuthRules.v8 (room pl1 []) (mk "$ev" alice tPowerLevels (some []) pl1) = true ∧
    domChpl AuthRules.v8 (room pl1 []) (mk "$ev" alice tPowerLevels (some [])
      [(bs "ban", .str (bs "60")), (bs "events", .obj [(bs "m.room.topic", .int 60)]), (bs "kick", .int 40),
       (bs "users", .obj [(alice, .int 60)])]) bob = true ∧
    domChpl AuthRules.v8 (room pl1 []) (mk "$ev" alice tPowerLevels (some [])
      [(bs "ban", .str (bs "60")), (bs "events", .obj [(bs "m.room.topic", .int 60)]), (bs "kick", .int 40),
       (bs "users", .obj [(alice, .int 60), (bob, .int 10), (bs "@carol:s2", .int 60)])]) (bs "@carol:s2") = true :=
  concrete_rooms.2.2.1

/-! ### The full statement about `user_can_send_state` is false: two witnesses -/

open Ex in
/-- **Witness 1 (third-party invite).** Room version 11, default power levels (content `{}`: state
default 50, invite level 0), alice a joined member at level 0: `auth_check` accepts her
`m.room.third_party_invite` event (invite level), `user_can_send_state(alice, RoomThirdPartyInvite)`
says no. Replayed against the real code from `corpus/C20/known-tpi.req` on every run. -/
theorem sendState_thirdPartyInvite_witness :
    let f := room [] []
    let ev := mk "$ev" alice tThirdPartyInvite (some (bs "tok")) []
    domState AuthRules.v11 f ev = true ∧
    (roomLevels f).map (fun p => p.userCanSendState ev.sender ev.type) = some false ∧
    authCheck AuthRules.v11 ev f = true :=
  concrete_rooms.2.2.2.1

open Ex in
/-- **Witness 2 (aliases, room versions 1–5).** Room version 3, default power levels, alice a joined
member at level 0: `auth_check` accepts her `m.room.aliases` event with her server name as state key
without looking at any level, `user_can_send_state(alice, RoomAliases)` says no (state default 50).
Replayed from `corpus/C20/known-aliases.req`. -/
theorem sendState_aliases_witness :
    let f := room [] []
    let ev := mk "$ev" alice tAliases (some (bs "s1")) []
    domState AuthRules.v3 f ev = true ∧
    (roomLevels f).map (fun p => p.userCanSendState ev.sender ev.type) = some false ∧
    authCheck AuthRules.v3 ev f = true :=
  concrete_rooms.2.2.2.2.1

/-- The full statement is false (by witness 1). -/
theorem userCanSendStateStatement_false : ¬ UserCanSendStateStatement := by
  intro h
  obtain ⟨hd, hp, ha⟩ := sendState_thirdPartyInvite_witness
  cases hr : roomLevels (Ex.room [] []) with
  | none => simp [hr] at hp
  | some p =>
    have := h AuthRules.v11 _ _ p hd hr
    simp only [hr, Option.map_some, Option.some.injEq] at hp
    rw [hp, ha] at this
    exact absurd this (by decide)

/-! ## Part 5 — a room whose power-levels event has been redacted

A client reaches `RoomPowerLevels` from a redacted power-levels event through
`RedactedRoomPowerLevelsEventContent` (`From<…> for RoomPowerLevels`), or by redacting the typed
content itself (`RedactContent::redact`). The authorization rules read the redacted JSON. All
`_iff_auth` theorems above are stated for every content, hence also for a redacted one read as an
ordinary content; the theorems here show that the two other routes give exactly those levels, for
every redaction rule set (every room version) and every original content. -/

/-- `redact_content_in_place(_, rules, "m.room.power_levels")` cannot fail and keeps exactly the entries
whose key the rules retain (the eight level fields, and `invite` iff
`keep_room_power_levels_invite`); in particular it never keeps `notifications`. -/
theorem redact_powerLevels_content (r : Redact.Rules) (c : Obj) :
    Redact.redactContent r (bs "m.room.power_levels") c = .ok (redactedPL r c)
    ∧ Obj.get (redactedPL r c) (bs "notifications") = none := by
  refine ⟨redactContent_powerLevels r c, ?_⟩
  rw [get_redactedPL, pk_notifications]
  rfl

/-- **The redacted event gives the helper the levels the rules read.** For every redaction rule set
and every content: the redacted JSON read as `RedactedRoomPowerLevelsEventContent` and read as an
ordinary `RoomPowerLevelsEventContent` (the route every `_iff_auth` theorem speaks about) give the same
`RoomPowerLevels`, and fail together. -/
theorem redacted_event_levels_eq (r : Redact.Rules) (c : Obj) :
    ofRedactedContentR (redactedPL r c) = ofContentR (redactedPL r c) :=
  ofRedactedContentR_eq_of_no_notifications _ (redact_powerLevels_content r c).2

/-- Hence in a room whose current power-levels event is the redacted form of any content, what a
client gets from the redacted event is `roomLevels f`, the levels of all theorems of parts 1–4. -/
theorem roomLevels_of_redacted_event (r : Redact.Rules) (f : Fetch) (c : Obj)
    (h : plContent f = some (redactedPL r c)) :
    roomLevels f = ofRedactedContent (redactedPL r c) := by
  simp only [roomLevels, h, Option.bind_some, ofContent, ofRedactedContent, redacted_event_levels_eq]

/-- **Typed redaction agrees with the redaction algorithm.** If the original content deserializes to
levels `l`, the redacted JSON deserializes (by either type) to `RedactContent::redact` of `l`: `invite`
kept iff the rules keep it (room version 11 on), else 0; `notifications` back to its default; every
other level untouched. -/
theorem redacted_event_levels_typed (r : Redact.Rules) (c : Obj) (l : Levels)
    (h : ofContentR c = .ok l) :
    ofRedactedContentR (redactedPL r c) = .ok (redactLevels r.keepPowerLevelsInvite l) := by
  rw [redacted_event_levels_eq]; exact ofContentR_redactedPL r c l h

/-- Non-vacuity, and the version split the statement rests on: the same content (invite 60,
notifications.room 70) redacted under the rules of room version 10 loses `invite`, under those of
version 11 keeps it; `notifications` is gone in both. -/
example :
    let c : Obj := [(bs "ban", .int 40), (bs "invite", .int 60),
                    (bs "notifications", .obj [(bs "room", .int 70)]), (bs "users_default", .int 5)]
    ((ofRedactedContent (redactedPL (Spec.Redaction.rulesOf 10) c)).map
        (fun l => (l.ban, l.invite, l.notificationsRoom, l.usersDefault)) = some (40, 0, 50, 5))
    ∧ ((ofRedactedContent (redactedPL (Spec.Redaction.rulesOf 11) c)).map
        (fun l => (l.ban, l.invite, l.notificationsRoom, l.usersDefault)) = some (40, 60, 50, 5))
    ∧ ((ofContent c).map (fun l => (l.invite, l.notificationsRoom)) = some (60, 70)) :=
  concrete_rooms.2.2.2.2.2

/-! ## `notification_iff_push_condition`: the hypotheses are satisfiable -/

namespace Ex
/-- User ids as text: the code points of the bytes (ASCII ids here). -/
def enc : Str → Push.Text := fun s => s.map Char.ofNat

/-- alice 60, bob 10, everyone else 0; `notifications.room` 50. -/
def plN : Levels :=
  { ban := 50, events := [], eventsDefault := 0, invite := 0, kick := 50, redact := 50,
    stateDefault := 50, users := [(alice, 60), (bob, 10)], usersDefault := 0, notificationsRoom := 50 }

/-- External functions under which every text is a user id (the matchers are not used here). -/
def extN : Push.Ext :=
  { lower := id, wild := fun _ _ => false, rxMatch := fun _ _ => false, isUserId := fun _ => true }

/-- A flattened event sent by `u`. -/
def evOf (u : Str) : Push.FMap := [(Push.kSender, .str (enc u))]

/-- The room context of a third user (so that neither event is the user's own). -/
def ctxN : Push.Ctx :=
  { roomId := "!room:s1".toList, memberCount := 3, userId := enc creator, displayName := [],
    powerLevels := some (toPushCtx enc plN) }
end Ex

open Ex in
/-- The hypotheses of `notification_iff_push_condition` hold on a concrete room (for alice and for
bob), neither event is the context user's own, and the two sides are computed: alice (60 ≥ 50) may
notify the room, bob (10) may not. -/
example :
    (∀ u ∈ [alice, bob],
      (∀ k ∈ plN.users.map (·.1), enc k = enc u → k = u) ∧
      (evOf u).getStr Push.kSender = some (enc u) ∧ extN.isUserId (enc u) = true ∧
      ctxN.powerLevels = some (toPushCtx enc plN) ∧ Push.selfSent (evOf u) ctxN = false) ∧
    plN.userCanTriggerRoomNotification alice = true ∧
    Push.Cond.applies extN (.senderNotificationPermission Push.kRoom) (evOf alice) ctxN = .ok true ∧
    plN.userCanTriggerRoomNotification bob = false ∧
    Push.Cond.applies extN (.senderNotificationPermission Push.kRoom) (evOf bob) ctxN = .ok false := by
  refine ⟨?_, by decide, rfl, by decide, rfl⟩
  intro u hu
  refine ⟨?_, ?_, rfl, rfl, ?_⟩ <;>
    (simp only [List.mem_cons, List.not_mem_nil, or_false] at hu; rcases hu with rfl | rfl <;> decide)

open Ex in
/-- … and the theorem applied to that room and alice's event. -/
example :
    plN.userCanTriggerRoomNotification alice = Push.senderMayNotify extN (evOf alice) ctxN Push.kRoom :=
  (notification_iff_push_condition extN enc plN alice (evOf alice) ctxN (by decide +kernel) rfl rfl rfl).1

/-! ## Axiom audit (one line per property theorem) -/

#print axioms helper_reads_what_rules_read
#print axioms forUser_eq_auth_power
#print axioms requiredLevels_eq_auth
#print axioms userCanDo_iff_level
#print axioms defaults_agree
#print axioms userCanBanUser_iff_auth
#print axioms userCanKickUser_iff_auth
#print axioms userCanUnbanUser_iff_auth
#print axioms userCanInvite_iff_auth
#print axioms userCanSendMessage_iff_auth
#print axioms userCanSendState_iff_auth_partial
#print axioms thirdPartyInvite_auth_is_invite_level
#print axioms userCanRedactOwn_iff_auth
#print axioms userCanRedact_iff_auth_v1
#print axioms userCanSendState_powerLevels_iff_auth
#print axioms userCanChangeUserPowerLevel_iff_auth
#print axioms notification_iff_push_condition
#print axioms sendState_thirdPartyInvite_witness
#print axioms sendState_aliases_witness
#print axioms userCanSendStateStatement_false
#print axioms redact_powerLevels_content
#print axioms redacted_event_levels_eq
#print axioms roomLevels_of_redacted_event
#print axioms redacted_event_levels_typed

end Ruma.Props.C20
